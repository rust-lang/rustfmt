import RF.Model.Lists
import RF.Lemmas.Shape
/-!
Lemmas about the model of `src/lists.rs` (`RF/Model/Lists.lean`).

`write_list`: every block of one iteration of the loop pushes some tokens (separator, item, rewritten
comment) with blanks among them (`Spaced`); `stepBody_shape`, `step_shape`, `loop_shape` string these
together into `TokensOK`, from which items (`tokens_items`), comments (`tokens_comments`), separators
(`tokens_seps`), content (`tokens_content`) and gaps (`tokens_gap`, `exists_gaps`) are read off; the
embedding oracles follow (`Embeds`).  `definitive_tactic`: its value as nested conditions
(`definitiveTactic_eq`) and what it reads of an item.  Last, the exact text and width of a comment-free
list written horizontally.  Facts about `squeeze`, `trim` and `str_width` stand where they are first needed.
-/
namespace RF.Lemmas.Lists
open RF.Lists RF.Shape

variable {f : ListFormatting} {rc : Rc} {sp : SeparatorPlace} {e : IterEnv}

/-- Two lists related element by element (core has no `Forall₂`). -/
inductive Forall2 {α β : Type} (R : α → β → Prop) : List α → List β → Prop where
  | nil : Forall2 R [] []
  | cons {a : α} {b : β} {as : List α} {bs : List β} : R a b → Forall2 R as bs → Forall2 R (a :: as) (b :: bs)

theorem Forall2.append {α β : Type} {R : α → β → Prop} {a1 a2 : List α} {b1 b2 : List β}
    (h1 : Forall2 R a1 b1) (h2 : Forall2 R a2 b2) : Forall2 R (a1 ++ a2) (b1 ++ b2) := by
  induction h1 with
  | nil => exact h2
  | cons h _ ih => exact .cons h ih

theorem Forall2.map_eq {α β γ : Type} {R : α → β → Prop} {f : α → γ} {g : β → γ} {as : List α} {bs : List β}
    (h : Forall2 R as bs) (hR : ∀ a b, R a b → f a = g b) : as.map f = bs.map g := by
  induction h with
  | nil => rfl
  | cons hab _ ih => rw [List.map_cons, List.map_cons, hR _ _ hab, ih]

theorem Forall2.refl {α : Type} {R : α → α → Prop} (h : ∀ a, R a a) : ∀ l : List α, Forall2 R l l
  | [] => .nil
  | a :: l => .cons (h a) (Forall2.refl h l)

def nonBlank (ps : List Piece) : List Piece := ps.filter (fun p => p.kind != .blank)

def AllBlank (ps : List Piece) : Prop := ∀ p ∈ ps, p.kind = .blank

@[simp] theorem nonBlank_nil : nonBlank [] = [] := rfl

@[simp] theorem nonBlank_append (a b : List Piece) : nonBlank (a ++ b) = nonBlank a ++ nonBlank b :=
  List.filter_append ..

theorem nonBlank_of_allBlank {ps : List Piece} (h : AllBlank ps) : nonBlank ps = [] :=
  List.filter_eq_nil_iff.mpr fun p hp => by simp [h p hp]

@[simp] theorem allBlank_nil : AllBlank [] := nofun

theorem allBlank_append {a b : List Piece} (ha : AllBlank a) (hb : AllBlank b) : AllBlank (a ++ b) := by
  intro p hp
  rcases List.mem_append.mp hp with h | h
  · exact ha p h
  · exact hb p h

@[simp] theorem render_nil : render [] = [] := rfl
@[simp] theorem render_append (a b : List Piece) : render (a ++ b) = render a ++ render b :=
  List.flatMap_append
@[simp] theorem render_cons (p : Piece) (ps : List Piece) : render (p :: ps) = p.text ++ render ps :=
  List.flatMap_cons

/-- Every blank piece consists of spaces, newlines and characters of the indentation string. -/
def BlanksOK (ind : List Char) (ps : List Piece) : Prop :=
  ∀ p ∈ ps, p.kind = .blank → ∀ c ∈ p.text, c = ' ' ∨ c = '\n' ∨ c ∈ ind

@[simp] theorem blanksOK_nil (ind : List Char) : BlanksOK ind [] := nofun

theorem blanksOK_append {ind : List Char} {a b : List Piece} (ha : BlanksOK ind a) (hb : BlanksOK ind b) :
    BlanksOK ind (a ++ b) := by
  intro p hp
  rcases List.mem_append.mp hp with h | h
  · exact ha p h
  · exact hb p h

theorem blanksOK_cons {ind : List Char} {p : Piece} (ps : List Piece)
    (hp : p.kind = .blank → ∀ c ∈ p.text, c = ' ' ∨ c = '\n' ∨ c ∈ ind) :
    BlanksOK ind (p :: ps) ↔ BlanksOK ind ps :=
  List.forall_mem_cons.trans (and_iff_right hp)

@[simp] theorem blanksOK_space (ind : List Char) (ps : List Piece) :
    BlanksOK ind (bl [' '] :: ps) ↔ BlanksOK ind ps := blanksOK_cons ps (by simp)

@[simp] theorem blanksOK_newline (ind : List Char) (ps : List Piece) :
    BlanksOK ind (bl ['\n'] :: ps) ↔ BlanksOK ind ps := blanksOK_cons ps (by simp)

@[simp] theorem blanksOK_indent (ind : List Char) (ps : List Piece) :
    BlanksOK ind (bl ind :: ps) ↔ BlanksOK ind ps := blanksOK_cons ps fun _ _ hc => .inr (.inr hc)

@[simp] theorem blanksOK_spaces (ind : List Char) (n : Nat) (ps : List Piece) :
    BlanksOK ind (bl (List.replicate n ' ') :: ps) ↔ BlanksOK ind ps :=
  blanksOK_cons ps fun _ _ hc => .inl (List.eq_of_mem_replicate hc)

@[simp] theorem blanksOK_nonblank (ind : List Char) (k : PieceKind) (t : List Char) (ps : List Piece)
    (hk : k ≠ .blank) : BlanksOK ind (⟨k, t⟩ :: ps) ↔ BlanksOK ind ps :=
  blanksOK_cons ps fun hk' => absurd hk' hk

/-- `ps` is the non-blank pieces `ts` with blanks (spaces, newlines, indentation) among them. -/
def Spaced (ind : List Char) (ps ts : List Piece) : Prop := BlanksOK ind ps ∧ nonBlank ps = ts

theorem Spaced.nil (ind : List Char) : Spaced ind [] [] := ⟨blanksOK_nil ind, rfl⟩

theorem Spaced.append {ind : List Char} {a b s t : List Piece} (h1 : Spaced ind a s) (h2 : Spaced ind b t) :
    Spaced ind (a ++ b) (s ++ t) :=
  ⟨blanksOK_append h1.1 h2.1, by rw [nonBlank_append, h1.2, h2.2]⟩

/-- The blank in front of the item, the value of `separate` after the tactic block (only Mixed changes
it, for the last item of a list that ends with a newline) and `trailing_separator` (unchanged, or set in
a Mixed list that ends with a newline). -/
theorem tacticBlank_spec (f : ListFormatting) (e : IterEnv) (item : ListItem) (rendered : List Char)
    (separate ts pp pn : Bool) (ll : Nat) :
    Spaced e.indentStr (tacticBlank f e item rendered separate ts pp pn ll).1 [] ∧
    (tacticBlank f e item rendered separate ts pp pn ll).2.1 =
      (if f.tactic = .mixed ∧ e.last = true ∧ f.endsWithNewline = true then f.trailingSeparator != .never
       else separate) ∧
    ((tacticBlank f e item rendered separate ts pp pn ll).2.2.1 = ts ∨
      (f.tactic = .mixed ∧ f.endsWithNewline = true)) := by
  fun_cases tacticBlank f e item rendered separate ts pp pn ll
  -- `case9` is the Mixed arm, the only one that changes `separate` and `trailing_separator`
  case case9 ht _ ps _ ts' hx sep' =>
    simp only [sep', ht, true_and, Bool.and_eq_true]
    split at hx
    · cases hx
      cases f.endsWithNewline <;> simp [Spaced, nonBlank]
    · split at hx <;> cases hx <;> simp [Spaced, nonBlank]
  all_goals simp [*, Spaced, nonBlank]

/-- The piece a pre-comment becomes: the comment as some call of the rewriter returned it. -/
def PreOK (rc : Rc) (item : ListItem) (ps : List Piece) : Prop :=
  match item.preComment with
  | none => ps = []
  | some c => ∃ r bs sh, rc c bs sh = some r ∧ ps = [⟨.pre, r⟩]

/-- The piece a post-comment becomes (the rewriter is given the comment, or the comment without its
leading white space). -/
def PostOK (rc : Rc) (item : ListItem) (ps : List Piece) : Prop :=
  match item.postComment with
  | none => ps = []
  | some c => ∃ r bs sh, (rc c bs sh = some r ∨ rc (trimStart c) bs sh = some r) ∧ ps = [⟨.post, r⟩]

theorem preCommentPieces_shape {item : ListItem} {ll : Nat}
    {ps : List Piece} {ll' : Nat} {reset : Bool}
    (h : preCommentPieces f rc e item ll = some (ps, ll', reset)) :
    ∃ pre, PreOK rc item pre ∧ Spaced e.indentStr ps pre := by
  revert h
  unfold PreOK
  fun_cases preCommentPieces f rc e item ll
  case case1 hc => intro h; cases h; exact ⟨[], by simp only [hc], .nil _⟩
  case case2 => nofun
  all_goals
    intro h
    cases h
    simp only [*]
    exact ⟨_, ⟨_, _, _, ‹_›, rfl⟩, by simp [Spaced, nonBlank]⟩

theorem itemPieces_shape (f : ListFormatting) (e : IterEnv) (separate : Bool) :
    Spaced e.indentStr (itemPieces f e separate)
      ((if separate && e.sepPlace.isFront && !e.first then [⟨.sep, trim f.separator⟩] else []) ++
        [⟨.item, e.innerItem⟩]) := by
  unfold itemPieces
  split <;> simp [Spaced, nonBlank]

theorem horizontalPostPieces_shape {item : ListItem} {ps : List Piece}
    (ind : List Char) (h : horizontalPostPieces f rc item = some ps) :
    if f.tactic = .horizontal then ∃ post, PostOK rc item post ∧ Spaced ind ps post else ps = [] := by
  revert h
  unfold PostOK
  fun_cases horizontalPostPieces f rc item
  case case1 => nofun
  case case2 c hc ht r hr =>
    intro h
    cases h
    rw [if_pos ht]
    simp only [hc]
    exact ⟨_, ⟨r, _, _, .inl hr, rfl⟩, by simp [Spaced, nonBlank]⟩
  case case3 hne =>
    intro h
    cases h
    split
    · rename_i ht
      cases hc : item.postComment with
      | none => exact ⟨[], rfl, .nil _⟩
      | some c => exact absurd hc (hne c ht)
    · rfl

theorem backSepPieces_shape (f : ListFormatting) (e : IterEnv) (separate : Bool) :
    Spaced e.indentStr (backSepPieces f e separate)
      (if separate && e.sepPlace.isBack then [⟨.sep, f.separator⟩] else []) := by
  unfold backSepPieces
  split <;> simp [Spaced, nonBlank]

/-- Whatever the closure `rewrite_post_comment` returns is `rewrite_comment` applied to the comment
without its leading white space. -/
theorem rewritePostComment_snd (f : ListFormatting) (rc : Rc) (e : IterEnv) (its : List ListItem)
    (c : List Char) (oh : Nat) (imw : Option Nat) :
    ∃ bs sh, (rewritePostComment f rc e its c oh imw).2 = rc (trimStart c) bs sh :=
  ⟨_, _, rfl⟩

theorem alignPostComment_shape {its : List ListItem}
    {c : List Char} {oh : Nat} {rendered : List Char} {imw : Option Nat} {fc : List Char}
    {ps : List Piece} {imw' : Option Nat} {fc' : List Char}
    (h : alignPostComment f rc e its c oh rendered imw fc = some (ps, imw', fc')) :
    Spaced e.indentStr ps [] ∧ (fc' = fc ∨ ∃ bs sh, rc (trimStart c) bs sh = some fc') := by
  revert h
  fun_cases alignPostComment f rc e its c oh rendered imw fc
  case case1 => nofun
  case case2 _ _ _ imw2 fc2 hrw _ =>
    intro h
    cases h
    obtain ⟨bs, sh, hs⟩ := rewritePostComment_snd f rc e its c oh none
    rw [hrw] at hs
    exact ⟨by simp [Spaced, nonBlank], .inr ⟨bs, sh, hs.symm⟩⟩
  all_goals
    intro h
    cases h
    exact ⟨by simp [Spaced, nonBlank], .inl rfl⟩

theorem extraSpace_shape (f : ListFormatting) (e : IterEnv) (separate : Bool) (imw : Option Nat) :
    Spaced e.indentStr (extraSpace f e separate imw) [] := by
  unfold extraSpace
  split <;> simp [Spaced, nonBlank]

theorem verticalPostPieces_shape {item : ListItem}
    {its : List ListItem} {rendered : List Char} {separate : Bool} {imw : Option Nat}
    {ps : List Piece} {imw' : Option Nat}
    (h : verticalPostPieces f rc e item its rendered separate imw = some (ps, imw')) :
    if f.tactic = .horizontal then ps = [] else ∃ post, PostOK rc item post ∧ Spaced e.indentStr ps post := by
  revert h
  unfold PostOK
  fun_cases verticalPostPieces f rc e item its rendered separate imw
  case case1 => nofun
  case case2 => nofun
  case case3 c hc ht _ imw1 fc1 hrw _ ps2 imw2 fc2 hal _ _ =>
    intro h
    obtain ⟨rfl, -⟩ := Prod.mk.inj (Option.some.inj h)
    obtain ⟨bs, sh, hs⟩ := rewritePostComment_snd f rc e its c (lastLineWidth rendered + firstLineWidth (trim c)) imw
    rw [hrw] at hs
    obtain ⟨h1, hfc⟩ := alignPostComment_shape hal
    have hrc : ∃ bs sh, rc (trimStart c) bs sh = some fc2 := hfc.elim (fun e => e ▸ ⟨bs, sh, hs.symm⟩) id
    obtain ⟨bs', sh', h'⟩ := hrc
    rw [if_neg (by simpa using ht)]
    simp only [hc]
    refine ⟨_, ⟨fc2, bs', sh', .inr h', rfl⟩, ?_⟩
    simpa using (h1.append (extraSpace_shape f e separate imw2)).append
      (show Spaced e.indentStr [⟨.post, fc2⟩] [⟨.post, fc2⟩] by simp [Spaced, nonBlank])
  case case4 c hc ht _ imw1 fc1 hrw _ _ =>
    intro h
    obtain ⟨rfl, -⟩ := Prod.mk.inj (Option.some.inj h)
    obtain ⟨bs, sh, hs⟩ := rewritePostComment_snd f rc e its c (lastLineWidth rendered + firstLineWidth (trim c)) imw
    rw [hrw] at hs
    rw [if_neg (by simpa using ht)]
    simp only [hc]
    exact ⟨_, ⟨fc1, bs, sh, .inr hs.symm, rfl⟩, by simp [Spaced, nonBlank]⟩
  case case5 c hc ht =>
    intro h
    cases h
    rw [if_pos (by simpa using ht)]
  case case6 hc =>
    intro h
    cases h
    simp only [hc]
    split
    · trivial
    · exact ⟨[], rfl, .nil _⟩

theorem preserveNewlinePieces_shape (f : ListFormatting) (e : IterEnv) (item : ListItem) :
    Spaced e.indentStr (preserveNewlinePieces f e item) [] := by
  unfold preserveNewlinePieces
  split <;> simp [Spaced, nonBlank]

/-- Loop invariant: `trailing_separator` is still what `needs_trailing_separator` said, unless the
list is Mixed and ends with a newline (where the value is not read for the last item). -/
def TSInv (f : ListFormatting) (st : State) : Prop :=
  st.trailingSeparator = f.needsTrailingSeparator ∨ (f.tactic = .mixed ∧ f.endsWithNewline = true)

def sepFront (f : ListFormatting) (sp : SeparatorPlace) (i : Nat) (last : Bool) : List Piece :=
  if separateSpec f sp i last && sp.isFront && i != 0 then [⟨.sep, trim f.separator⟩] else []

def sepBack (f : ListFormatting) (sp : SeparatorPlace) (i : Nat) (last : Bool) : List Piece :=
  if separateSpec f sp i last && sp.isBack then [⟨.sep, f.separator⟩] else []

/-- The non-blank pieces one written item contributes. -/
def blockTokens (f : ListFormatting) (sp : SeparatorPlace) (i : Nat) (last : Bool) (inner : List Char)
    (pre post : List Piece) : List Piece :=
  pre ++ sepFront f sp i last ++ [⟨.item, inner⟩] ++
    (if f.tactic = .horizontal then post ++ sepBack f sp i last else sepBack f sp i last ++ post)

/-- Under the invariant the value of `separate` after the tactic block is `separateSpec`. -/
theorem separate_eq_spec {st : State} (hinv : TSInv f st) (sp : SeparatorPlace)
    (i : Nat) (last : Bool) :
    (if f.tactic = .mixed ∧ last = true ∧ f.endsWithNewline = true then f.trailingSeparator != .never
     else separate0 sp i last st.trailingSeparator) = separateSpec f sp i last := by
  unfold separateSpec separate0
  by_cases hm : f.tactic = .mixed ∧ last = true ∧ f.endsWithNewline = true
  · obtain ⟨h1, h2, h3⟩ := hm
    simp [h1, h2, h3]
  · have hm' : (f.tactic == DefinitiveListTactic.mixed && last && f.endsWithNewline) = false := by
      cases hl : last <;> cases he : f.endsWithNewline <;> simp_all
    simp only [hm, ↓reduceIte, hm', Bool.false_eq_true]
    cases sp with
    | front => simp [bne]
    | back =>
      rcases hinv with h | ⟨h1, h2⟩
      · simp only [h]
      · have : last = false := by
          cases hl : last
          · rfl
          · exact absurd ⟨h1, hl, h2⟩ hm
        simp [this]

theorem stepBody_shape {i : Nat}
    {item : ListItem} {rest : List ListItem} {st st' : State}
    (hefirst : e.first = (i == 0)) (helast : e.last = rest.isEmpty)
    (h : stepBody f rc e item rest st (separate0 e.sepPlace i rest.isEmpty st.trailingSeparator) = some st')
    (hinv : TSInv f st) :
    TSInv f st' ∧ ∃ new pre post, st'.pieces = st.pieces ++ new ∧ PreOK rc item pre ∧ PostOK rc item post ∧
      Spaced e.indentStr new (blockTokens f e.sepPlace i rest.isEmpty e.innerItem pre post) := by
  revert h
  fun_cases stepBody f rc e item rest st (separate0 e.sepPlace i rest.isEmpty st.trailingSeparator)
  -- the arm where every rewrite succeeded; `p1 … p7` are the blocks pushed: tactic blank, pre-comment,
  -- separator in front and item, horizontal post-comment, separator behind, vertical post-comment,
  -- preserved newline
  case case4 p1 sep ts ll htb p2 ll2 reset hpre _ p3 p4 hhp p5 soFar p6 imw6 hvp p7 =>
    intro h
    cases h
    obtain ⟨h1, h1s, h1t⟩ := tacticBlank_spec f e item (render st.pieces)
      (separate0 e.sepPlace i rest.isEmpty st.trailingSeparator) st.trailingSeparator
      st.prevItemHadPostComment st.prevItemIsNestedImport st.lineLen
    rw [helast, separate_eq_spec hinv] at h1s
    rw [htb] at h1 h1s h1t
    simp only at h1 h1s h1t
    subst h1s
    obtain ⟨pre, hpreOK, h2⟩ := preCommentPieces_shape hpre
    have h4 := horizontalPostPieces_shape e.indentStr hhp
    have h6 := verticalPostPieces_shape hvp
    have h3 : Spaced e.indentStr p3 _ := itemPieces_shape f e _
    have h5 : Spaced e.indentStr p5 _ := backSepPieces_shape f e _
    have h7 : Spaced e.indentStr p7 _ := preserveNewlinePieces_shape f e item
    refine ⟨?_, p1 ++ p2 ++ p3 ++ p4 ++ p5 ++ p6 ++ p7, ?_⟩
    · rcases h1t with h' | h'
      · rcases hinv with hi | hi
        · exact .inl (h'.trans hi)
        · exact .inr hi
      · exact .inr h'
    · by_cases ht : f.tactic = .horizontal
      · -- horizontal: the post-comment precedes the separator
        rw [if_pos ht] at h4 h6
        obtain ⟨post, hpostOK, h4⟩ := h4
        subst h6
        refine ⟨pre, post, by simp only [soFar, List.append_assoc], hpreOK, hpostOK, ?_⟩
        have := (((((h1.append h2).append h3).append h4).append h5).append (Spaced.nil _)).append h7
        refine ⟨this.1, this.2.trans ?_⟩
        simp [blockTokens, sepFront, sepBack, ht, hefirst, bne]
      · rw [if_neg ht] at h4 h6
        obtain ⟨post, hpostOK, h6⟩ := h6
        subst h4
        refine ⟨pre, post, by simp only [soFar, List.append_assoc], hpreOK, hpostOK, ?_⟩
        have := (((((h1.append h2).append h3).append (Spaced.nil _)).append h5).append h6).append h7
        refine ⟨this.1, this.2.trans ?_⟩
        simp [blockTokens, sepFront, sepBack, ht, hefirst, bne]
  all_goals nofun

theorem step_shape {ind : List Char} {i : Nat}
    {item : ListItem} {rest : List ListItem} {st st' : State}
    (h : step f rc ind sp i item rest st = some st') (hinv : TSInv f st) :
    TSInv f st' ∧ ∃ inner, item.item = some inner ∧
      if item.isSubstantial then
        ∃ new pre post, st'.pieces = st.pieces ++ new ∧ PreOK rc item pre ∧ PostOK rc item post ∧
          Spaced ind new (blockTokens f sp i rest.isEmpty inner pre post)
      else st' = st := by
  unfold step at h
  cases hit : item.item with
  | none => simp [hit] at h
  | some inner =>
    simp only [hit] at h
    cases hs : item.isSubstantial with
    | false =>
      simp only [hs, Bool.not_false, ↓reduceIte, Option.some.injEq] at h
      exact ⟨h ▸ hinv, inner, rfl, h.symm⟩
    | true =>
      simp only [hs, Bool.not_true, Bool.false_eq_true, ↓reduceIte] at h
      obtain ⟨h1, h2⟩ := stepBody_shape (i := i) (e := mkEnv f ind sp i item rest inner
        (separate0 sp i rest.isEmpty st.trailingSeparator)) rfl rfl h hinv
      exact ⟨h1, inner, rfl, h2⟩

/-- The non-blank pieces of the whole result, item by item (from index `i` on): a skipped item
contributes nothing; a written one its block (`blockTokens`): pre-comment, separator in front, the item,
post-comment and separator behind. -/
inductive TokensOK (f : ListFormatting) (rc : Rc) (sp : SeparatorPlace) :
    Nat → List ListItem → List Piece → Prop where
  | nil (i : Nat) : TokensOK f rc sp i [] []
  | skip {i : Nat} {item : ListItem} {rest : List ListItem} {ts : List Piece} (inner : List Char) :
      item.item = some inner → item.isSubstantial = false → TokensOK f rc sp (i + 1) rest ts →
      TokensOK f rc sp i (item :: rest) ts
  | write {i : Nat} {item : ListItem} {rest : List ListItem} {ts : List Piece} (inner : List Char)
      (pre post : List Piece) :
      item.item = some inner → item.isSubstantial = true → PreOK rc item pre → PostOK rc item post →
      TokensOK f rc sp (i + 1) rest ts →
      TokensOK f rc sp i (item :: rest) (blockTokens f sp i rest.isEmpty inner pre post ++ ts)

theorem loop_shape {ind : List Char} :
    ∀ (items : List ListItem) (i : Nat) (st st' : State),
      loop f rc ind sp i items st = some st' → TSInv f st →
      ∃ new ts, st'.pieces = st.pieces ++ new ∧ Spaced ind new ts ∧ TokensOK f rc sp i items ts := by
  intro items
  induction items with
  | nil =>
    intro i st st' h _
    simp only [loop, Option.some.injEq] at h
    exact ⟨[], [], by simp [h], .nil _, .nil i⟩
  | cons item rest ih =>
    intro i st st' h hinv
    simp only [loop] at h
    split at h
    · simp at h
    · rename_i st1 hstep
      obtain ⟨hinv1, inner, hit, hsub⟩ := step_shape hstep hinv
      obtain ⟨new, ts, hp, hsp, hts⟩ := ih (i + 1) st1 st' h hinv1
      cases hs : item.isSubstantial with
      | false =>
        simp only [hs, Bool.false_eq_true, ↓reduceIte] at hsub
        exact ⟨new, ts, hsub ▸ hp, hsp, .skip inner hit hs hts⟩
      | true =>
        simp only [hs, ↓reduceIte] at hsub
        obtain ⟨new1, pre, post, hp1, hpre, hpost, hsp1⟩ := hsub
        exact ⟨new1 ++ new, _, by rw [hp, hp1, List.append_assoc], hsp1.append hsp,
          .write inner pre post hit hs hpre hpost hts⟩

theorem writeListPieces_shape {items : List ListItem} {ps : List Piece}
    (h : writeListPieces f rc items = some ps) :
    BlanksOK (indentString f.shape.indent f.config) ps ∧
      TokensOK f rc (SeparatorPlace.fromTactic f.separatorPlace f.tactic f.separator) 0 items
        (nonBlank ps) := by
  unfold writeListPieces at h
  simp only [Option.map_eq_some_iff] at h
  obtain ⟨st', hloop, rfl⟩ := h
  obtain ⟨new, ts, hp, ⟨hb, rfl⟩, hts⟩ := loop_shape items 0 _ st' hloop (.inl rfl)
  rw [hp]
  exact ⟨hb, hts⟩

theorem loop_none_of_missing {ind : List Char} :
    ∀ (items : List ListItem) (i : Nat) (st : State),
      (∃ it ∈ items, it.item = none) → loop f rc ind sp i items st = none := by
  intro items
  induction items with
  | nil => intro i st h; simp at h
  | cons item rest ih =>
    intro i st h
    simp only [loop]
    cases hstep : step f rc ind sp i item rest st with
    | none => rfl
    | some st1 =>
      obtain ⟨it, hmem, hnone⟩ := h
      rcases List.mem_cons.mp hmem with rfl | hmem'
      · simp [step, hnone] at hstep
      · exact ih (i + 1) st1 ⟨it, hmem', hnone⟩

def itemTexts (ts : List Piece) : List (List Char) := (ts.filter (fun p => p.kind == .item)).map (·.text)

def commentTexts (ts : List Piece) : List (List Char) :=
  (ts.filter (fun p => p.kind == .pre || p.kind == .post)).map (·.text)

def sepTexts (ts : List Piece) : List (List Char) := (ts.filter (fun p => p.kind == .sep)).map (·.text)

@[simp] theorem itemTexts_append (a b : List Piece) : itemTexts (a ++ b) = itemTexts a ++ itemTexts b := by
  simp [itemTexts]
@[simp] theorem commentTexts_append (a b : List Piece) :
    commentTexts (a ++ b) = commentTexts a ++ commentTexts b := by simp [commentTexts]
@[simp] theorem sepTexts_append (a b : List Piece) : sepTexts (a ++ b) = sepTexts a ++ sepTexts b := by
  simp [sepTexts]

/-- A selection by kind that leaves out the blanks does not see whether they are there. -/
theorem filter_nonBlank (q : PieceKind → Bool) (hq : q .blank = false) (ps : List Piece) :
    (nonBlank ps).filter (fun p => q p.kind) = ps.filter (fun p => q p.kind) := by
  rw [nonBlank, List.filter_filter]
  refine List.filter_congr fun p _ => ?_
  cases hk : p.kind <;> simp [hq]

theorem itemTexts_nonBlank (ps : List Piece) : itemTexts (nonBlank ps) = itemTexts ps :=
  congrArg (List.map Piece.text) (filter_nonBlank (· == .item) rfl ps)

theorem commentTexts_nonBlank (ps : List Piece) : commentTexts (nonBlank ps) = commentTexts ps :=
  congrArg (List.map Piece.text) (filter_nonBlank (fun k => k == .pre || k == .post) rfl ps)

theorem sepTexts_nonBlank (ps : List Piece) : sepTexts (nonBlank ps) = sepTexts ps :=
  congrArg (List.map Piece.text) (filter_nonBlank (· == .sep) rfl ps)

/-- A selection by kind takes all or nothing of pieces of one kind. -/
theorem filter_of_kind {ps : List Piece} {k : PieceKind} (h : ∀ p ∈ ps, p.kind = k) (q : PieceKind → Bool) :
    ps.filter (fun p => q p.kind) = if q k then ps else [] := by
  split
  · exact List.filter_eq_self.mpr fun p hp => by rwa [h p hp]
  · exact List.filter_eq_nil_iff.mpr fun p hp => by rwa [h p hp]

/-- `t` is what the rewriter made of `c` (or of `c` without its leading white space). -/
def Rewritten (rc : Rc) (t c : List Char) : Prop :=
  ∃ bs sh, rc c bs sh = some t ∨ rc (trimStart c) bs sh = some t

/-- What `PreOK` and `PostOK` have in common: the comment `o` of an item becomes nothing, or one piece of
kind `k` that holds the comment as the rewriter returned it. -/
def CommentOK (rc : Rc) (k : PieceKind) (o : Option (List Char)) (ps : List Piece) : Prop :=
  (o = none ∧ ps = []) ∨ ∃ c r, o = some c ∧ Rewritten rc r c ∧ ps = [⟨k, r⟩]

theorem PreOK.commentOK {item : ListItem} {ps : List Piece} (h : PreOK rc item ps) :
    CommentOK rc .pre item.preComment ps := by
  unfold PreOK at h
  split at h
  · exact .inl ⟨‹_›, h⟩
  · obtain ⟨r, bs, sh, hr, rfl⟩ := h
    exact .inr ⟨_, r, ‹_›, ⟨bs, sh, .inl hr⟩, rfl⟩

theorem PostOK.commentOK {item : ListItem} {ps : List Piece} (h : PostOK rc item ps) :
    CommentOK rc .post item.postComment ps := by
  unfold PostOK at h
  split at h
  · exact .inl ⟨‹_›, h⟩
  · obtain ⟨r, bs, sh, hr, rfl⟩ := h
    exact .inr ⟨_, r, ‹_›, ⟨bs, sh, hr⟩, rfl⟩

theorem CommentOK.mem {k : PieceKind} {o : Option (List Char)} {ps : List Piece}
    (h : CommentOK rc k o ps) : ∀ q ∈ ps, q.kind = k ∧ ∃ c, o = some c ∧ Rewritten rc q.text c := by
  rcases h with ⟨_, rfl⟩ | ⟨c, r, hc, hr, rfl⟩
  · simp
  · simpa using ⟨c, hc, hr⟩

theorem sepFront_kind (f : ListFormatting) (sp : SeparatorPlace) (i : Nat) (last : Bool) :
    ∀ p ∈ sepFront f sp i last, p.kind = .sep := by
  unfold sepFront; split <;> simp

theorem sepBack_kind (f : ListFormatting) (sp : SeparatorPlace) (i : Nat) (last : Bool) :
    ∀ p ∈ sepBack f sp i last, p.kind = .sep := by
  unfold sepBack; split <;> simp

/-- What a selection by kind takes of the block of one item. -/
theorem filter_blockTokens {item : ListItem} {pre post : List Piece} (f : ListFormatting)
    (sp : SeparatorPlace) (i : Nat) (last : Bool) (inner : List Char) (q : PieceKind → Bool)
    (hpre : PreOK rc item pre) (hpost : PostOK rc item post) :
    (blockTokens f sp i last inner pre post).filter (fun p => q p.kind) =
      (if q .pre then pre else []) ++ (if q .sep then sepFront f sp i last else []) ++
      (if q .item then [⟨.item, inner⟩] else []) ++
      (if f.tactic = .horizontal then
        (if q .post then post else []) ++ (if q .sep then sepBack f sp i last else [])
       else (if q .sep then sepBack f sp i last else []) ++ (if q .post then post else [])) := by
  unfold blockTokens
  split <;>
    simp only [List.filter_append, filter_of_kind fun p hp => (hpre.commentOK.mem p hp).1, filter_of_kind fun p hp => (hpost.commentOK.mem p hp).1,
      filter_of_kind (sepFront_kind f sp i last), filter_of_kind (sepBack_kind f sp i last),
      List.filter_cons, List.filter_nil]

theorem itemTexts_block {item : ListItem} {pre post : List Piece} (f : ListFormatting)
    (sp : SeparatorPlace) (i : Nat) (last : Bool) (inner : List Char)
    (hpre : PreOK rc item pre) (hpost : PostOK rc item post) :
    itemTexts (blockTokens f sp i last inner pre post) = [inner] := by
  rw [itemTexts, filter_blockTokens f sp i last inner (· == .item) hpre hpost]
  simp

theorem commentTexts_block {item : ListItem} {pre post : List Piece} (f : ListFormatting)
    (sp : SeparatorPlace) (i : Nat) (last : Bool) (inner : List Char)
    (hpre : PreOK rc item pre) (hpost : PostOK rc item post) :
    commentTexts (blockTokens f sp i last inner pre post) = pre.map (·.text) ++ post.map (·.text) := by
  rw [commentTexts, filter_blockTokens f sp i last inner (fun k => k == .pre || k == .post) hpre hpost]
  simp

theorem sepTexts_block {item : ListItem} {pre post : List Piece} (f : ListFormatting)
    (sp : SeparatorPlace) (i : Nat) (last : Bool) (inner : List Char)
    (hpre : PreOK rc item pre) (hpost : PostOK rc item post) :
    sepTexts (blockTokens f sp i last inner pre post) =
      (sepFront f sp i last ++ sepBack f sp i last).map (·.text) := by
  rw [sepTexts, filter_blockTokens f sp i last inner (· == .sep) hpre hpost]
  simp

theorem tokens_items {i : Nat}
    {items : List ListItem} {ts : List Piece} (h : TokensOK f rc sp i items ts) :
    itemTexts ts = itemStrings items := by
  induction h with
  | nil i => rfl
  | skip inner hit hs _ ih => simpa [itemStrings, hs] using ih
  | write inner pre post hit hs hpre hpost _ ih =>
    rw [itemTexts_append, itemTexts_block f sp _ _ inner hpre hpost, ih]
    simp [itemStrings, hs, ListItem.innerAsRef, hit]

/-- The comments of the written items as the caller passed them (pre-comment, then post-comment). -/
def rawComments (items : List ListItem) : List (List Char) :=
  (items.filter ListItem.isSubstantial).flatMap fun it => it.preComment.toList ++ it.postComment.toList

theorem CommentOK.rewritten {k : PieceKind} {o : Option (List Char)} {ps : List Piece}
    (h : CommentOK rc k o ps) : Forall2 (Rewritten rc) (ps.map (·.text)) o.toList := by
  rcases h with ⟨rfl, rfl⟩ | ⟨c, r, rfl, hr, rfl⟩
  · exact .nil
  · exact .cons hr .nil

theorem tokens_comments {i : Nat}
    {items : List ListItem} {ts : List Piece} (h : TokensOK f rc sp i items ts) :
    Forall2 (Rewritten rc) (commentTexts ts) (rawComments items) := by
  induction h with
  | nil i => exact .nil
  | skip inner hit hs _ ih => simpa [rawComments, hs] using ih
  | @write i item rest _ inner pre post hit hs hpre hpost _ ih =>
    have : rawComments (item :: rest) =
        item.preComment.toList ++ item.postComment.toList ++ rawComments rest := by
      simp [rawComments, hs]
    rw [commentTexts_append, commentTexts_block f sp _ _ inner hpre hpost, this]
    exact ((hpre.commentOK.rewritten).append hpost.commentOK.rewritten).append ih

/-- The separators `write_list` must write, item by item. -/
def sepSpecGo (f : ListFormatting) (sp : SeparatorPlace) : Nat → List ListItem → List (List Char)
  | _, [] => []
  | i, item :: rest =>
    (if item.isSubstantial then
      (if separateSpec f sp i rest.isEmpty && sp.isFront && i != 0 then [trim f.separator] else []) ++
      (if separateSpec f sp i rest.isEmpty && sp.isBack then [f.separator] else [])
     else []) ++ sepSpecGo f sp (i + 1) rest

/-- Place Back, every item written: a separator behind each item but the last, and behind the last one
if `separateSpec` says so. -/
theorem sepSpecGo_back (f : ListFormatting) : ∀ (l : List ListItem) (i : Nat),
    (∀ it ∈ l, it.isSubstantial = true) → l ≠ [] →
    sepSpecGo f .back i l = List.replicate (l.length - 1) f.separator ++
      (if separateSpec f .back (i + (l.length - 1)) true then [f.separator] else []) := by
  intro l
  induction l with
  | nil => intro i _ h; exact absurd rfl h
  | cons it rest ih =>
    intro i hs _
    have hit := hs it List.mem_cons_self
    cases rest with
    | nil => simp [sepSpecGo, hit, SeparatorPlace.isFront, SeparatorPlace.isBack]
    | cons it2 rest2 =>
      have := ih (i + 1) (fun x hx => hs x (List.mem_cons_of_mem _ hx)) (by simp)
      have hsep : separateSpec f .back i false = true := by simp [separateSpec]
      simp only [sepSpecGo, hit, ↓reduceIte, List.isEmpty_cons, SeparatorPlace.isFront,
        SeparatorPlace.isBack, hsep] at this ⊢
      rw [this]
      simp only [List.length_cons, Nat.add_sub_cancel]
      have e : i + 1 + rest2.length = i + (rest2.length + 1) := by omega
      rw [e]
      simp [List.replicate_succ]

theorem tokens_seps {i : Nat}
    {items : List ListItem} {ts : List Piece} (h : TokensOK f rc sp i items ts) :
    sepTexts ts = sepSpecGo f sp i items := by
  induction h with
  | nil i => rfl
  | skip inner hit hs _ ih => simpa [sepSpecGo, hs] using ih
  | write inner pre post hit hs hpre hpost _ ih =>
    rw [sepTexts_append, sepTexts_block f sp _ _ inner hpre hpost, ih, sepSpecGo, if_pos hs, sepFront, sepBack,
      List.map_append]
    congr 2 <;> split <;> rfl

theorem squeeze_append (a b : List Char) : squeeze (a ++ b) = squeeze a ++ squeeze b :=
  List.filter_append ..

theorem squeeze_nil : squeeze [] = [] := rfl

theorem squeeze_nl : squeeze ['\n'] = [] := rfl

theorem squeeze_cons_newline (l : List Char) : squeeze ('\n' :: l) = squeeze l :=
  squeeze_append ['\n'] l

theorem squeeze_flatten (xs : List (List Char)) : squeeze xs.flatten = (xs.map squeeze).flatten := by
  induction xs with
  | nil => rfl
  | cons x xs ih => simp [squeeze_append, ih]

theorem squeeze_intercalate (sep : List Char) (hsep : squeeze sep = []) :
    ∀ xs : List (List Char), squeeze (sep.intercalate xs) = (xs.map squeeze).flatten := by
  intro xs
  induction xs with
  | nil => simp [List.intercalate, squeeze]
  | cons x rest ih =>
    cases rest with
    | nil => simp [List.intercalate]
    | cons y r =>
      have h2 : sep.intercalate (x :: y :: r) = x ++ sep ++ sep.intercalate (y :: r) := by
        simp [List.intercalate, List.intersperse]
      rw [h2, squeeze_append, squeeze_append, hsep, ih]
      simp

theorem squeeze_of_ws {s : List Char} (h : ∀ c ∈ s, isWhitespace c = true) : squeeze s = [] :=
  List.filter_eq_nil_iff.mpr fun c hc => by simp [h c hc]

theorem squeeze_trimStart (s : List Char) : squeeze (trimStart s) = squeeze s := by
  induction s with
  | nil => rfl
  | cons c cs ih =>
    simp only [trimStart, List.dropWhile_cons]
    split
    · rename_i hc
      simp only [trimStart] at ih
      rw [ih]
      simp [squeeze, hc]
    · rfl

theorem squeeze_trimEnd (s : List Char) : squeeze (trimEnd s) = squeeze s := by
  induction s with
  | nil => rfl
  | cons c cs ih =>
    simp only [trimEnd]
    split
    · rename_i h
      simp only [Bool.and_eq_true, List.isEmpty_iff] at h
      obtain ⟨h1, h2⟩ := h
      rw [h1] at ih
      simp only [squeeze, List.filter_cons, h2, Bool.not_true, Bool.false_eq_true, ↓reduceIte]
      simpa [squeeze] using ih
    · simp only [squeeze, List.filter_cons] at ih ⊢
      rw [ih]

theorem squeeze_trim (s : List Char) : squeeze (trim s) = squeeze s := by
  rw [trim, squeeze_trimEnd, squeeze_trimStart]

/-- The indentation string is white space: tabs and spaces, or empty where `to_string` panics. -/
theorem indentString_ws (indent : Indent) (config : Config) :
    ∀ c ∈ indentString indent config, isWhitespace c = true := by
  intro c hc
  unfold indentString at hc
  by_cases hts : config.hard_tabs = true → 1 ≤ config.tab_spaces
  · rw [RF.Lemmas.Shape.to_string_eq indent config hts] at hc
    simp only [RF.Lemmas.Shape.indentChars] at hc
    have : c = '\t' ∨ c = ' ' := by
      split at hc
      · exact (List.mem_append.mp hc).imp List.eq_of_mem_replicate List.eq_of_mem_replicate
      · exact .inr (List.eq_of_mem_replicate hc)
    rcases this with rfl | rfl <;> rfl
  · have hts := Classical.not_imp.mp hts
    obtain ⟨e, he⟩ := (RF.Lemmas.Shape.to_string_inner_error_iff indent config 1).mpr
      (.inl ⟨hts.1, by omega⟩)
    rw [Indent.to_string, he] at hc
    simp at hc

theorem squeeze_render {ind : List Char} (hind : ∀ c ∈ ind, isWhitespace c = true) :
    ∀ (ps : List Piece), BlanksOK ind ps →
      squeeze (render ps) = (nonBlank ps).flatMap (fun p => squeeze p.text) := by
  intro ps
  induction ps with
  | nil => intro _; rfl
  | cons p ps ih =>
    intro hb
    rw [render_cons, squeeze_append, ih fun q hq => hb q (List.mem_cons_of_mem _ hq)]
    by_cases hk : p.kind = .blank
    · have hws : ∀ c ∈ p.text, isWhitespace c = true := by
        intro c hc
        rcases hb p (List.mem_cons_self) hk c hc with rfl | rfl | h
        · rfl
        · rfl
        · exact hind c h
      rw [squeeze_of_ws hws]
      simp [nonBlank, hk]
    · simp [nonBlank, hk]

/-- The comment rewriter keeps the non-blank characters of a comment. -/
def KeepsContent (rc : Rc) : Prop := ∀ c bs sh r, rc c bs sh = some r → squeeze r = squeeze c

/-- Whatever of a comment the rewriter and `trim_start` keep, a rewritten comment has. -/
theorem Rewritten.payload {α : Type} {r c : List Char} (payload : List Char → α)
    (hrc : ∀ c bs sh r, rc c bs sh = some r → payload r = payload c)
    (htrim : ∀ c, payload (trimStart c) = payload c) (h : Rewritten rc r c) : payload r = payload c := by
  obtain ⟨bs, sh, h | h⟩ := h
  · exact hrc c bs sh r h
  · rw [hrc _ bs sh r h, htrim]

theorem CommentOK.content {k : PieceKind} {o : Option (List Char)} {ps : List Piece}
    (hrc : KeepsContent rc) (h : CommentOK rc k o ps) :
    ps.flatMap (fun p => squeeze p.text) = squeeze (o.getD []) := by
  rcases h with ⟨rfl, rfl⟩ | ⟨c, r, rfl, hr, rfl⟩
  · rfl
  · simp [hr.payload squeeze hrc squeeze_trimStart]

theorem content_block {item : ListItem} {pre post : List Piece} (f : ListFormatting)
    (sp : SeparatorPlace) (i : Nat) (last : Bool) (inner : List Char)
    (hrc : KeepsContent rc)
    (hit : item.item = some inner) (hs : item.isSubstantial = true)
    (hpre : PreOK rc item pre) (hpost : PostOK rc item post) :
    (blockTokens f sp i last inner pre post).flatMap (fun p => squeeze p.text) =
      itemContent f sp i last item := by
  have hf : (sepFront f sp i last).flatMap (fun p => squeeze p.text) =
      if separateSpec f sp i last && sp.isFront && i != 0 then squeeze f.separator else [] := by
    unfold sepFront; split <;> simp [squeeze_trim]
  have hb : (sepBack f sp i last).flatMap (fun p => squeeze p.text) =
      if separateSpec f sp i last && sp.isBack then squeeze f.separator else [] := by
    unfold sepBack; split <;> simp
  unfold blockTokens itemContent
  simp only [hs, Bool.not_true, Bool.false_eq_true, ↓reduceIte, List.flatMap_append,
    hpre.commentOK.content hrc, hf, ListItem.innerAsRef, hit, Option.getD_some, beq_iff_eq]
  by_cases ht : f.tactic = .horizontal <;> simp [ht, hpost.commentOK.content hrc, hb]

theorem tokens_content {i : Nat}
    {items : List ListItem} {ts : List Piece}
    (hrc : KeepsContent rc)
    (h : TokensOK f rc sp i items ts) :
    ts.flatMap (fun p => squeeze p.text) = contentGo f sp i items := by
  induction h with
  | nil i => rfl
  | skip inner hit hs _ ih => simpa [contentGo, itemContent, hs] using ih
  | write inner pre post hit hs hpre hpost _ ih =>
    rw [List.flatMap_append, content_block f sp _ _ inner hrc hit hs hpre hpost, ih, contentGo]

theorem trimEnd_prefix (s : List Char) : trimEnd s <+: s := by
  induction s with
  | nil => exact List.prefix_refl _
  | cons a cs ih =>
    simp only [trimEnd]
    split
    · exact List.nil_prefix
    · exact (List.prefix_cons_inj a).2 ih

theorem trimEnd_cons_of_not_ws {a : Char} (h : isWhitespace a = false) (s : List Char) :
    trimEnd (a :: s) = a :: trimEnd s := by
  simp [trimEnd, h]

theorem trimEnd_idem (s : List Char) : trimEnd (trimEnd s) = trimEnd s := by
  induction s with
  | nil => rfl
  | cons c cs ih =>
    simp only [trimEnd]
    split
    · rfl
    · rename_i h
      simp only [trimEnd, ih]
      simp [h]

/-- `trim c` does not start with white space. -/
theorem trimStart_trim (c : List Char) : trimStart (trim c) = trim c := by
  unfold trim trimStart
  have := List.head?_dropWhile_not isWhitespace c
  cases hd : List.dropWhile isWhitespace c with
  | nil => rfl
  | cons y ys =>
    simp only [hd, List.head?_cons] at this
    simp only [trimEnd]
    split
    · rfl
    · simp [this]

theorem trim_idem (c : List Char) : trim (trim c) = trim c := by
  have h := trimStart_trim c
  unfold trim at h ⊢
  rw [h, trimEnd_idem]

theorem hasNewline_trim (c : List Char) (h : hasNewline c = false) : hasNewline (trim c) = false := by
  cases h' : hasNewline (trim c) with
  | false => rfl
  | true =>
    simp only [hasNewline, List.contains_eq_mem, decide_eq_true_eq] at h'
    have h1 : '\n' ∈ trimStart c := (trimEnd_prefix (trimStart c)).subset h'
    have h2 : '\n' ∈ c := (List.dropWhile_suffix isWhitespace).subset h1
    simp [hasNewline, h2] at h

theorem startsWith_trimEnd_slashes (t : List Char) :
    startsWith ['/', '/'] (trimEnd t) = startsWith ['/', '/'] t := by
  cases h : startsWith ['/', '/'] t with
  | true =>
    obtain ⟨r, rfl⟩ := List.isPrefixOf_iff_prefix.mp h
    simp [trimEnd_cons_of_not_ws (show isWhitespace '/' = false by rfl), startsWith]
  | false =>
    refine Bool.eq_false_iff.mpr fun h' => ?_
    have := (List.isPrefixOf_iff_prefix.mp h').trans (trimEnd_prefix t)
    exact Bool.false_ne_true (h.symm.trans (List.isPrefixOf_iff_prefix.mpr this))

/-- `has_single_line_comment` looks at the trimmed comment only. -/
theorem startsWithSlashes_trim (c : List Char) : startsWithSlashes (trim c) = startsWithSlashes c := by
  rw [startsWithSlashes, trimStart_trim, trim, startsWith_trimEnd_slashes, startsWithSlashes]

theorem calculateWidth_eq (items : List ListItem) :
    calculateWidth items = (items.length, (items.map totalItemWidth).sum) := by
  have go : ∀ (items : List ListItem) (a b : Nat),
      items.foldl (fun acc it => (acc.1 + 1, acc.2 + totalItemWidth it)) (a, b) =
        (a + items.length, b + (items.map totalItemWidth).sum) := by
    intro items
    induction items with
    | nil => simp
    | cons it rest ih =>
      intro a b
      simp only [List.foldl_cons, List.length_cons, List.map_cons, List.sum_cons, ih]
      congr 1 <;> omega
  simpa [calculateWidth] using go items 0 0

/-- What `definitive_tactic` measures: the widths of the items plus one separator between
neighbours. -/
def realTotal (items : List ListItem) (sep : Separator) : Nat :=
  (items.map totalItemWidth).sum + sep.len * (items.length - 1)

/-- The limit the measured width is compared with. -/
def tacticLimit (tactic : ListTactic) (width : Nat) : Nat :=
  match tactic with
  | .limitedHorizontalVertical limit => min width limit
  | _ => width

/-- `definitive_tactic` without its local variables: Vertical for a `//` comment; else Horizontal if asked
for, or if not refused (`Vertical`) and the measured width fits; else what the caller falls back to. -/
theorem definitiveTactic_eq (items : List ListItem) (tactic : ListTactic) (sep : Separator) (width : Nat) :
    definitiveTactic items tactic sep width =
      if items.any ListItem.hasSingleLineComment then .vertical
      else if tactic = .horizontal ∨ (tactic ≠ .vertical ∧ tactic ≠ .horizontal ∧
          realTotal items sep ≤ tacticLimit tactic width ∧ items.any ListItem.isMultiline = false) then
        .horizontal
      else if tactic = .mixed then .mixed else .vertical := by
  unfold definitiveTactic
  simp only [calculateWidth_eq, realTotal, tacticLimit]
  split
  · rfl
  · cases tactic <;> simp

/-- Two comments that `definitive_tactic` cannot tell apart. -/
def SameComment (a b : Option (List Char)) : Prop :=
  match a, b with
  | none, none => True
  | some c, some c' => trim c' = trim c ∧ hasNewline c' = hasNewline c ∧
      endsWithLineComment c' = endsWithLineComment c
  | _, _ => False

/-- Two items that `definitive_tactic` cannot tell apart. -/
def SameMeasure (a b : ListItem) : Prop :=
  b.item = a.item ∧ SameComment a.preComment b.preComment ∧ SameComment a.postComment b.postComment

/-- Of a comment `definitive_tactic` reads its trimmed text and whether it is or ends with a line comment. -/
theorem comment_measures {c c' : List Char} (h1 : trim c' = trim c)
    (h3 : endsWithLineComment c' = endsWithLineComment c) :
    commentLen (some c') = commentLen (some c) ∧
      isOrEndsWithLineComment c' = isOrEndsWithLineComment c := by
  refine ⟨by simp [commentLen, h1], ?_⟩
  rw [isOrEndsWithLineComment, isOrEndsWithLineComment, h3, ← startsWithSlashes_trim c',
    ← startsWithSlashes_trim c, h1]

theorem sameComment_facts {a b : Option (List Char)} (h : SameComment a b) :
    commentLen b = commentLen a ∧ optAny hasNewline b = optAny hasNewline a ∧
      optAny isOrEndsWithLineComment b = optAny isOrEndsWithLineComment a := by
  unfold SameComment at h
  cases a <;> cases b <;> simp only at h
  · simp
  · exact ⟨(comment_measures h.1 h.2.2).1, h.2.1, (comment_measures h.1 h.2.2).2⟩

theorem sameMeasure_facts {a b : ListItem} (h : SameMeasure a b) :
    totalItemWidth b = totalItemWidth a ∧ b.isMultiline = a.isMultiline ∧
      b.hasSingleLineComment = a.hasSingleLineComment := by
  obtain ⟨hi, hp, hq⟩ := h
  obtain ⟨p1, p2, p3⟩ := sameComment_facts hp
  obtain ⟨q1, q2, q3⟩ := sameComment_facts hq
  exact ⟨by simp [totalItemWidth, p1, q1, hi],
    by simp only [ListItem.isMultiline, ListItem.innerAsRef, hi, p2, q2],
    by simp only [ListItem.hasSingleLineComment, p3, q3]⟩

theorem sameMeasure_lists {items items' : List ListItem} (h : Forall2 SameMeasure items items') :
    items'.length = items.length ∧ items'.map totalItemWidth = items.map totalItemWidth ∧
      items'.any ListItem.isMultiline = items.any ListItem.isMultiline ∧
      items'.any ListItem.hasSingleLineComment = items.any ListItem.hasSingleLineComment := by
  induction h with
  | nil => simp
  | cons hab _ ih =>
    obtain ⟨h1, h2, h3⟩ := sameMeasure_facts hab
    obtain ⟨i1, i2, i3, i4⟩ := ih
    simp [h1, h2, h3, i1, i2, i3, i4]

/-- What `definitive_tactic` reads of an item whose comments went through a rewriter `g` that keeps the
trimmed text and the last comment's kind and introduces no newline: the same width, the same answer to
"has a line comment", and no new "is multi-line". -/
theorem mapComments_facts (g : List Char → List Char)
    (hg : ∀ c, trim (g c) = trim c ∧ (hasNewline c = false → hasNewline (g c) = false) ∧
      endsWithLineComment (g c) = endsWithLineComment c) (it : ListItem) :
    totalItemWidth { it with preComment := it.preComment.map g, postComment := it.postComment.map g } =
      totalItemWidth it ∧
    (it.isMultiline = false →
      ListItem.isMultiline { it with preComment := it.preComment.map g, postComment := it.postComment.map g } =
        false) ∧
    ListItem.hasSingleLineComment
      { it with preComment := it.preComment.map g, postComment := it.postComment.map g } =
        it.hasSingleLineComment := by
  have hc : ∀ o : Option (List Char), commentLen (o.map g) = commentLen o ∧
      (optAny hasNewline o = false → optAny hasNewline (o.map g) = false) ∧
      optAny isOrEndsWithLineComment (o.map g) = optAny isOrEndsWithLineComment o := by
    intro o
    cases o with
    | none => simp
    | some c => exact ⟨(comment_measures (hg c).1 (hg c).2.2).1, (hg c).2.1, (comment_measures (hg c).1 (hg c).2.2).2⟩
  obtain ⟨p1, p2, p3⟩ := hc it.preComment
  obtain ⟨q1, q2, q3⟩ := hc it.postComment
  refine ⟨by simp [totalItemWidth, p1, q1], ?_, by simp only [ListItem.hasSingleLineComment, p3, q3]⟩
  simp only [ListItem.isMultiline, ListItem.innerAsRef, Bool.or_eq_false_iff]
  exact fun ⟨⟨h1, h2⟩, h3⟩ => ⟨⟨h1, p2 h2⟩, q2 h3⟩

/-- What may stand between two items: blanks, a separator, a rewritten comment of one of the items. -/
def GapPiece (f : ListFormatting) (rc : Rc) (items : List ListItem) (p : Piece) : Prop :=
  (p.kind = .blank ∧ ∀ c ∈ p.text, c = ' ' ∨ c = '\n' ∨ c ∈ indentString f.shape.indent f.config) ∨
  (p.kind = .sep ∧ (p.text = f.separator ∨ p.text = trim f.separator)) ∨
  (p.kind = .pre ∧ ∃ it ∈ items, ∃ c, it.preComment = some c ∧ Rewritten rc p.text c) ∨
  (p.kind = .post ∧ ∃ it ∈ items, ∃ c, it.postComment = some c ∧ Rewritten rc p.text c)

theorem gapPiece_mono {items : List ListItem} {p : Piece} (it : ListItem)
    (h : GapPiece f rc items p) : GapPiece f rc (it :: items) p := by
  rcases h with h | h | ⟨hk, x, hx, h⟩ | ⟨hk, x, hx, h⟩
  · exact .inl h
  · exact .inr (.inl h)
  · exact .inr (.inr (.inl ⟨hk, x, List.mem_cons_of_mem _ hx, h⟩))
  · exact .inr (.inr (.inr ⟨hk, x, List.mem_cons_of_mem _ hx, h⟩))

theorem blockTokens_gap {i : Nat} {last : Bool}
    {inner : List Char} {item : ListItem} {pre post : List Piece} (rest : List ListItem)
    (hpre : PreOK rc item pre) (hpost : PostOK rc item post) :
    ∀ p ∈ blockTokens f sp i last inner pre post, p.kind = .item ∨ GapPiece f rc (item :: rest) p := by
  have hsep : ∀ p, p ∈ sepFront f sp i last ∨ p ∈ sepBack f sp i last → GapPiece f rc (item :: rest) p := by
    unfold sepFront sepBack
    rintro p (hp | hp) <;> split at hp <;> simp at hp <;> subst hp
    · exact .inr (.inl ⟨rfl, .inr rfl⟩)
    · exact .inr (.inl ⟨rfl, .inl rfl⟩)
  have hpost' : ∀ p ∈ post, GapPiece f rc (item :: rest) p := fun p hp =>
    have := hpost.commentOK.mem p hp
    .inr (.inr (.inr ⟨this.1, item, List.mem_cons_self, this.2⟩))
  intro p hp
  unfold blockTokens at hp
  simp only [List.mem_append, List.mem_singleton] at hp
  rcases hp with ((hp | hp) | hp) | hp
  · have := hpre.commentOK.mem p hp
    exact .inr (.inr (.inr (.inl ⟨this.1, item, List.mem_cons_self, this.2⟩)))
  · exact .inr (hsep p (.inl hp))
  · exact .inl (hp ▸ rfl)
  · split at hp <;> rcases List.mem_append.mp hp with hp | hp
    · exact .inr (hpost' p hp)
    · exact .inr (hsep p (.inr hp))
    · exact .inr (hsep p (.inr hp))
    · exact .inr (hpost' p hp)

theorem tokens_gap {i : Nat}
    {items : List ListItem} {ts : List Piece} (h : TokensOK f rc sp i items ts) :
    ∀ p ∈ ts, p.kind = .item ∨ GapPiece f rc items p := by
  induction h with
  | nil i => simp
  | skip inner hit hs _ ih => exact fun p hp => (ih p hp).imp_right (gapPiece_mono _)
  | write inner pre post hit hs hpre hpost _ ih =>
    intro p hp
    rcases List.mem_append.mp hp with hp | hp
    · exact blockTokens_gap _ hpre hpost p hp
    · exact (ih p hp).imp_right (gapPiece_mono _)

theorem pieces_gap {i : Nat} {items : List ListItem}
    {ps : List Piece} (hb : BlanksOK (indentString f.shape.indent f.config) ps)
    (hts : TokensOK f rc sp i items (nonBlank ps)) :
    ∀ p ∈ ps, p.kind ≠ .item → GapPiece f rc items p := by
  intro p hp hk
  by_cases hbk : p.kind = .blank
  · exact .inl ⟨hbk, hb p hp hbk⟩
  · exact (tokens_gap hts p (by simp [nonBlank, hp, hbk])).resolve_left hk

/-- `g0 ++ x1 ++ g1 ++ … ++ xn ++ gn` -/
def weave : List (List Char) → List (List Char) → List Char
  | g :: gs, x :: xs => g ++ x ++ weave gs xs
  | g :: _, [] => g
  | [], _ => []

/-- A piece list is its item texts woven into the maximal runs of the other pieces. -/
theorem exists_gaps (ps : List Piece) :
    ∃ gaps : List (List Piece), gaps.length = (itemTexts ps).length + 1 ∧
      render ps = weave (gaps.map render) (itemTexts ps) ∧
      ∀ g ∈ gaps, ∀ p ∈ g, p ∈ ps ∧ p.kind ≠ .item := by
  induction ps with
  | nil => exact ⟨[[]], rfl, rfl, by simp⟩
  | cons q ps ih =>
    obtain ⟨gaps, hl, hw, hg⟩ := ih
    cases gaps with
    | nil => simp at hl
    | cons g gs =>
      have hg' : ∀ g' ∈ g :: gs, ∀ p ∈ g', p ∈ q :: ps ∧ p.kind ≠ .item := fun g' h' p hp =>
        ⟨List.mem_cons_of_mem _ (hg g' h' p hp).1, (hg g' h' p hp).2⟩
      by_cases hk : q.kind = .item
      · have hit : itemTexts (q :: ps) = q.text :: itemTexts ps := by simp [itemTexts, hk]
        refine ⟨[] :: g :: gs, by simp [hit, hl], by simp [hit, weave, hw], ?_⟩
        intro g' h' p hp
        rcases List.mem_cons.mp h' with rfl | h'
        · cases hp
        · exact hg' g' h' p hp
      · have hit : itemTexts (q :: ps) = itemTexts ps := by simp [itemTexts, hk]
        refine ⟨(q :: g) :: gs, by simpa [hit] using hl, ?_, ?_⟩
        · rw [render_cons, hw, hit]
          cases itemTexts ps <;> simp [weave]
        · intro g' h' p hp
          rcases List.mem_cons.mp h' with rfl | h'
          · rcases List.mem_cons.mp hp with rfl | hp
            · exact ⟨List.mem_cons_self, hk⟩
            · exact hg' g List.mem_cons_self p hp
          · exact hg' g' (List.mem_cons_of_mem _ h') p hp

/-! ### The two embedding oracles are implied by the structure -/

/-- `xs` occur in `s` as disjoint substrings, in this order. -/
inductive Embeds : List (List Char) → List Char → Prop where
  | nil (s : List Char) : Embeds [] s
  | cons (g x : List Char) (xs : List (List Char)) (s : List Char) :
      Embeds xs s → Embeds (x :: xs) (g ++ x ++ s)

theorem Embeds.extend {xs : List (List Char)} {t : List Char} (u : List Char) (h : Embeds xs t) :
    Embeds xs (u ++ t) := by
  cases h with
  | nil => exact .nil _
  | cons g x xs s h' =>
    rw [← List.append_assoc, ← List.append_assoc]
    exact .cons (u ++ g) x xs s h'

theorem Embeds.append {a b : List (List Char)} {s t : List Char} (h1 : Embeds a s) (h2 : Embeds b t) :
    Embeds (a ++ b) (s ++ t) := by
  induction h1 with
  | nil s => exact h2.extend s
  | cons g x xs s' _ ih =>
    rw [List.cons_append, List.append_assoc]
    exact .cons g x _ _ ih

theorem Embeds.append_right {a : List (List Char)} {s : List Char} (t : List Char) (h : Embeds a s) :
    Embeds a (s ++ t) := by
  simpa using h.append (.nil t)

theorem Embeds.single (x : List Char) : Embeds [x] x := by
  simpa using Embeds.cons [] x [] [] (.nil [])

theorem dropThrough_sound (x : List Char) :
    ∀ (s r : List Char), dropThrough x s = some r → ∃ g, s = g ++ x ++ r := by
  intro s
  induction s with
  | nil =>
    intro r h
    simp only [dropThrough] at h
    split at h
    · rename_i hx
      simp only [Option.some.injEq] at h
      exact ⟨[], by simpa [← h] using hx⟩
    · simp at h
  | cons c cs ih =>
    intro r h
    simp only [dropThrough] at h
    split at h
    · rename_i hp
      simp only [Option.some.injEq] at h
      obtain ⟨t, ht⟩ := List.isPrefixOf_iff_prefix.mp hp
      rw [← ht, List.drop_left] at h
      exact ⟨[], by simp [← ht, h]⟩
    · obtain ⟨g, hg⟩ := ih r h
      exact ⟨c :: g, by simp [hg]⟩

theorem dropThrough_complete (x r : List Char) :
    ∀ g : List Char, ∃ u, dropThrough x (g ++ x ++ r) = some (u ++ r) := by
  intro g
  induction g with
  | nil =>
    cases hxr : x ++ r with
    | nil =>
      obtain ⟨rfl, rfl⟩ := List.append_eq_nil_iff.mp hxr
      exact ⟨[], rfl⟩
    | cons c cs =>
      refine ⟨[], ?_⟩
      have hp : x.isPrefixOf (c :: cs) = true := by
        rw [← hxr]; exact List.isPrefixOf_iff_prefix.mpr (List.prefix_append x r)
      simp only [List.nil_append, hxr, dropThrough, hp, ↓reduceIte, Option.some.injEq]
      rw [← hxr, List.drop_left]
  | cons a g' ih =>
    simp only [List.cons_append, dropThrough]
    split
    · refine ⟨List.drop x.length (a :: (g' ++ x)), ?_⟩
      have hlen : x.length ≤ (a :: (g' ++ x)).length := by simp; omega
      rw [← List.cons_append, List.drop_append_of_le_length hlen]
    · simpa [List.append_assoc] using ih

/-- The leftmost matching of `occursInOrder` finds an embedding whenever there is one, also behind any
text `u` (the matching may use `u`; what it leaves is again some text in front of the rest). -/
theorem occursInOrder_of_embeds_append {xs : List (List Char)} {s : List Char} (h : Embeds xs s) :
    ∀ u, occursInOrder xs (u ++ s) = true := by
  induction h with
  | nil s => exact fun _ => rfl
  | cons g x xs s' _ ih =>
    intro u
    obtain ⟨u', hu'⟩ := dropThrough_complete x s' (u ++ g)
    simp only [List.append_assoc] at hu'
    simp only [occursInOrder, List.append_assoc, hu']
    exact ih u'

theorem occursInOrder_of_embeds {xs : List (List Char)} {s : List Char} (h : Embeds xs s) :
    occursInOrder xs s = true :=
  occursInOrder_of_embeds_append h []

theorem embeds_items (ps : List Piece) : Embeds (itemTexts ps) (render ps) := by
  induction ps with
  | nil => exact .nil _
  | cons p ps ih =>
    rw [render_cons]
    by_cases hk : p.kind = .item
    · have : itemTexts (p :: ps) = p.text :: itemTexts ps := by simp [itemTexts, hk]
      rw [this]
      exact .cons [] p.text _ _ ih
    · have : itemTexts (p :: ps) = itemTexts ps := by simp [itemTexts, hk]
      rw [this]
      exact ih.extend _

theorem embeds_opt (o : Option (List Char)) :
    Embeds (o.toList.map squeeze) (squeeze (o.getD [])) := by
  cases o with
  | none => exact .nil _
  | some c => exact .single _

theorem embeds_itemContent (f : ListFormatting) (sp : SeparatorPlace) (i : Nat) (last : Bool)
    (item : ListItem) (hs : item.isSubstantial = true) :
    Embeds ((item.preComment.toList ++ item.postComment.toList).map squeeze)
      (itemContent f sp i last item) := by
  unfold itemContent
  simp only [hs, Bool.not_true, Bool.false_eq_true, ↓reduceIte, List.map_append]
  refine (((embeds_opt item.preComment).append_right _).append_right _).append ?_
  split
  · exact (embeds_opt item.postComment).append_right _
  · exact (embeds_opt item.postComment).extend _

theorem embeds_comments (f : ListFormatting) (sp : SeparatorPlace) :
    ∀ (items : List ListItem) (i : Nat), Embeds (commentStrings items) (contentGo f sp i items) := by
  intro items
  induction items with
  | nil => intro i; exact .nil _
  | cons item rest ih =>
    intro i
    simp only [contentGo]
    cases hs : item.isSubstantial with
    | false =>
      have : commentStrings (item :: rest) = commentStrings rest := by simp [commentStrings, hs]
      rw [this]
      exact (ih (i + 1)).extend _
    | true =>
      have : commentStrings (item :: rest) =
          (item.preComment.toList ++ item.postComment.toList).map squeeze ++ commentStrings rest := by
        simp [commentStrings, hs]
      rw [this]
      exact (embeds_itemContent f sp i rest.isEmpty item hs).append (ih (i + 1))

/-- An item without comments whose item string is present and not empty. -/
def Plain (it : ListItem) : Prop :=
  it.preComment = none ∧ it.postComment = none ∧ ∃ s, it.item = some s ∧ s ≠ []

/-- What the loop appends for plain items from index `i` on in a horizontal comma list without a
trailing separator: a space in front of every item but the first, a comma after every item but the last. -/
def horizGo : Nat → List ListItem → List Char
  | _, [] => []
  | i, it :: rest =>
    (if i = 0 then [] else [' ']) ++ it.innerAsRef ++ (if rest.isEmpty then [] else [',']) ++
      horizGo (i + 1) rest

theorem step_plain_horizontal (rc : Rc) (ind : List Char) (i : Nat)
    (it : ListItem) (rest : List ListItem) (st : State)
    (hf : f.tactic = .horizontal) (hsep : f.separator = [','])
    (hts : st.trailingSeparator = false) (hp : Plain it) :
    (step f rc ind .back i it rest st).map (fun s => (render s.pieces, s.trailingSeparator)) =
      some (render st.pieces ++ ((if i = 0 then [] else [' ']) ++ it.innerAsRef ++
        (if rest.isEmpty then [] else [','])), false) := by
  obtain ⟨hpre, hpost, s, hs, hne⟩ := hp
  have hsub : it.isSubstantial = true := by
    simp [ListItem.isSubstantial, ListItem.emptyOpt, hs, hne]
  by_cases hi : i = 0 <;> cases hr : rest.isEmpty <;>
    simp [step, hs, hsub, stepBody, tacticBlank, hf, preCommentPieces, hpre, horizontalPostPieces, hpost,
      verticalPostPieces, itemPieces, backSepPieces, preserveNewlinePieces, mkEnv, separate0, hts,
      SeparatorPlace.isFront, SeparatorPlace.isBack, hsep, hi, hr, ListItem.innerAsRef, bl]

theorem loop_plain_horizontal (rc : Rc) (ind : List Char)
    (hf : f.tactic = .horizontal) (hsep : f.separator = [',']) :
    ∀ (items : List ListItem) (i : Nat) (st : State), (∀ it ∈ items, Plain it) →
      st.trailingSeparator = false →
      (loop f rc ind .back i items st).map (fun s => render s.pieces) =
        some (render st.pieces ++ horizGo i items) := by
  intro items
  induction items with
  | nil => intro i st _ _; simp [loop, horizGo]
  | cons it rest ih =>
    intro i st hp hts
    have h1 := step_plain_horizontal rc ind i it rest st hf hsep hts (hp it List.mem_cons_self)
    simp only [Option.map_eq_some_iff, Prod.mk.injEq] at h1
    obtain ⟨st1, hst1, hr1, hts1⟩ := h1
    simp only [loop, hst1]
    rw [ih (i + 1) st1 (fun x hx => hp x (List.mem_cons_of_mem _ hx)) hts1, hr1]
    simp [horizGo, List.append_assoc]

theorem strWidth_cons (x : Char) (l : List Char) :
    strWidth (x :: l) = (if x = '\n' || (x = '\r' && l.head? = some '\n') then 0 else 1) + strWidth l := rfl

theorem strWidth_cons_plain (x : Char) (l : List Char) (h1 : x ≠ '\n') (h2 : x ≠ '\r') :
    strWidth (x :: l) = 1 + strWidth l := by
  simp [strWidth_cons, h1, h2]

/-- `str_width` is additive except across a `\r` | `\n` boundary. -/
theorem strWidth_append (a b : List Char) (hb : b.head? ≠ some '\n') :
    strWidth (a ++ b) = strWidth a + strWidth b := by
  induction a with
  | nil => simp [strWidth]
  | cons x xs ih =>
    cases xs with
    | nil =>
      simp only [List.cons_append, List.nil_append, strWidth_cons, List.head?_nil]
      have : (x = '\r' && b.head? = some '\n') = false := by simp [hb]
      simp [this, strWidth]
    | cons y ys =>
      rw [List.cons_append, strWidth_cons x ((y :: ys) ++ b), strWidth_cons x (y :: ys), ih]
      simp only [List.cons_append, List.head?_cons, Nat.add_assoc]
      congr 1

/-- The width of what the loop appends: the items, a comma behind every item but the last, a space in
front of every item (but the first one of the list). -/
theorem strWidth_horizGo (items : List ListItem) : ∀ i,
    strWidth (horizGo i items) = (items.map fun it => strWidth it.innerAsRef).sum + (items.length - 1) +
      (if i = 0 then items.length - 1 else items.length) := by
  induction items with
  | nil => intro i; simp [horizGo, strWidth]
  | cons it rest ih =>
    intro i
    have htail : strWidth ((if rest.isEmpty then [] else [',']) ++ horizGo (i + 1) rest) =
        (rest.map fun it => strWidth it.innerAsRef).sum + 2 * rest.length := by
      have := ih (i + 1)
      cases rest with
      | nil => simp [horizGo, strWidth]
      | cons it2 rest2 =>
        simp only [List.isEmpty_cons, Bool.false_eq_true, ↓reduceIte, List.cons_append, List.nil_append]
        rw [strWidth_cons_plain ',' _ (by decide) (by decide), this]
        simp only [List.length_cons, Nat.succ_ne_zero, ↓reduceIte]
        omega
    have hh : ((if rest.isEmpty then [] else [',']) ++ horizGo (i + 1) rest).head? ≠ some '\n' := by
      cases rest <;> simp [horizGo]
    rw [horizGo, List.append_assoc, strWidth_append _ _ hh, htail]
    simp only [List.map_cons, List.sum_cons, List.length_cons, Nat.add_sub_cancel]
    split
    · simp only [List.nil_append]; omega
    · rw [List.cons_append, List.nil_append, strWidth_cons_plain ' ' _ (by decide) (by decide)]; omega

/-- The width of a plain list written horizontally is what `definitive_tactic` measures. -/
theorem strWidth_horizGo_zero (items : List ListItem) :
    strWidth (horizGo 0 items) = (items.map fun it => strWidth it.innerAsRef).sum + 2 * (items.length - 1) := by
  rw [strWidth_horizGo, if_pos rfl]
  omega

theorem totalItemWidth_plain {it : ListItem} (h : Plain it) : totalItemWidth it = strWidth it.innerAsRef := by
  obtain ⟨h1, h2, s, hs, _⟩ := h
  simp [totalItemWidth, h1, h2, hs, commentLen, ListItem.innerAsRef]

end RF.Lemmas.Lists

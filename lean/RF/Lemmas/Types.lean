import RF.Model.Types
/-!
TYPES — the induction behind `types_tokens_preserved`: for every tree, every piece position and
every oracle, a rewriter with `Env.pinned = false` returns `none` or the canonical tokens of its tree (`Ok`).  `Ok` is
closed under the operations the rewriters are built from; each case of the induction is their composition.
-/
namespace RF.Types
open RF.Tok

/-- the answer of a rewriter is acceptable: a failure, or exactly the canonical tokens -/
def Ok {α : Type} (o : Option α) (c : α) : Prop := o = none ∨ o = some c

theorem Ok.pure {α : Type} (c : α) : Ok (Pure.pure c) c := .inr rfl

theorem Ok.bind {α β : Type} {a : Option α} {c : α} {f : α → Option β} {d : β} (ha : Ok a c) (hf : Ok (f c) d) :
    Ok (a >>= f) d := by
  rcases ha with rfl | rfl
  · exact .inl rfl
  · exact hf

theorem Ok.map {α β : Type} {a : Option α} {c : α} (f : α → β) (ha : Ok a c) : Ok (a.map f) (f c) := by
  rcases ha with rfl | rfl
  · exact .inl rfl
  · exact .inr rfl

theorem pick_ok {α : Type} {a b : Option α} {c : α} (f : Bool) (ha : Ok a c) (hb : Ok b c) : Ok (pick f a b) c := by
  rcases ha with rfl | rfl <;> rcases hb with rfl | rfl
  · exact .inl rfl
  · exact .inr rfl
  · exact .inr rfl
  · exact .inr (congrArg some (ite_self c))

theorem att_ok {α : Type} {a : Option α} {c : α} (f : Bool) (ha : Ok a c) : Ok (att f a) c := by
  cases f
  · exact .inl rfl
  · exact ha

theorem joinB_ok {a b : Option (List Toks)} {c : List Toks} (f : Bool) (ha : Ok a c) (hb : Ok b c) :
    Ok (joinB a f b) (sepBy plus c) := by
  rcases ha with rfl | rfl
  · exact .inl rfl
  · cases f
    · exact hb.map _
    · exact .inr rfl

/-- `pinned = true` reads a failure as "no binder"; that is harmless where the parameters do rewrite -/
theorem binderPre_ok' {a : Option (List Toks)} {c : List Toks} (pinned : Bool) (o : Toks) (ha : Ok a c)
    (hp : pinned = false ∨ a = some c) :
    Ok (binderPre pinned o a) (if c.isEmpty then [] else o ++ sepBy comma c ++ [tP '>']) := by
  rcases hp with rfl | rfl
  · rcases ha with rfl | rfl
    · exact .inl rfl
    · exact .inr rfl
  · exact .inr rfl

theorem unsafePre_ok' {a : Option (List Toks)} {c : List Toks} (pinned : Bool) (ha : Ok a c)
    (hp : pinned = false ∨ a = some c) :
    Ok (unsafePre pinned a) ([kw "unsafe", tP '<'] ++ sepBy comma c ++ [tP '>']) := by
  rcases hp with rfl | rfl
  · rcases ha with rfl | rfl
    · exact .inl rfl
    · exact .inr rfl
  · exact .inr rfl

theorem binderPre_ok {a : Option (List Toks)} {c : List Toks} (o : Toks) (ha : Ok a c) :
    Ok (binderPre false o a) (if c.isEmpty then [] else o ++ sepBy comma c ++ [tP '>']) :=
  binderPre_ok' false o ha (.inl rfl)

theorem unsafePre_ok {a : Option (List Toks)} {c : List Toks} (ha : Ok a c) :
    Ok (unsafePre false a) ([kw "unsafe", tP '<'] ++ sepBy comma c ++ [tP '>']) :=
  unsafePre_ok' false ha (.inl rfl)

/-- a binder of lifetimes always rewrites -/
theorem rwParams_lifetimes (e : Env) : ∀ (b : Params) (p : Piece) (i : Nat), lbParams b = true →
    rwParams e p i b = some (canonParams e.abi b)
  | .nil, p, i, _ => rfl
  | .lifetime n bs r, p, i, h => by
      rw [rwParams, canonParams, rwParams_lifetimes e r p (i + 1) h]
      rfl
  | .type .., p, i, h => nomatch h
  | .const .., p, i, h => nomatch h

/-- not the old code, or a binder of lifetimes (which rewrites) -/
macro "lb_pin" h:ident : tactic =>
  `(tactic| (try simp only [lbTy, lbOptTy, lbTys, lbSegs, lbGArgs, lbBounds, lbFnArgs, Bool.and_eq_true] at $h:ident
             rcases $h:ident with hh | hh
             · exact Or.inl hh
             · exact Or.inr (rwParams_lifetimes _ _ _ _ (by grind))))

/-- the hypothesis of a child from the hypothesis of its parent -/
theorem or_and_left {P : Prop} {a b : Bool} (h : P ∨ (a && b) = true) : P ∨ a = true :=
  h.imp_right fun h => (Bool.and_eq_true_iff.mp h).1

theorem or_and_right {P : Prop} {a b : Bool} (h : P ∨ (a && b) = true) : P ∨ b = true :=
  h.imp_right fun h => (Bool.and_eq_true_iff.mp h).2

/- Each case follows the `do` block of its rewriter: `Ok.bind` for a `←`, `att_ok` / `pick_ok` / `joinB_ok` /
`binderPre_ok'` for the combinators, `Ok.pure` at the end; that the tokens put together are the canonical ones holds by
unfolding. -/
mutual
theorem rwTy_ok (e : Env) : ∀ (t : Ty) (p : Piece), (e.pinned = false ∨ lbTy t = true) → Ok (rwTy e p t) (canonTy e.abi t)
  | .path _ segs, p, h => att_ok _ ((rwSegs_ok e segs (p ++ [0]) 0 false h).bind (.pure _))
  | .qpath q _ tr rest, p, h =>
      att_ok _ <| (rwTy_ok e q (p ++ [0]) (or_and_left (or_and_left h))).bind <|
        (rwSegs_ok e tr (p ++ [1]) 0 false (or_and_right (or_and_left h))).bind <|
        (rwSegs_ok e rest (p ++ [2]) 0 false (or_and_right h)).bind (.pure _)
  | .ref _ _ t, p, h => att_ok _ ((rwTy_ok e t (p ++ [0]) h).bind (.pure _))
  | .ptr _ t, p, h => att_ok _ ((rwTy_ok e t (p ++ [0]) h).bind (.pure _))
  | .never, _, _ => .inr rfl
  | .infer, _, _ => att_ok _ (.inr rfl)
  | .tup ts, p, h => att_ok _ ((rwTys_ok e ts (p ++ [0]) 0 h).bind (.pure _))
  | .paren t, p, h => (pick_ok _ (att_ok _ (rwTy_ok e t (p ++ [0]) h)) (rwTy_ok e t (p ++ [1]) h)).map _
  | .array t _, p, h => att_ok _ ((rwTy_ok e t (p ++ [0]) h).bind (.pure _))
  | .slice t, p, h => att_ok _ ((rwTy_ok e t (p ++ [0]) h).bind (.pure _))
  | .implTrait bs, p, h =>
      (joinB_ok _ (rwBounds_ok e bs (p ++ [0]) 0 h) (rwBounds_ok e bs (p ++ [1]) 0 h)).bind (.pure _)
  | .traitObj _ bs, p, h =>
      att_ok _ ((joinB_ok _ (rwBounds_ok e bs (p ++ [0]) 0 h) (rwBounds_ok e bs (p ++ [1]) 0 h)).bind (.pure _))
  | .bareFn b _ _ args _ ret, p, h =>
      have hb := or_and_left (or_and_left h)
      (binderPre_ok' e.pinned _ (rwParams_ok e b (p ++ [0]) 0 hb) (hb.imp_right (rwParams_lifetimes e b _ _))).bind <|
        att_ok _ <| (rwOptTy_ok e ret (p ++ [2]) arrow (or_and_right h)).bind <|
        (rwFnArgs_ok e args (p ++ [1]) 0 (or_and_right (or_and_left h))).bind (.pure _)
  | .unsafeBinder b t, p, h =>
      have hb := or_and_left h
      (unsafePre_ok' e.pinned (rwParams_ok e b (p ++ [0]) 0 hb) (hb.imp_right (rwParams_lifetimes e b _ _))).bind <|
        att_ok _ ((rwTy_ok e t (p ++ [1]) (or_and_right h)).bind (.pure _))
  | .pat t _ _ _, p, h => (rwTy_ok e t (p ++ [0]) h).bind (att_ok _ (.inr rfl))
theorem rwOptTy_ok (e : Env) :
    ∀ (t : OptTy) (p : Piece) (pre : Toks), (e.pinned = false ∨ lbOptTy t = true) → Ok (rwOptTy e p pre t) (canonOptTy e.abi pre t)
  | .none, _, _, _ => .inr rfl
  | .some t, p, _, h => (rwTy_ok e t p h).bind (.pure _)
theorem rwTys_ok (e : Env) :
    ∀ (ts : Tys) (p : Piece) (i : Nat), (e.pinned = false ∨ lbTys ts = true) → Ok (rwTys e p i ts) (canonTys e.abi ts)
  | .nil, _, _, _ => .inr rfl
  | .cons t r, p, i, h =>
      (pick_ok _ (rwTy_ok e t (p ++ [i, 0]) (or_and_left h)) (rwTy_ok e t (p ++ [i, 1]) (or_and_left h))).bind <|
        (rwTys_ok e r p (i + 1) (or_and_right h)).bind (.pure _)
theorem rwTysPlain_ok (e : Env) :
    ∀ (ts : Tys) (p : Piece) (i : Nat), (e.pinned = false ∨ lbTys ts = true) → Ok (rwTysPlain e p i ts) (canonTys e.abi ts)
  | .nil, _, _, _ => .inr rfl
  | .cons t r, p, i, h =>
      (rwTy_ok e t (p ++ [i]) (or_and_left h)).bind <| (rwTysPlain_ok e r p (i + 1) (or_and_right h)).bind (.pure _)
theorem rwSegs_ok (e : Env) :
    ∀ (s : Segs) (p : Piece) (i : Nat) (expr : Bool), (e.pinned = false ∨ lbSegs s = true) → Ok (rwSegs e p i expr s) (canonSegs e.abi expr s)
  | .nil, _, _, _, _ => .inr rfl
  | .plain _ r, p, i, expr, h => att_ok _ ((rwSegs_ok e r p (i + 1) expr h).bind (.pure _))
  | .angle _ args r, p, i, expr, h =>
      att_ok _ <| (att_ok _ (rwGArgs_ok e args (p ++ [i, 0]) 0 (or_and_left h))).bind <|
        (rwSegs_ok e r p (i + 1) expr (or_and_right h)).bind (.pure _)
  | .fn _ ins ret r, p, i, expr, h =>
      att_ok _ <| (rwOptTy_ok e ret (p ++ [i, 1]) arrow (or_and_right (or_and_left h))).bind <|
        (rwTysPlain_ok e ins (p ++ [i, 0]) 0 (or_and_left (or_and_left h))).bind <|
        (rwSegs_ok e r p (i + 1) expr (or_and_right h)).bind (.pure _)
  | .elided _ r, p, i, expr, h => att_ok _ ((rwSegs_ok e r p (i + 1) expr h).bind (.pure _))
theorem rwGArgs_ok (e : Env) :
    ∀ (a : GArgs) (p : Piece) (i : Nat), (e.pinned = false ∨ lbGArgs a = true) → Ok (rwGArgs e p i a) (canonGArgs e.abi a)
  | .nil, _, _, _ => .inr rfl
  | .lt _ r, p, i, h => (rwGArgs_ok e r p (i + 1) h).bind (.pure _)
  | .ty t r, p, i, h =>
      (pick_ok _ (rwTy_ok e t (p ++ [i, 0]) (or_and_left h)) (rwTy_ok e t (p ++ [i, 1]) (or_and_left h))).bind <|
        (rwGArgs_ok e r p (i + 1) (or_and_right h)).bind (.pure _)
  | .const _ _ r, p, i, h => att_ok _ ((rwGArgs_ok e r p (i + 1) h).bind (.pure _))
  | .assocEq _ ga t r, p, i, h =>
      att_ok _ <| (att_ok _ (rwGArgs_ok e ga (p ++ [i, 0]) 0 (or_and_left (or_and_left h)))).bind <|
        (rwTy_ok e t (p ++ [i, 1]) (or_and_right (or_and_left h))).bind <|
        (rwGArgs_ok e r p (i + 1) (or_and_right h)).bind (.pure _)
  | .assocBound _ ga bs r, p, i, h =>
      have hbs := or_and_right (or_and_left h)
      att_ok _ <| (att_ok _ (rwGArgs_ok e ga (p ++ [i, 0]) 0 (or_and_left (or_and_left h)))).bind <|
        (joinB_ok _ (rwBounds_ok e bs (p ++ [i, 1]) 0 hbs) (rwBounds_ok e bs (p ++ [i, 2]) 0 hbs)).bind <|
        (rwGArgs_ok e r p (i + 1) (or_and_right h)).bind (.pure _)
theorem rwBounds_ok (e : Env) :
    ∀ (b : Bounds) (p : Piece) (i : Nat), (e.pinned = false ∨ lbBounds b = true) → Ok (rwBounds e p i b) (canonBounds e.abi b)
  | .nil, _, _, _ => .inr rfl
  | .trait _ b _ _ _ _ path r, p, i, h =>
      have hb := or_and_left (or_and_left h)
      (binderPre_ok' e.pinned _ (rwParams_ok e b (p ++ [i, 0]) 0 hb) (hb.imp_right (rwParams_lifetimes e b _ _))).bind <|
        Ok.bind (att_ok _ ((rwSegs_ok e path (p ++ [i, 1]) 0 false (or_and_right (or_and_left h))).bind (.pure _))) <|
        (rwBounds_ok e r p (i + 1) (or_and_right h)).bind (.pure _)
  | .outlives _ r, p, i, h => (rwBounds_ok e r p (i + 1) h).bind (.pure _)
  | .use _ r, p, i, h => (att_ok _ (.inr rfl)).bind <| (rwBounds_ok e r p (i + 1) h).bind (.pure _)
theorem rwParams_ok (e : Env) :
    ∀ (b : Params) (p : Piece) (i : Nat), (e.pinned = false ∨ lbParams b = true) → Ok (rwParams e p i b) (canonParams e.abi b)
  | .nil, _, _, _ => .inr rfl
  | .lifetime _ _ r, p, i, h => (rwParams_ok e r p (i + 1) h).bind (.pure _)
  | .type _ bs d r, p, i, h =>
      -- not a binder of lifetimes, so `e.pinned = false`
      have hp {b : Bool} : e.pinned = false ∨ b = true := h.imp_right nofun
      Ok.bind (att_ok _ <| (joinB_ok _ (rwBounds_ok e bs (p ++ [i, 0]) 0 hp) (rwBounds_ok e bs (p ++ [i, 1]) 0 hp)).bind <|
        (rwOptTy_ok e d (p ++ [i, 3]) [tP '='] hp).bind (.pure _)) <|
        (rwParams_ok e r p (i + 1) hp).bind (.pure _)
  | .const _ t _ r, p, i, h =>
      have hp {b : Bool} : e.pinned = false ∨ b = true := h.imp_right nofun
      Ok.bind (att_ok _ ((rwTy_ok e t (p ++ [i, 0]) hp).bind (.pure _))) <| (rwParams_ok e r p (i + 1) hp).bind (.pure _)
theorem rwFnArgs_ok (e : Env) :
    ∀ (a : FnArgs) (p : Piece) (i : Nat), (e.pinned = false ∨ lbFnArgs a = true) → Ok (rwFnArgs e p i a) (canonFnArgs e.abi a)
  | .nil, _, _, _ => .inr rfl
  | .cons _ t r, p, i, h =>
      (rwTy_ok e t (p ++ [i]) (or_and_left h)).bind <| (rwFnArgs_ok e r p (i + 1) (or_and_right h)).bind (.pure _)
end

theorem rwBoundsJoined_ok (e : Env) (p : Piece) (bs : Bounds) (h : e.pinned = false ∨ lbBounds bs = true) :
    Ok (rwBoundsJoined e p bs) (sepBy plus (canonBounds e.abi bs)) :=
  joinB_ok _ (rwBounds_ok e bs _ 0 h) (rwBounds_ok e bs _ 0 h)

end RF.Types

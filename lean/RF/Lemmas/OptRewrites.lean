import RF.Model.OptRewrites
import RF.Lemmas.Literal
/-!
Facts about the definitions of `RF/Model/OptRewrites.lean` that the theorems of `RF/Props/OptRewrites.lean` (and of
`RF/Props/Attrs.lean`) rest on, by section of the model: an initialiser that renders to an identifier is a one-segment
path (§1); the wildcard suffix and what a tuple pattern with or without `..` denotes (§3); what blocks a step of
`PExpr.norm` survives it (§4); `takeRun`, `deriveSeqIn`
and the line splitting of doc values (§6); `readAlts` (§7); `rustc_lexer`'s `number` does not look beyond a stop
character, and the last character of a printed float literal (§8).
-/
namespace RF.Lemmas.OptRewrites
open RF.Opt

/-! ### plain facts about lists -/

/- an element that fails `p` stops `takeWhile p` / `dropWhile p`, whatever stands in front of it -/
theorem takeWhile_append_of_stop {α : Type} {p : α → Bool} (s : List α) (c : α) (rest : List α) (hc : p c = false) :
    (s ++ c :: rest).takeWhile p = s.takeWhile p := by
  induction s with
  | nil => simp [hc]
  | cons a r ih =>
    by_cases ha : p a = true
    · simp [List.takeWhile, ha, ih]
    · have : p a = false := by simpa using ha
      simp [List.takeWhile, this]

theorem dropWhile_append_of_stop {α : Type} {p : α → Bool} (s : List α) (c : α) (rest : List α) (hc : p c = false) :
    (s ++ c :: rest).dropWhile p = s.dropWhile p ++ c :: rest := by
  induction s with
  | nil => simp [hc]
  | cons a r ih =>
    by_cases ha : p a = true
    · simp [List.dropWhile, ha, ih]
    · have : p a = false := by simpa using ha
      simp [List.dropWhile, this]

theorem takeWhile_append_stop {α : Type} {p : α → Bool} (a : List α) (x : α) (r : List α)
    (ha : ∀ y ∈ a, p y = true) (hx : p x = false) : (a ++ x :: r).takeWhile p = a := by
  rw [List.takeWhile_append_of_pos ha, List.takeWhile_cons_of_neg (by simp [hx]), List.append_nil]

theorem dropWhile_append_stop {α : Type} {p : α → Bool} (a : List α) (x : α) (r : List α)
    (ha : ∀ y ∈ a, p y = true) (hx : p x = false) : (a ++ x :: r).dropWhile p = x :: r := by
  rw [List.dropWhile_append_of_pos ha, List.dropWhile_cons_of_neg (by simp [hx])]

theorem dropWhile_singleton_getLast {α : Type} {p : α → Bool} (t : List α) (x : α) (h : t.dropWhile p = [x]) :
    t.getLast? = some x := by
  induction t with
  | nil => simp at h
  | cons a r ih =>
    by_cases ha : p a = true
    · simp only [List.dropWhile, ha] at h
      have := ih h
      cases r with
      | nil => simp at h
      | cons b r' => rw [List.getLast?_cons_cons]; exact this
    · have : p a = false := by simpa using ha
      simp only [List.dropWhile, this] at h
      simp at h
      obtain ⟨h1, h2⟩ := h
      subst h1 h2; simp

theorem getLast?_append_ne {α : Type} (a b : List α) (h : b ≠ []) : (a ++ b).getLast? = b.getLast? := by
  induction a with
  | nil => simp
  | cons x r ih =>
    have : r ++ b ≠ [] := by simp [h]
    cases hrb : r ++ b with
    | nil => exact absurd hrb this
    | cons y t => rw [List.cons_append, hrb, List.getLast?_cons_cons, ← hrb, ih]

theorem dropLast_append_last {α : Type} (l : List α) (x : α) (h : l.getLast? = some x) : l.dropLast ++ [x] = l := by
  induction l with
  | nil => simp at h
  | cons a r ih =>
    cases r with
    | nil => simp at h; subst h; simp
    | cons b r' =>
      rw [List.getLast?_cons_cons] at h
      simp only [List.dropLast_cons_cons, List.cons_append]
      rw [ih h]

/-! ### §1 an initialiser whose rendering looks like an identifier -/

theorem all_append_false {p : Char → Bool} {a b : List Char} {c : Char} (hc : p c = false) :
    (a ++ c :: b).all p = false := by
  simp [List.all_append, hc]

theorem identLike_all {s : Str} (h : identLike s = true) : s.all isIdentChar = true := by
  simp [identLike] at h; simpa using h.2

theorem identLike_ne_nil {s : Str} (h : identLike s = true) : s ≠ [] := by
  intro hs; subst hs; simp [identLike] at h

theorem not_identLike_of_mem {s : Str} {c : Char} (hm : c ∈ s) (hc : isIdentChar c = false) :
    ¬ identLike s = true := fun h => by
  have := List.all_eq_true.mp (identLike_all h) c hm
  rw [hc] at this
  cases this

theorem renderSegs_cons_cons (s t : Seg) (r : List Seg) :
    renderSegs (s :: t :: r) = s.render ++ [':', ':'] ++ renderSegs (t :: r) := rfl

/-- a path renders to something that looks like an identifier only if it is one plain segment -/
theorem path_identLike {g : Bool} {segs : List Seg} (h : identLike (Init.path g segs).render = true) :
    g = false ∧ ∃ i, segs = [⟨i, none⟩] ∧ (Init.path g segs).render = i := by
  cases g with
  | true => exact absurd h (not_identLike_of_mem (c := ':') (by simp [Init.render]) rfl)
  | false =>
    refine ⟨rfl, ?_⟩
    match segs with
    | [] => simp [Init.render, renderSegs, identLike] at h
    | [⟨i, none⟩] => exact ⟨i, rfl, by simp [Init.render, renderSegs, Seg.render]⟩
    | [⟨i, some a⟩] =>
      exact absurd h (not_identLike_of_mem (c := ':') (by simp [Init.render, renderSegs, Seg.render]) rfl)
    | s :: t :: r =>
      exact absurd h (not_identLike_of_mem (c := ':') (by simp [Init.render, renderSegs_cons_cons]) rfl)

/-- **what the text comparison of `rewrite_field` amounts to**: an initialiser that is not a literal and whose rendering
looks like an identifier is the one-segment path of that name, without generic arguments, `::`, parentheses, attributes
or operators -/
theorem render_identLike {e : Init} (hl : e.isLit = false) (h : identLike e.render = true) :
    e = .path false [⟨e.render, none⟩] := by
  cases e with
  | path g segs =>
    obtain ⟨hg, i, hs, hr⟩ := path_identLike h
    subst hg; subst hs; rw [hr]
  | lit t => simp [Init.isLit] at hl
  -- every other form prints a character no identifier has
  | paren e => exact absurd h (not_identLike_of_mem (c := '(') (by simp [Init.render]) rfl)
  | field e n => exact absurd h (not_identLike_of_mem (c := '.') (by simp [Init.render]) rfl)
  | attr a e => exact absurd h (not_identLike_of_mem (c := '[') (by simp [Init.render]) rfl)
  | cast e ty => exact absurd h (not_identLike_of_mem (c := ' ') (by simp [Init.render]) rfl)
  | addrOf e => exact absurd h (not_identLike_of_mem (c := '&') (by simp [Init.render]) rfl)
  | try_ e => exact absurd h (not_identLike_of_mem (c := '?') (by simp [Init.render]) rfl)
  | neg e => exact absurd h (not_identLike_of_mem (c := '-') (by simp [Init.render]) rfl)
  | call e => exact absurd h (not_identLike_of_mem (c := '(') (by simp [Init.render]) rfl)
  | mac n => exact absurd h (not_identLike_of_mem (c := '!') (by simp [Init.render]) rfl)

/-! ### §3 the wildcard suffix -/

theorem countSuffixRev_le (l : List TItem) : countSuffixRev l ≤ l.length := by
  induction l with
  | nil => simp [countSuffixRev]
  | cons i r ih =>
    simp only [countSuffixRev, List.length_cons]
    split
    · split <;> omega
    · omega

theorem countSuffixRev_wild (l : List TItem) : ∀ i ∈ l.take (countSuffixRev l), i.text = wildText := by
  induction l with
  | nil => simp [countSuffixRev]
  | cons i r ih =>
    simp only [countSuffixRev]
    by_cases hw : (i.text == wildText) = true
    · simp only [hw, if_true]
      by_cases hc : i.hasComment = true
      · simp only [hc, if_true]
        intro j hj
        simp at hj
        subst hj
        simpa using hw
      · have hc' : i.hasComment = false := by simpa using hc
        simp only [hc', Bool.false_eq_true, if_false]
        intro j hj
        have : (1 + countSuffixRev r) = countSuffixRev r + 1 := by omega
        rw [this, List.take_succ_cons] at hj
        simp only [List.mem_cons] at hj
        rcases hj with hj | hj
        · subst hj; simpa using hw
        · exact ih j hj
    · simp [hw]

theorem count_le_length (items : List TItem) : countWildcardSuffixLen items ≤ items.length := by
  have := countSuffixRev_le items.reverse
  simpa [countWildcardSuffixLen] using this

/-- the last `countWildcardSuffixLen items` elements are rendered `_` -/
theorem suffix_is_wild (items : List TItem) :
    (items.drop (items.length - countWildcardSuffixLen items)).map TItem.text =
      List.replicate (countWildcardSuffixLen items) wildText := by
  have hle := count_le_length items
  have hw := countSuffixRev_wild items.reverse
  unfold countWildcardSuffixLen at *
  generalize hcdef : countSuffixRev items.reverse = c at *
  have hrev : items.drop (items.length - c) = (items.reverse.take c).reverse := by
    rw [List.take_reverse]; simp
  rw [hrev]
  apply List.ext_getElem
  · simp [List.length_take]; omega
  · intro n h1 h2
    simp only [List.getElem_map, List.getElem_replicate]
    apply hw
    have : ((List.take c items.reverse).reverse)[n]'(by simpa using h1) ∈ (List.take c items.reverse).reverse :=
      List.getElem_mem _
    simpa using this

/-- a pattern without `..` fits tuples of its own length only, and says what it says -/
theorem tupleDen_of_no_rest (n : Nat) {pats : List Str} (h : ∀ y ∈ pats, (y == restText) = false) :
    tupleDen n pats = if pats.length = n then some pats else none := by
  unfold tupleDen
  rw [List.filter_eq_nil_iff.mpr fun y hy => by simp [h y hy]]
  rfl

/-- a `..` at the end stands for the fields the front does not name -/
theorem tupleDen_append_rest (n : Nat) {front : List Str} (h : ∀ y ∈ front, (y == restText) = false)
    (hle : front.length ≤ n) :
    tupleDen n (front ++ [restText]) = some (front ++ List.replicate (n - front.length) wildText) := by
  have hne : ∀ y ∈ front, (y != restText) = true := fun y hy => by simp [bne, h y hy]
  unfold tupleDen
  rw [List.filter_append, List.filter_eq_nil_iff.mpr fun y hy => by simp [h y hy]]
  simp only [List.nil_append, List.length_singleton, List.length_append, Nat.add_sub_cancel, if_pos hle]
  rw [takeWhile_append_stop front restText [] hne (by simp [bne]),
    dropWhile_append_stop front restText [] hne (by simp [bne])]
  simp

/-! ### §4 nested parentheses -/

/-- what blocks a step is still there after the inner steps -/
theorem norm_paren_attrs (opt : Bool) (a pre post : Str) (inner : PExpr) :
    ∃ p q i, (PExpr.paren a pre post inner).norm opt = .paren a p q i := by
  induction inner generalizing pre post with
  | atom t => exact ⟨pre, post, .atom t, by rw [PExpr.norm]⟩
  | paren a2 p2 q2 i2 ih =>
    rw [PExpr.norm]
    split
    · exact ih p2 q2
    · exact ⟨pre, post, _, rfl⟩

/-! ### §6 attribute runs -/

theorem takeRun_le (pred : Attr → Bool) (l : List AttrIn) : takeRun pred l ≤ l.length := by
  induction l with
  | nil => simp [takeRun]
  | cons a r ih =>
    simp only [takeRun, List.length_cons]
    split
    · split
      · omega
      · split <;> omega
    · omega

theorem takeRun_cons_cons (pred : Attr → Bool) (a b : AttrIn) (r : List AttrIn) :
    takeRun pred (a :: b :: r) =
      if pred a.attr then (if decide (a.gapNewlines ≥ 2) || a.gapSlash then 1 else 1 + takeRun pred (b :: r)) else 0 :=
  rfl

theorem takeRun_pos_iff (pred : Attr → Bool) (a : AttrIn) (r : List AttrIn) :
    takeRun pred (a :: r) ≥ 1 ↔ pred a.attr = true := by
  cases hp : pred a.attr
  · rw [takeRun, hp]
    exact ⟨nofun, nofun⟩
  · simp only [takeRun, hp, if_true, iff_true]
    split
    · omega
    · split <;> omega

theorem takeRun_pred (pred : Attr → Bool) (l : List AttrIn) :
    ∀ a ∈ l.take (takeRun pred l), pred a.attr = true := by
  induction l with
  | nil => simp [takeRun]
  | cons a r ih =>
    by_cases hp : pred a.attr = true
    · simp only [takeRun, hp, if_true]
      intro x hx
      split at hx
      · simp at hx; subst hx; exact hp
      · split at hx
        · simp at hx; subst hx; exact hp
        · have : (1 + takeRun pred r) = takeRun pred r + 1 := by omega
          rw [this, List.take_succ_cons] at hx
          simp only [List.mem_cons] at hx
          rcases hx with hx | hx
          · subst hx; exact hp
          · exact ih x hx
    · simp [takeRun, hp]

theorem deriveSeqIn_append (xs ys : List AttrIn) : deriveSeqIn (xs ++ ys) = deriveSeqIn xs ++ deriveSeqIn ys := by
  induction xs with
  | nil => simp [deriveSeqIn]
  | cons a r ih =>
    simp only [List.cons_append, deriveSeqIn]
    split <;> simp [ih]

theorem deriveSeqIn_split (n : Nat) (xs : List AttrIn) :
    deriveSeqIn xs = deriveSeqIn (xs.take n) ++ deriveSeqIn (xs.drop n) := by
  rw [← deriveSeqIn_append, List.take_append_drop]

theorem deriveSeqIn_docs (xs : List AttrIn) (h : ∀ a ∈ xs, a.attr.isDocComment = true) :
    deriveSeqIn xs = xs.map (fun _ => none) := by
  induction xs with
  | nil => simp [deriveSeqIn]
  | cons a r ih =>
    have ha := h a (by simp)
    have := ih (fun x hx => h x (by simp [hx]))
    cases hattr : a.attr <;> simp [hattr, Attr.isDocComment] at ha
    simp [deriveSeqIn, hattr, this]

theorem deriveSeqIn_derives (xs : List AttrIn) (ps : List Str) (h : collectPaths xs = some ps) :
    deriveSeqIn xs = ps.map some := by
  induction xs generalizing ps with
  | nil => simp [collectPaths] at h; subst h; simp [deriveSeqIn]
  | cons a r ih =>
    unfold collectPaths at h
    cases hattr : a.attr with
    | derive o =>
      cases o with
      | none => simp [hattr] at h
      | some p =>
        cases hr : collectPaths r with
        | none => simp [hattr, hr] at h
        | some q =>
          simp [hattr, hr] at h
          subst h
          simp [deriveSeqIn, hattr, ih q hr]
    | docComment t => simp [hattr] at h
    | docAttr i v => simp [hattr] at h
    | other t => simp [hattr] at h

/-! ### §6 lines -/

theorem splitLF_ne_nil (s : Str) : splitLF s ≠ [] := by
  cases s with
  | nil => simp [splitLF]
  | cons c r =>
    simp only [splitLF]
    split
    · simp
    · split <;> simp

theorem splitLF_cons_ne (c : Char) (r : Str) (hc : c ≠ '\n') :
    ∃ h t, splitLF r = h :: t ∧ splitLF (c :: r) = (c :: h) :: t := by
  have hne := splitLF_ne_nil r
  cases hr : splitLF r with
  | nil => exact absurd hr hne
  | cons h t =>
    refine ⟨h, t, rfl, ?_⟩
    simp [splitLF, hc, hr]

theorem joinWith_cons_cons (sep x y : Str) (r : List Str) :
    joinWith sep (x :: y :: r) = x ++ sep ++ joinWith sep (y :: r) := rfl

theorem joinWith_cons_ne (sep x : Str) (r : List Str) (h : r ≠ []) :
    joinWith sep (x :: r) = x ++ sep ++ joinWith sep r := by
  cases r with
  | nil => exact absurd rfl h
  | cons y r => rfl

theorem joinWith_splitLF (s : Str) : joinWith ['\n'] (splitLF s) = s := by
  induction s with
  | nil => simp [splitLF, joinWith]
  | cons c r ih =>
    by_cases hc : c = '\n'
    · subst hc
      have : splitLF ('\n' :: r) = [] :: splitLF r := by simp [splitLF]
      rw [this, joinWith_cons_ne _ _ _ (splitLF_ne_nil r), ih]; simp
    · obtain ⟨h, t, hr, hcr⟩ := splitLF_cons_ne c r hc
      rw [hcr]
      rw [hr] at ih
      cases t with
      | nil => simp [joinWith] at ih ⊢; exact ih
      | cons y t' =>
        rw [joinWith_cons_cons] at ih ⊢
        simp at ih ⊢; exact ih

theorem splitLF_no_lf (s : Str) : ∀ l ∈ splitLF s, '\n' ∉ l := by
  induction s with
  | nil => simp [splitLF]
  | cons c r ih =>
    by_cases hc : c = '\n'
    · subst hc
      have : splitLF ('\n' :: r) = [] :: splitLF r := by simp [splitLF]
      rw [this]; intro l hl
      simp only [List.mem_cons] at hl
      rcases hl with hl | hl
      · subst hl; simp
      · exact ih l hl
    · obtain ⟨h, t, hr, hcr⟩ := splitLF_cons_ne c r hc
      rw [hcr]; rw [hr] at ih
      intro l hl
      simp only [List.mem_cons] at hl
      rcases hl with hl | hl
      · subst hl
        have := ih h (by simp)
        simp only [List.mem_cons, not_or]
        exact ⟨fun e => hc e.symm, this⟩
      · exact ih l (by simp [hl])

theorem splitLF_of_no_lf (l : Str) (h : '\n' ∉ l) : splitLF l = [l] := by
  induction l with
  | nil => simp [splitLF]
  | cons c r ih =>
    simp only [List.mem_cons, not_or] at h
    have hc : c ≠ '\n' := fun e => h.1 e.symm
    obtain ⟨hd, t, hr, hcr⟩ := splitLF_cons_ne c r hc
    rw [hcr]
    rw [ih h.2] at hr
    simp at hr
    rw [← hr.1, ← hr.2]

theorem splitLF_append_lf (l rest : Str) (h : '\n' ∉ l) :
    splitLF (l ++ '\n' :: rest) = l :: splitLF rest := by
  induction l with
  | nil => simp [splitLF]
  | cons c r ih =>
    simp only [List.mem_cons, not_or] at h
    have hc : c ≠ '\n' := fun e => h.1 e.symm
    obtain ⟨hd, t, hr, hcr⟩ := splitLF_cons_ne c (r ++ '\n' :: rest) hc
    rw [List.cons_append, hcr]
    rw [ih h.2] at hr
    simp at hr
    rw [← hr.1, ← hr.2]

theorem splitLF_joinWith (ls : List Str) (hne : ls ≠ []) (h : ∀ l ∈ ls, '\n' ∉ l) :
    splitLF (joinWith ['\n'] ls) = ls := by
  induction ls with
  | nil => exact absurd rfl hne
  | cons x r ih =>
    cases r with
    | nil => simp [joinWith]; exact splitLF_of_no_lf x (h x (by simp))
    | cons y r' =>
      rw [joinWith_cons_cons]
      have := ih (by simp) (fun l hl => h l (by simp [hl]))
      simp only [List.append_assoc, List.singleton_append]
      rw [splitLF_append_lf x _ (h x (by simp)), this]

theorem splitLF_length (s : Str) : (splitLF s).length = (s.filter (· == '\n')).length + 1 := by
  induction s with
  | nil => simp [splitLF]
  | cons c r ih =>
    by_cases hc : c = '\n'
    · subst hc
      have : splitLF ('\n' :: r) = [] :: splitLF r := by simp [splitLF]
      rw [this]; simp [ih]
    · obtain ⟨h, t, hr, hcr⟩ := splitLF_cons_ne c r hc
      rw [hcr]; rw [hr] at ih
      have hb : (c == '\n') = false := by simp [hc]
      simp only [List.filter, hb, List.length_cons] at ih ⊢
      exact ih

/-- the last piece is empty exactly for the empty text and a text that ends in a line feed -/
theorem splitLF_getLast (s : Str) :
    (splitLF s).getLast? = some [] ↔ (s = [] ∨ s.getLast? = some '\n') := by
  induction s with
  | nil => simp [splitLF]
  | cons c r ih =>
    by_cases hc : c = '\n'
    · subst hc
      have : splitLF ('\n' :: r) = [] :: splitLF r := by simp [splitLF]
      rw [this]
      have hne := splitLF_ne_nil r
      rw [List.getLast?_cons_of_ne_nil hne] <;> try exact hne
      rw [ih]
      cases r with
      | nil => simp
      | cons d r' => simp [List.getLast?_cons_cons]
    · obtain ⟨h, t, hr, hcr⟩ := splitLF_cons_ne c r hc
      rw [hcr]
      cases t with
      | nil =>
        -- one piece: no line feed in `r`
        have hlen := splitLF_length r
        rw [hr] at hlen
        have hfil : r.filter (· == '\n') = [] := by
          cases hf : r.filter (· == '\n') with
          | nil => rfl
          | cons _ _ => rw [hf] at hlen; simp at hlen
        have hnot : '\n' ∉ r := by
          intro hm
          have : '\n' ∈ r.filter (· == '\n') := by simp [hm]
          rw [hfil] at this; simp at this
        simp only [List.getLast?_singleton, Option.some.injEq, List.cons_ne_nil, false_or, false_iff]
        intro hl
        cases r with
        | nil => simp at hl; exact hc hl
        | cons d r' =>
          rw [List.getLast?_cons_cons] at hl
          exact hnot (List.mem_of_getLast? hl)
      | cons y t' =>
        rw [hr] at ih
        simp only [List.getLast?_cons_cons] at ih ⊢
        rw [ih]
        cases r with
        | nil => simp [splitLF] at hr
        | cons d r' => simp [List.getLast?_cons_cons]

theorem mem_joinWith {c : Char} (sep : Str) (ls : List Str) (l : Str) (hl : l ∈ ls) (hc : c ∈ l) :
    c ∈ joinWith sep ls := by
  induction ls with
  | nil => simp at hl
  | cons x r ih =>
    cases r with
    | nil => simp at hl; subst hl; simpa [joinWith] using hc
    | cons y r' =>
      rw [joinWith_cons_cons]
      simp only [List.mem_cons] at hl
      rcases hl with hl | hl
      · subst hl; simp [hc]
      · have := ih (by simpa using hl); simp [this]

/-! ### §7 leading pipes -/

/-- a leading `|` is no alternative, so dropping it first changes nothing -/
theorem readAlts_eq_filter (ts : List Tok) : readAlts ts = ts.filter (· != cs% "|") := by
  unfold readAlts
  cases ts with
  | nil => rfl
  | cons t r =>
    show List.filter _ (if t == cs% "|" then r else t :: r) = _
    by_cases ht : t = cs% "|"
    · rw [if_pos (beq_iff_eq.mpr ht), List.filter_cons_of_neg (by simp [ht])]
    · rw [if_neg (by simpa using ht)]

/-! ### §8 rustc_lexer's `number` and what follows the token -/

/-- a character that no phase of `number` / `eat_literal_suffix` consumes or looks for -/
structure Stop (c : Char) : Prop where
  dec : isDecU c = false
  hex : isHexU c = false
  ids : isIdStartA c = false
  idc : isIdContinueA c = false
  dig : ('0' ≤ c && c ≤ '9') = false
  plus : c ≠ '+'
  minus : c ≠ '-'
  e : c ≠ 'e'
  E : c ≠ 'E'
  b : c ≠ 'b'
  o : c ≠ 'o'
  x : c ≠ 'x'

theorem stop_space : Stop ' ' := by constructor <;> decide
theorem stop_dot : Stop '.' := by constructor <;> decide

theorem eatExponent_append (s : Str) (c : Char) (rest : Str) (h : Stop c) :
    eatExponent (s ++ c :: rest) = eatExponent s ++ c :: rest := by
  match s with
  | [] =>
    have h1 : (c == '+') = false := by simp [h.plus]
    have h2 : (c == '-') = false := by simp [h.minus]
    simp [eatExponent, h1, h2, List.dropWhile, h.dec]
  | a :: u =>
    by_cases hp : (a == '+' || a == '-') = true
    · simp [eatExponent, hp, dropWhile_append_of_stop u c rest h.dec]
    · have hp' : (a == '+' || a == '-') = false := by simpa using hp
      simp only [List.cons_append, eatExponent, hp', Bool.false_eq_true, if_false]
      exact dropWhile_append_of_stop (a :: u) c rest h.dec

theorem eatSuffix_append (s : Str) (c : Char) (rest : Str) (h : Stop c) :
    eatSuffix (s ++ c :: rest) = eatSuffix s ++ c :: rest := by
  match s with
  | [] => simp [eatSuffix, h.ids]
  | a :: u =>
    by_cases ha : isIdStartA a = true
    · simp [eatSuffix, ha, dropWhile_append_of_stop u c rest h.idc]
    · have : isIdStartA a = false := by simpa using ha
      simp [eatSuffix, this]

theorem afterFraction_append (s : Str) (c : Char) (rest : Str) (h : Stop c) :
    afterFraction (s ++ c :: rest) = afterFraction s ++ c :: rest := by
  match s with
  | [] =>
    have h1 : (c == 'e') = false := by simp [h.e]
    have h2 : (c == 'E') = false := by simp [h.E]
    simp [afterFraction, h1, h2]
  | y :: r3 =>
    by_cases hy : (y == 'e' || y == 'E') = true
    · simp [afterFraction, hy, eatExponent_append r3 c rest h]
    · have hy' : (y == 'e' || y == 'E') = false := by simpa using hy
      simp [afterFraction, hy']

/-- `afterDigits` does not look beyond a stop character — except that a `.` directly behind a final `.` makes the
lexer give the first one back (`1...`): excluded by `hs` -/
theorem afterDigits_append (s : Str) (c : Char) (rest : Str) (h : Stop c)
    (hdot : c = '.' → ∃ r, rest = '.' :: r) (hs : c = '.' → s ≠ ['.']) :
    afterDigits (s ++ c :: rest) = afterDigits s ++ c :: rest := by
  have hce : (c == 'e') = false := by simp [h.e]
  have hcE : (c == 'E') = false := by simp [h.E]
  match s with
  | [] =>
    by_cases hc : c = '.'
    · subst hc
      obtain ⟨r, hr⟩ := hdot rfl
      subst hr
      simp [afterDigits]
    · have hc' : (c == '.') = false := by simp [hc]
      simp [afterDigits, hc', hce, hcE]
  | a :: u =>
    by_cases ha : (a == '.') = true
    · match u with
      | [] =>
        have hane : a = '.' := by simpa using ha
        subst hane
        have hc : c ≠ '.' := fun e => hs e rfl
        have hc' : (c == '.') = false := by simp [hc]
        simp [afterDigits, hc', h.ids, h.dig]
      | x :: u' =>
        by_cases hx : (x == '.' || isIdStartA x) = true
        · simp [afterDigits, ha, hx]
        · have hx' : (x == '.' || isIdStartA x) = false := by simpa using hx
          by_cases hd : ('0' ≤ x && x ≤ '9') = true
          · simp only [List.cons_append, afterDigits, ha, if_true, hx', Bool.false_eq_true, if_false, hd]
            have := dropWhile_append_of_stop (x :: u') c rest h.dec
            simp only [List.cons_append] at this
            rw [this, afterFraction_append _ c rest h]
          · have hd' : ('0' ≤ x && x ≤ '9') = false := by simpa using hd
            simp [afterDigits, ha, hx', hd']
    · have ha' : (a == '.') = false := by simpa using ha
      by_cases he : (a == 'e' || a == 'E') = true
      · simp [afterDigits, ha', he, eatExponent_append u c rest h]
      · have he' : (a == 'e' || a == 'E') = false := by simpa using he
        simp [afterDigits, ha', he']

theorem afterBase_append (p : Char → Bool) (u : Str) (c : Char) (rest : Str) (h : Stop c) (hp : p c = false)
    (hdot : c = '.' → ∃ r, rest = '.' :: r) (hs : c = '.' → u.getLast? ≠ some '.') :
    afterBase p (u ++ c :: rest) = afterBase p u ++ c :: rest := by
  unfold afterBase
  rw [takeWhile_append_of_stop u c rest hp, dropWhile_append_of_stop u c rest hp]
  have hs' : c = '.' → u.dropWhile p ≠ ['.'] := fun e hh => hs e (dropWhile_singleton_getLast u '.' hh)
  split
  · rw [afterDigits_append _ c rest h hdot hs', eatSuffix_append _ c rest h]
  · rw [eatSuffix_append _ c rest h]

/-- **Appending a stop character behind a text does not change what `number` takes of it**, provided a `.` is not put
directly behind a final `.`. -/
theorem lexNumberRest_append (s : Str) (c : Char) (rest : Str) (hne : s ≠ []) (h : Stop c)
    (hdot : c = '.' → ∃ r, rest = '.' :: r) (hs : c = '.' → s.getLast? ≠ some '.') :
    lexNumberRest (s ++ c :: rest) = lexNumberRest s ++ c :: rest := by
  match s with
  | [] => exact absurd rfl hne
  | d :: t =>
    have hlast : c = '.' → t ≠ [] → t.getLast? ≠ some '.' := by
      intro e hne' hh
      apply hs e
      cases t with
      | nil => exact absurd rfl hne'
      | cons b t' => rw [List.getLast?_cons_cons]; exact hh
    have hdw : ∀ (p : Char → Bool), c = '.' → t.dropWhile p ≠ ['.'] := by
      intro p e hh
      have := dropWhile_singleton_getLast t '.' hh
      have hne' : t ≠ [] := by intro e'; subst e'; simp at hh
      exact hlast e hne' this
    by_cases hd : (d == '0') = true
    · simp only [List.cons_append, lexNumberRest, hd, if_true]
      match t with
      | [] =>
        -- `0` directly followed by the stop character
        have hb : (c == 'b' || c == 'o') = false := by simp [h.b, h.o]
        have hx : (c == 'x') = false := by simp [h.x]
        by_cases hc : c = '.'
        · subst hc
          obtain ⟨r, hr⟩ := hdot rfl
          subst hr
          simp [afterDigits, eatSuffix, isDecU, isIdStartA]
        · have hc' : (c == '.') = false := by simp [hc]
          have he : (c == 'e') = false := by simp [h.e]
          have hE : (c == 'E') = false := by simp [h.E]
          simp [hb, hx, h.dec, hc', he, hE, eatSuffix, h.ids]
      | x :: u =>
        have hu : c = '.' → u.getLast? ≠ some '.' := by
          intro e hh
          have := hlast e (by simp)
          cases u with
          | nil => simp at hh
          | cons b u' => rw [List.getLast?_cons_cons] at this; exact this hh
        simp only [List.cons_append]
        by_cases hb : (x == 'b' || x == 'o') = true
        · simp only [hb, if_true]
          exact afterBase_append isDecU u c rest h h.dec hdot hu
        · have hb' : (x == 'b' || x == 'o') = false := by simpa using hb
          simp only [hb', Bool.false_eq_true, if_false]
          by_cases hx : (x == 'x') = true
          · simp only [hx, if_true]
            exact afterBase_append isHexU u c rest h h.hex hdot hu
          · have hx' : (x == 'x') = false := by simpa using hx
            simp only [hx', Bool.false_eq_true, if_false]
            by_cases hdec : isDecU x = true
            · simp only [hdec, if_true]
              have := dropWhile_append_of_stop (x :: u) c rest h.dec
              simp only [List.cons_append] at this
              rw [this, afterDigits_append _ c rest h hdot (hdw isDecU), eatSuffix_append _ c rest h]
            · have hdec' : isDecU x = false := by simpa using hdec
              simp only [hdec', Bool.false_eq_true, if_false]
              by_cases hpt : (x == '.' || x == 'e' || x == 'E') = true
              · simp only [hpt, if_true]
                have hne2 : c = '.' → x :: u ≠ ['.'] := by
                  intro e hh
                  have := hlast e (by simp)
                  rw [hh] at this; simp at this
                have := afterDigits_append (x :: u) c rest h hdot hne2
                simp only [List.cons_append] at this
                rw [this, eatSuffix_append _ c rest h]
              · have hpt' : (x == '.' || x == 'e' || x == 'E') = false := by simpa using hpt
                simp only [hpt', Bool.false_eq_true, if_false]
                have := eatSuffix_append (x :: u) c rest h
                simpa using this
    · have hd' : (d == '0') = false := by simpa using hd
      simp only [List.cons_append, lexNumberRest, hd', Bool.false_eq_true, if_false]
      rw [dropWhile_append_of_stop t c rest h.dec, afterDigits_append _ c rest h hdot (hdw isDecU),
          eatSuffix_append _ c rest h]

/-! ### §8 the last character of a printed float literal -/

open RF.Lit RF.Lemmas.Literal

theorem digU_last_ne_dot (l : List Char) (h : l.all isDigU = true) : l.getLast? ≠ some '.' := by
  intro hl
  have hm := List.mem_of_getLast? hl
  rw [List.all_eq_true] at h
  have := h '.' hm
  simp [isDigU, isDigit] at this

theorem expWF_last_ne_dot {e : List Char} (h : ExpWF e) : e.getLast? ≠ some '.' ∧ e ≠ [] := by
  obtain ⟨c, sign, d, rfl, -, -, hd, hne⟩ := h.ex
  refine ⟨?_, by simp⟩
  have : c :: sign ++ d = (c :: sign) ++ d := by simp
  rw [this, getLast?_append_ne _ _ hne]
  exact digU_last_ne_dot d hd

theorem not_mem_last_ne (l : List Char) (h : '.' ∉ l) : l.getLast? ≠ some '.' :=
  fun hl => h (List.mem_of_getLast? hl)

/-- the last character of `ip ++ period ++ frac ++ ex ++ suffix` -/
theorem printed_last (ip frac suffix : List Char) (point : Bool) (ex : Option (List Char))
    (hip : ip.all isDigU = true) (hfr : frac.all isDigU = true) (hex : ∀ e, ex = some e → ExpWF e)
    (hsuf : '.' ∉ suffix) :
    ((ip ++ (if point then ['.'] else []) ++ frac ++ ex.getD [] ++ suffix).getLast? == some '.') =
      (point && frac.isEmpty && ex.isNone && suffix.isEmpty) := by
  by_cases hs : suffix = []
  · subst hs
    simp only [List.append_nil, List.isEmpty_nil, Bool.and_true]
    cases ex with
    | some e =>
      obtain ⟨h1, h2⟩ := expWF_last_ne_dot (hex e rfl)
      simp only [Option.getD_some, Option.isNone_some, Bool.and_false]
      rw [getLast?_append_ne _ _ h2]
      simp [h1]
    | none =>
      simp only [Option.getD_none, List.append_nil, Option.isNone_none, Bool.and_true]
      by_cases hf : frac = []
      · subst hf
        cases point
        · have := digU_last_ne_dot ip hip
          simp [this]
        · simp
      · rw [getLast?_append_ne _ _ hf]
        have := digU_last_ne_dot frac hfr
        cases frac with
        | nil => exact absurd rfl hf
        | cons a r => simp [this]
  · rw [getLast?_append_ne _ _ hs]
    have := not_mem_last_ne suffix hsuf
    cases suffix with
    | nil => exact absurd rfl hs
    | cons a r => simp [this]

theorem printedFloat_ne_nil (mode : TrailingZero) (symbol suffix : Str) (p : FloatParts)
    (hp : parseFloatSymbol symbol = some p) : printedFloat mode symbol suffix ≠ [] := by
  by_cases hm : mode = .preserve
  · subst hm
    have hsym : symbol ≠ [] := by rintro rfl; cases hp
    simpa [printedFloat, rewriteFloatLit] using fun h => absurd h hsym
  · rw [printedFloat, rewriteFloatLit_eq mode hm symbol suffix p hp]
    simp [(parse_wf hp).ip_ne]

end RF.Lemmas.OptRewrites

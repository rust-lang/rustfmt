import RF.Model.Attrs
import RF.Lemmas.OptRewrites
/-!
Facts about the attribute loop of `RF/Model/Attrs.lean` that the theorems of `RF/Props/Attrs.lean` share: where a run
of doc comments or of derives starts, what `andThen` pushes, the one text `formatDeriveOneLine` makes.
-/
namespace RF.Lemmas.Attrs
open RF.Attrs RF.Lemmas.OptRewrites

theorem optAttr_isDocComment (a : Attr) : a.optAttr.isDocComment = a.isDoc := by
  unfold Attr.optAttr
  cases a.isDoc
  · cases a.derive
    · cases a.normValue <;> rfl
    · rfl
  · rfl

theorem optAttr_isDerive (a : Attr) : a.optAttr.isDerive = (!a.isDoc && a.derive.isSome) := by
  unfold Attr.optAttr
  cases a.isDoc
  · cases a.derive
    · cases a.normValue <;> rfl
    · rfl
  · rfl

/-- a run of doc comments starts at a doc comment -/
theorem docRun_pos_iff (a : Attr) (rest : List Attr) : docRun (a :: rest) ≥ 1 ↔ a.isDoc = true := by
  rw [docRun, List.map_cons, takeRun_pos_iff]
  exact optAttr_isDocComment a ▸ Iff.rfl

/-- a run of derives starts at a derive that is no doc comment -/
theorem deriveRun_pos_iff (a : Attr) (rest : List Attr) :
    deriveRun (a :: rest) ≥ 1 ↔ (!a.isDoc && a.derive.isSome) = true := by
  rw [deriveRun, List.map_cons, takeRun_pos_iff]
  exact optAttr_isDerive a ▸ Iff.rfl

/-- the derive branch of the loop is entered at the head of a derive run -/
theorem deriveRun_pos_of_branch {e : Env} {a : Attr} {rest : List Attr} (hnd : ¬ docRun (a :: rest) > 0)
    (hd : (e.merge && !e.skipDerives && a.derive.isSome) = true) : deriveRun (a :: rest) ≥ 1 := by
  rw [deriveRun_pos_iff, (Bool.and_eq_true_iff.mp hd).2, Bool.and_true, Bool.not_eq_true', ← Bool.not_eq_true]
  exact fun hdoc => hnd ((docRun_pos_iff a rest).mpr hdoc)

/-- what a successful `andThen` returned: the group's segment alone at the end of the list, else the segment, the gap
pushed behind it and the segments of the rest -/
theorem andThen_eq_some {seg : Seg} {gt : Option Str} {g : Str} {tail : List Attr} {rest : Option (List Seg)}
    {segs : List Seg} (h : andThen seg gt g tail rest = some segs) :
    (tail = [] ∧ segs = [seg]) ∨ (∃ t r, tail ≠ [] ∧ gt = some t ∧ rest = some r ∧ segs = seg :: .gap g t :: r) := by
  unfold andThen at h
  cases tail with
  | nil => exact .inl ⟨rfl, (Option.some.inj h).symm⟩
  | cons x xs =>
    cases gt with
    | none => cases h
    | some t =>
      cases rest with
      | none => cases h
      | some r => exact .inr ⟨t, r, List.cons_ne_nil x xs, rfl, rfl, (Option.some.inj h).symm⟩

/-- what holds of the group's segment, of the gap pushed behind it and of the segments of the rest holds of all
segments `andThen` returns -/
theorem andThen_forall {P : Seg → Prop} {seg : Seg} {gt : Option Str} {g : Str} {tail : List Attr}
    {rest : Option (List Seg)} {segs : List Seg} (h : andThen seg gt g tail rest = some segs) (hseg : P seg)
    (hgap : ∀ t, tail ≠ [] → gt = some t → P (.gap g t)) (hrest : ∀ r, rest = some r → ∀ s ∈ r, P s) :
    ∀ s ∈ segs, P s := by
  rcases andThen_eq_some h with ⟨_, rfl⟩ | ⟨t, r, hne, hgt, hr, rfl⟩
  · exact fun s hs => List.mem_singleton.mp hs ▸ hseg
  · intro s hs
    rcases List.mem_cons.mp hs with rfl | hs
    · exact hseg
    · rcases List.mem_cons.mp hs with rfl | hs
      · exact hgap t hne hgt
      · exact hrest r hr s hs

/-- the attributes `andThen` accounts for: those of the group, then those of the rest -/
theorem andThen_srcs {seg : Seg} {gt : Option Str} {g : Str} {tail : List Attr} {rest : Option (List Seg)}
    {segs : List Seg} (h : andThen seg gt g tail rest = some segs)
    (hrest : ∀ r, rest = some r → r.flatMap Seg.srcs = tail) : segs.flatMap Seg.srcs = seg.srcs ++ tail := by
  rcases andThen_eq_some h with ⟨rfl, rfl⟩ | ⟨t, r, _, _, hr, rfl⟩
  · simp
  · rw [List.flatMap_cons, List.flatMap_cons, hrest r hr]
    rfl

/-- the only text `format_derive` makes on one line -/
theorem formatDeriveOneLine_some {w : Nat} {inner : Bool} {ps : List Str} {t : Str}
    (h : formatDeriveOneLine w inner ps = some (some t)) :
    t = attrPrefix inner ++ "[derive(".toList ++ RF.Opt.joinWith [',', ' '] ps ++ ")]".toList := by
  unfold formatDeriveOneLine at h
  split at h
  · cases h
  · split at h
    · cases h
    · split at h
      · cases Option.some.inj h
      · exact (Option.some.inj (Option.some.inj h)).symm

end RF.Lemmas.Attrs

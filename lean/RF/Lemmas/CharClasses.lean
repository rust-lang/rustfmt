import RF.Model.CharClasses
/-!
Lemmas about the `CharClasses` model: the panic arms of `CharClasses::next` are not reachable
from `Status.normal`, so the total functions agree with the literal partial ones; the iterator
returns the characters of the input unchanged and in order, and the kinds it gives them follow a
two-state automaton (code / comment) whose `StartComment`s sit at the comment openers of the text.
-/
namespace RF.Lemmas.CharClasses
open RF.CharClasses

/-- The invariant that keeps `CharClasses::next` away from its assertions: comment depths are
positive where the code assumes so, and the two one-character "opening"/"closing" states are
followed by the character they assert. -/
def Ok : Status → List Char → Prop
  | .blockComment d, _ => 1 ≤ d
  | .stringInBlockComment d, _ => 1 ≤ d
  | .blockCommentOpening d, rest => 1 ≤ d ∧ rest.head? = some '*'
  | .blockCommentClosing _, rest => rest.head? = some '/'
  | .rawStringSuffix n, _ => 1 ≤ n
  | _, _ => True

/-- The states in which a comment is open. -/
def commentState : Status → Bool
  | .blockComment _ | .stringInBlockComment _ | .blockCommentOpening _
  | .blockCommentClosing _ | .lineComment => true
  | _ => false

/-- A text that begins with a comment opener. -/
def Opener (s : List Char) : Prop :=
  ∃ c2 t, s = '/' :: c2 :: t ∧ (c2 = '/' ∨ c2 = '*')

/-- The kinds `CharClasses` emits, as an automaton whose state says whether a comment is open:
`KindStep s b k b'` = from `b`, the kind `k` is allowed for the head of the text `s` and leads to `b'`.
Code characters (`Normal`, `InString`) until a `StartComment`, which needs a comment opener in the
text, then characters inside the comment until an `EndComment`. -/
def KindStep (s : List Char) : Bool → Kind → Bool → Prop
  | false, .normal, b' | false, .inString, b' => b' = false
  | false, .startComment, b' => b' = true ∧ Opener s
  | true, .inComment, b' | true, .inStringCommented, b' => b' = true
  | true, .endComment, b' => b' = false
  | _, _, _ => False

/-- What one `CharClasses::next` on `c :: rest` in state `st` has to return: no panic, a state in
which the invariant holds again, a kind the automaton allows. -/
def StepOk (st : Status) (c : Char) (rest : List Char) (o : Option (Status × Kind)) : Prop :=
  ∃ st' k, o = some (st', k) ∧ Ok st' rest ∧
    KindStep (c :: rest) (commentState st) k (commentState st')

theorem StepOk.some {st c rest st' k} (hok : Ok st' rest)
    (hk : KindStep (c :: rest) (commentState st) k (commentState st')) :
    StepOk st c rest (some (st', k)) :=
  ⟨st', k, rfl, hok, hk⟩

theorem StepOk.ite_of {st c rest} {p : Prop} [Decidable p] {a b : Option (Status × Kind)}
    (ha : p → StepOk st c rest a) (hb : ¬p → StepOk st c rest b) :
    StepOk st c rest (if p then a else b) := by
  by_cases h : p
  · rw [if_pos h]; exact ha h
  · rw [if_neg h]; exact hb h

theorem StepOk.ite {st c rest} {p : Prop} [Decidable p] {a b : Option (Status × Kind)}
    (ha : StepOk st c rest a) (hb : StepOk st c rest b) : StepOk st c rest (if p then a else b) :=
  .ite_of (fun _ => ha) fun _ => hb

/-- The case analysis of `CharClasses::next`, arm by arm as in the source.  `step?` is never
unfolded by `simp`: its arms appear by reduction when `StepOk.ite` is matched against the goal
(the equations `simp` would generate for so large a `match` are slow to generate and check). -/
theorem step?_ok (st : Status) (c : Char) (rest : List Char) (h : Ok st (c :: rest)) :
    StepOk st c rest (step? st c rest) := by
  cases st with
  | litRawString n =>
    exact .ite (.ite_of (fun _ => .some trivial rfl) fun h0 =>
      .ite (.some (Nat.pos_of_ne_zero h0) rfl) (.some trivial rfl)) (.some trivial rfl)
  | rawStringPrefix n =>
    exact .ite (.some trivial rfl) (.ite (.some trivial rfl) (.some trivial rfl))
  | rawStringSuffix n =>
    have h : 1 ≤ n := h
    exact .ite (.ite_of (fun _ => .some trivial rfl) fun h1 =>
      .ite_of (fun h0 => absurd h0 (Nat.ne_of_gt h)) fun _ =>
        .some (Nat.le_sub_one_of_lt (Nat.lt_of_le_of_ne h (Ne.symm h1))) rfl) (.some trivial rfl)
  | litString =>
    exact .ite (.some trivial rfl) (.ite (.some trivial rfl) (.some trivial rfl))
  | litStringEscape => exact .some trivial rfl
  | litChar =>
    exact .ite (.some trivial rfl) (.ite (.some trivial rfl) (.some trivial rfl))
  | litCharEscape => exact .some trivial rfl
  | normal =>
    refine .ite ?_ (.ite (.some trivial rfl) (.ite ?_ (.ite_of (fun hc => ?_) fun _ => .some trivial rfl)))
    · split <;> exact .some trivial rfl
    · split
      · refine .ite (.some trivial rfl) ?_
        split
        · exact .ite (.some trivial rfl) (.some trivial rfl)
        · exact .some trivial rfl
      · exact .some trivial rfl
    · subst hc
      split
      · exact .some ⟨Nat.le_refl 1, rfl⟩ ⟨rfl, _, _, rfl, .inr rfl⟩
      · exact .some trivial ⟨rfl, _, _, rfl, .inl rfl⟩
      · exact .some trivial rfl
  | stringInBlockComment d =>
    have h : 1 ≤ d := h
    refine .ite (.some h rfl) (.ite_of (fun hc => ?_) fun _ => .some h rfl)
    have hc : rest.head? = some '/' := by simp at hc; exact hc.2
    exact .ite_of (fun h0 => absurd h0 (Nat.ne_of_gt h)) fun _ => .some hc rfl
  | blockComment d =>
    have h : 1 ≤ d := h
    refine .ite_of (fun h0 => absurd h0 (Nat.ne_of_gt h)) fun _ => ?_
    split
    · refine .ite_of (fun hc => .some ?_ rfl) fun _ =>
        .ite_of (fun hc => .some ⟨Nat.le_add_left 1 d, ?_⟩ rfl) fun _ =>
          .ite (.some h rfl) (.some h rfl)
      · simp at hc; simp [Ok, hc.1]
      · simp at hc; simp [hc.1]
    · exact .ite (.some h rfl) (.some h rfl)
  | blockCommentOpening d =>
    have hc : c = '*' := by simpa using h.2
    exact .ite_of (fun _ => .some h.1 rfl) fun hn => absurd hc hn
  | blockCommentClosing d =>
    have hc : c = '/' := by simpa [Ok] using h
    exact .ite_of (fun _ => .ite_of (fun _ => .some trivial rfl) fun h0 =>
      .some (Nat.pos_of_ne_zero h0) rfl) fun hn => absurd hc hn
  | lineComment => exact .ite (.some trivial rfl) (.some trivial rfl)

theorem run_cons (st : Status) (c : Char) (rest : List Char) :
    run st (c :: rest) = ((step st c rest).2, c) :: run (step st c rest).1 rest := rfl

theorem step_of_step? {st c rest x} (h : step? st c rest = some x) : step st c rest = x := by
  rw [step, h]; rfl

theorem run?_of_ok : ∀ (s : List Char) (st : Status), Ok st s →
    run? st s = some (run st s, endStatus st s)
  | [], _, _ => rfl
  | c :: rest, st, h => by
    obtain ⟨st', k, hs, hok, -⟩ := step?_ok st c rest h
    simp only [run?, hs, run, endStatus, step_of_step? hs, run?_of_ok rest st' hok]

/-- Started in `Status.normal`, `CharClasses::next` never hits an assertion or an underflow:
the literal model with panics returns exactly what the total model returns. -/
theorem run?_normal (s : List Char) :
    run? .normal s = some (run .normal s, endStatus .normal s) :=
  run?_of_ok s .normal trivial

theorem classes?_eq (s : List Char) : classes? s = some (classes s) := by
  rw [classes?, run?_normal]; rfl

/-- The iterator yields every character of the input, in order, exactly once. -/
theorem run_map_snd : ∀ (s : List Char) (st : Status), (run st s).map (·.2) = s
  | [], _ => rfl
  | c :: rest, st => by rw [run, List.map_cons, run_map_snd rest]

theorem classes_map_snd (s : List Char) : (classes s).map (·.2) = s := run_map_snd s .normal

theorem classes_length (s : List Char) : (classes s).length = s.length := by
  rw [← List.length_map (·.2), classes_map_snd]

/-! ## The kind sequence `CharClasses` emits

This is what keeps `UngroupedCommentCodeSlices::next` away from its `_ => panic!()` arm and the
`&subslice[..2]` of `CommentCodeSlices::next` inside its slice. -/

/-- The tagged text is accepted by the automaton `KindStep` from state `b`. -/
def KindsOk : Bool → List (Kind × Char) → Prop
  | _, [] => True
  | b, (k, c) :: l => ∃ b', KindStep (c :: l.map (·.2)) b k b' ∧ KindsOk b' l

theorem run_kindsOk : ∀ (s : List Char) (st : Status), Ok st s →
    KindsOk (commentState st) (run st s)
  | [], _, _ => trivial
  | c :: rest, st, h => by
    obtain ⟨st', k, hs, hok, hk⟩ := step?_ok st c rest h
    rw [run, step_of_step? hs]
    exact ⟨_, by rwa [run_map_snd], run_kindsOk rest st' hok⟩

theorem classes_kindsOk (s : List Char) : KindsOk false (classes s) :=
  run_kindsOk s .normal trivial

/-- Outside a comment: a code character, or a `StartComment` at an opener. -/
theorem kindsOk_code {k : Kind} {c : Char} {l : List (Kind × Char)}
    (h : KindsOk false ((k, c) :: l)) :
    (k = .normal ∨ k = .inString) ∧ KindsOk false l ∨
      k = .startComment ∧ Opener (c :: l.map (·.2)) ∧ KindsOk true l := by
  obtain ⟨b', hk, hl⟩ := h
  cases k with
  | normal => cases (hk : b' = false); exact .inl ⟨.inl rfl, hl⟩
  | inString => cases (hk : b' = false); exact .inl ⟨.inr rfl, hl⟩
  | startComment => cases (hk : b' = true ∧ _).1; exact .inr ⟨rfl, hk.2, hl⟩
  | _ => exact hk.elim

/-- Inside a comment: a comment character, or the `EndComment`. -/
theorem kindsOk_comment {k : Kind} {c : Char} {l : List (Kind × Char)}
    (h : KindsOk true ((k, c) :: l)) :
    (k = .inComment ∨ k = .inStringCommented) ∧ KindsOk true l ∨
      k = .endComment ∧ KindsOk false l := by
  obtain ⟨b', hk, hl⟩ := h
  cases k with
  | inComment => cases (hk : b' = true); exact .inl ⟨.inl rfl, hl⟩
  | inStringCommented => cases (hk : b' = true); exact .inl ⟨.inr rfl, hl⟩
  | endComment => cases (hk : b' = false); exact .inr ⟨rfl, hl⟩
  | _ => exact hk.elim

end RF.Lemmas.CharClasses

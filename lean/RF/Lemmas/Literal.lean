import RF.Model.Literal
/-!
The float-symbol parser of `RF/Model/Literal.lean` on the strings the rewriter prints (`parse_render`, `parse_wf`),
`rewrite_float_lit` in one formula (`floatChoice`, `rewriteFloatLit_eq`), and the two case maps of `hex_literal_case`.
-/
namespace RF.Lemmas.Literal
open RF.Lit

/-- what follows a run of `[0-9_]` in a printed literal: nothing, or a character outside the class -/
def Stops (r : List Char) : Prop := r = [] ∨ ∃ c t, r = c :: t ∧ isDigU c = false

/-- a run of `[0-9_]` in front of what `Stops` describes is what `takeWhile` / `dropWhile` split off -/
theorem digits_append_stops (a r : List Char) (ha : a.all isDigU = true) (hr : Stops r) :
    (a ++ r).takeWhile isDigU = a ∧ (a ++ r).dropWhile isDigU = r := by
  induction a with
  | nil =>
    rcases hr with rfl | ⟨c, t, rfl, hc⟩
    · simp
    · simp [List.takeWhile, List.dropWhile, hc]
  | cons x xs ih =>
    simp only [List.all_cons, Bool.and_eq_true] at ha
    obtain ⟨hx, hxs⟩ := ha
    obtain ⟨h1, h2⟩ := ih hxs
    simp [List.takeWhile, List.dropWhile, hx, h1, h2]

theorem takeWhile_all (s : List Char) : (s.takeWhile isDigU).all isDigU = true := by
  induction s with
  | nil => rfl
  | cons x xs ih =>
    by_cases hx : isDigU x = true
    · simp [List.takeWhile, hx, ih]
    · simp [List.takeWhile, hx]

theorem dropWhile_stops (s : List Char) : Stops (s.dropWhile isDigU) := by
  induction s with
  | nil => exact Or.inl rfl
  | cons x xs ih =>
    by_cases hx : isDigU x = true
    · simpa [List.dropWhile, hx] using ih
    · right
      refine ⟨x, xs, ?_, by simpa using hx⟩
      simp [List.dropWhile, hx]

/-- a well-formed exponent `[eE][+-]?[0-9_]+` -/
structure ExpWF (e : List Char) : Prop where
  ex : ∃ c sign d, e = c :: sign ++ d ∧ (c = 'e' ∨ c = 'E') ∧ (sign = [] ∨ sign = ['+'] ∨ sign = ['-']) ∧
        d.all isDigU = true ∧ d ≠ []

theorem stops_of_expWF {e : List Char} (h : ExpWF e) : Stops e := by
  obtain ⟨c, sign, d, rfl, hc, -, -, -⟩ := h.ex
  right
  refine ⟨c, sign ++ d, rfl, ?_⟩
  rcases hc with rfl | rfl <;> decide

theorem splitSign_spec (t : List Char) :
    ((splitSign t).1 = [] ∨ (splitSign t).1 = ['+'] ∨ (splitSign t).1 = ['-']) ∧
      t = (splitSign t).1 ++ (splitSign t).2 := by
  unfold splitSign
  split <;> simp

theorem splitSign_render (sign d : List Char) (hs : sign = [] ∨ sign = ['+'] ∨ sign = ['-'])
    (hd : ∃ x xs, d = x :: xs ∧ isDigU x = true) : splitSign (sign ++ d) = (sign, d) := by
  obtain ⟨x, xs, rfl, hx⟩ := hd
  have hxp : x ≠ '+' := by intro h; subst h; revert hx; decide
  have hxm : x ≠ '-' := by intro h; subst h; revert hx; decide
  rcases hs with rfl | rfl | rfl
  · unfold splitSign
    split
    · rename_i heq; cases heq; exact absurd rfl hxp
    · rename_i heq; cases heq; exact absurd rfl hxm
    · rfl
  · rfl
  · rfl

theorem parseExponent_wf {e : List Char} (h : ExpWF e) : parseExponent e = some (some e) := by
  obtain ⟨c, sign, d, rfl, hc, hs, hd, hne⟩ := h.ex
  have hd1 : d.takeWhile isDigU = d ∧ d.dropWhile isDigU = [] := by
    have := digits_append_stops d [] hd (Or.inl rfl)
    simpa using this
  have hdne : d.isEmpty = false := by cases d with | nil => exact absurd rfl hne | cons _ _ => rfl
  have hd0 : ∃ x xs, d = x :: xs ∧ isDigU x = true := by
    cases d with
    | nil => exact absurd rfl hne
    | cons x xs =>
      simp only [List.all_cons, Bool.and_eq_true] at hd
      exact ⟨x, xs, rfl, hd.1⟩
  have hss := splitSign_render sign d hs hd0
  have hce : (c == 'e' || c == 'E') = true := by rcases hc with rfl | rfl <;> decide
  show (if (c == 'e' || c == 'E') = true then
      (if ((splitSign (sign ++ d)).2.takeWhile isDigU).isEmpty then none
        else if (splitSign (sign ++ d)).2.dropWhile isDigU == [] then
          some (some (c :: (splitSign (sign ++ d)).1 ++ (splitSign (sign ++ d)).2.takeWhile isDigU)) else none)
      else none) = some (some (c :: sign ++ d))
  rw [hss]
  simp [hce, hd1.1, hd1.2, hdne]

theorem parseExponent_sound {r : List Char} {e : List Char} (h : parseExponent r = some (some e)) :
    r = e ∧ ExpWF e := by
  unfold parseExponent at h
  cases r with
  | nil => simp at h
  | cons c t =>
    simp only at h
    split at h
    · rename_i hc
      obtain ⟨hs, ht⟩ := splitSign_spec t
      generalize splitSign t = st at h hs ht
      split at h
      · simp at h
      · rename_i hne
        split at h
        · rename_i hdrop
          have hdrop' : st.2.dropWhile isDigU = [] := by simpa using hdrop
          have htw : st.2.takeWhile isDigU = st.2 := by
            have := List.takeWhile_append_dropWhile (p := isDigU) (l := st.2)
            rw [hdrop', List.append_nil] at this
            exact this
          simp only [Option.some.injEq] at h
          subst h
          rw [htw]
          refine ⟨by rw [ht]; rfl, ⟨c, st.1, st.2, rfl, ?_, hs, ?_, ?_⟩⟩
          · simpa using hc
          · rw [← htw]; exact takeWhile_all st.2
          · intro h0; rw [htw, h0] at hne; simp at hne
        · simp at h
    · simp at h

theorem parseExponent_none_iff {r : List Char} (h : parseExponent r = some none) : r = [] := by
  unfold parseExponent at h
  cases r with
  | nil => rfl
  | cons c t =>
    simp only at h
    split at h
    · split at h
      · simp at h
      · split at h <;> simp at h
    · simp at h

/-- the parts the parser returns are well formed -/
structure WF (p : FloatParts) : Prop where
  ip_all : p.integerPart.all isDigU = true
  ip_ne : p.integerPart ≠ []
  fp_ok : ∀ f, p.fractionalPart = some f → f.all isDigU = true ∧ f ≠ []
  ex_ok : ∀ e, p.exponent = some e → ExpWF e

/-- how the parser sees a printed literal: integer digits, optionally a point and (possibly no) digits, optionally a
well-formed exponent -/
theorem parse_render (ip frac : List Char) (point : Bool) (ex : Option (List Char))
    (hip : ip.all isDigU = true) (hne : ip ≠ []) (hfr : frac.all isDigU = true)
    (hpf : point = false → frac = []) (hex : ∀ e, ex = some e → ExpWF e) :
    parseFloatSymbol (ip ++ (if point then '.' :: frac else []) ++ ex.getD []) =
      some ⟨ip, if frac.isEmpty then none else some frac, ex⟩ := by
  have hexStops : Stops (ex.getD []) := by
    cases ex with
    | none => exact Or.inl rfl
    | some e => exact stops_of_expWF (hex e rfl)
  have hexParse : parseExponent (ex.getD []) = some ex := by
    cases ex with
    | none => rfl
    | some e => exact parseExponent_wf (hex e rfl)
  have hipe : ip.isEmpty = false := by cases ip with | nil => exact absurd rfl hne | cons _ _ => rfl
  cases point with
  | true =>
    have h1 := digits_append_stops ip ('.' :: frac ++ ex.getD []) hip
      (Or.inr ⟨'.', frac ++ ex.getD [], rfl, by decide⟩)
    have h2 := digits_append_stops frac (ex.getD []) hfr hexStops
    unfold parseFloatSymbol
    simp only [if_true, List.append_assoc, List.cons_append] at h1 ⊢
    rw [h1.1, h1.2]
    simp only [hipe, Bool.false_eq_true, if_false]
    rw [h2.1, h2.2, hexParse]
  | false =>
    have hf : frac = [] := hpf rfl
    subst hf
    have h1 := digits_append_stops ip (ex.getD []) hip hexStops
    unfold parseFloatSymbol
    simp only [Bool.false_eq_true, if_false, List.append_nil] at h1 ⊢
    rw [h1.1, h1.2]
    simp only [hipe, Bool.false_eq_true, if_false]
    cases ex with
    | none => simp [parseExponent]
    | some e =>
      obtain ⟨c, sign, d, rfl, hc, -, -, -⟩ := (hex e rfl).ex
      have hcne : c ≠ '.' := by rcases hc with rfl | rfl <;> decide
      simp only [Option.getD_some] at hexParse ⊢
      split
      · rename_i heq; cases heq; exact absurd rfl hcne
      · rw [hexParse]; simp

theorem parse_wf {s : List Char} {p : FloatParts} (h : parseFloatSymbol s = some p) : WF p := by
  unfold parseFloatSymbol at h
  simp only at h
  split at h
  · simp at h
  · rename_i hne
    have hipne : s.takeWhile isDigU ≠ [] := by intro h0; rw [h0] at hne; simp at hne
    split at h
    · rename_i r hdrop
      split at h
      · rename_i ex hex
        simp only [Option.some.injEq] at h
        subst h
        refine ⟨takeWhile_all s, hipne, ?_, ?_⟩
        · intro f hf
          simp only at hf
          split at hf
          · simp at hf
          · rename_i hfe
            simp only [Option.some.injEq] at hf
            subst hf
            exact ⟨takeWhile_all r, by intro h0; rw [h0] at hfe; simp at hfe⟩
        · intro e he
          simp only at he
          subst he
          exact (parseExponent_sound hex).2
      · simp at h
    · split at h
      · rename_i ex hex
        simp only [Option.some.injEq] at h
        subst h
        refine ⟨takeWhile_all s, hipne, by intro f hf; simp at hf, ?_⟩
        intro e he
        simp only at he
        subst he
        exact (parseExponent_sound hex).2
      · simp at h

theorem zeros_den (f : List Char) (h : f.all (fun c => c == '0' || c == '_') = true) :
    dropTrailingZeros (stripUnderscores f) = [] := by
  have h1 : (stripUnderscores f).all (· == '0') = true := by
    induction f with
    | nil => rfl
    | cons x xs ih =>
      simp only [List.all_cons, Bool.and_eq_true, Bool.or_eq_true] at h
      obtain ⟨hx, hxs⟩ := h
      unfold stripUnderscores at ih ⊢
      rcases hx with hx | hx
      · have : x = '0' := by simpa using hx
        subst this
        simpa [List.filter] using ih hxs
      · have : x = '_' := by simpa using hx
        subst this
        simpa [List.filter] using ih hxs
  unfold dropTrailingZeros
  have h2 : (stripUnderscores f).reverse.all (· == '0') = true := by simpa using h1
  have : (stripUnderscores f).reverse.dropWhile (· == '0') = [] := by
    generalize (stripUnderscores f).reverse = l at h2
    induction l with
    | nil => rfl
    | cons x xs ih =>
      simp only [List.all_cons, Bool.and_eq_true] at h2
      simp [List.dropWhile, h2.1, ih h2.2]
  simp [this]

/-! ### `rewrite_float_lit` in one formula -/

/-- whether `rewrite_float_lit` prints the point, and whether it prints fractional digits -/
def floatChoice (mode : TrailingZero) (p : FloatParts) (suffix : List Char) : Bool × Bool :=
  let hasPostfix := p.exponent.isSome || !suffix.isEmpty
  let nonzero := !p.isFractionalPartZero
  match mode with
  | .always => (true, true)
  | .ifNoPostfix => (nonzero || !hasPostfix, nonzero || !hasPostfix)
  | _ => (nonzero || !hasPostfix, nonzero)

theorem rewriteFloatLit_eq (mode : TrailingZero) (hm : mode ≠ .preserve) (symbol suffix : List Char) (p : FloatParts)
    (hp : parseFloatSymbol symbol = some p) :
    rewriteFloatLit mode symbol suffix =
      some (p.integerPart ++ (if (floatChoice mode p suffix).1 then ['.'] else []) ++
        (if (floatChoice mode p suffix).2 then p.fractionalPart.getD ['0'] else []) ++ p.exponent.getD [] ++ suffix) := by
  cases mode <;> first | exact absurd rfl hm | simp [rewriteFloatLit, hp, floatChoice]

/-! ### `hex_literal_case`: the two case maps keep hex digit values and underscores -/

theorem upperAscii_hex (c : Char) :
    hexDigitVal (upperAscii c) = hexDigitVal c ∧ (upperAscii c != '_') = (c != '_') := by
  unfold upperAscii
  split
  -- the catch-all `| c => c` behind the 26 letters
  case h_27 => exact ⟨rfl, rfl⟩
  all_goals decide +kernel

theorem lowerAscii_hex (c : Char) :
    hexDigitVal (lowerAscii c) = hexDigitVal c ∧ (lowerAscii c != '_') = (c != '_') := by
  unfold lowerAscii
  split
  -- the catch-all `| c => c` behind the 26 letters
  case h_27 => exact ⟨rfl, rfl⟩
  all_goals decide +kernel

end RF.Lemmas.Literal

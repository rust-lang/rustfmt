import RF.Model.Newline
/-!
Facts about `RF.Model.Newline` behind property C08, in the order of the model: the two newline converters
(what they do to the `\r\n` oracles `everyLfAfterCr`, `hasCrLf`, `hasCrCrLf` and to `lines`), auto detection,
the truncation at the end of `format_lines` (on the decomposition text ++ run of `\n`/`\r`),
`push_vertical_spaces` as a clamp, the loop of `remove_trailing_white_spaces` on a fixed classification,
`CharClasses` never panicking (`StatusInv`), the style and trailing-blank oracles run on emitted text,
`last_wspace` and the slices of one line through `process_missing_code`, and what the idempotence of
`remove_trailing_white_spaces` on texts without `'` rests on (`rtwS`, the loop fused with `CharClasses`).
The statements of C08 themselves are in `RF.Props.C08`.  Core only.
-/
namespace RF.Lemmas.Newline
open RF.Newline

theorem infix_iff_exists {α} (s t : List α) : s <:+: t ↔ ∃ pre suf, t = pre ++ (s ++ suf) :=
  ⟨fun ⟨a, b, h⟩ => ⟨a, b, by rw [← h, List.append_assoc]⟩,
    fun ⟨a, b, h⟩ => ⟨a, b, by rw [h, List.append_assoc]⟩⟩

theorem exists_trailing_run {α} (f : α → Bool) (t : List α) :
    ∃ p r, t = p ++ r ∧ (∀ x, p.getLast? = some x → f x = false) ∧ ∀ c ∈ r, f c = true := by
  refine ⟨(t.reverse.dropWhile f).reverse, (t.reverse.takeWhile f).reverse, ?_, ?_, ?_⟩
  · rw [← List.reverse_append, List.takeWhile_append_dropWhile, List.reverse_reverse]
  · intro x hx
    rw [List.getLast?_reverse] at hx
    have := List.head?_dropWhile_not f t.reverse
    rw [hx] at this
    exact this
  · intro c hc
    exact List.all_eq_true.mp List.all_takeWhile c (List.mem_reverse.mp hc)

theorem everyLfAfterCr_windows (t : List Char) (prev : Option Char) :
    everyLfAfterCr prev (convertToWindows t) = true := by
  fun_induction convertToWindows t generalizing prev <;> simp_all [everyLfAfterCr]

/-- The char standing immediately before position `pre.length` of a text `pre ++ …` that itself
follows `prev`. -/
def prevOf (prev : Option Char) (pre : List Char) : Option Char :=
  match pre.getLast? with
  | some x => some x
  | none => prev

theorem prevOf_nil (prev : Option Char) : prevOf prev [] = prev := rfl

theorem prevOf_cons (prev : Option Char) (c : Char) (pre : List Char) :
    prevOf prev (c :: pre) = prevOf (some c) pre := by
  cases pre with
  | nil => rfl
  | cons p ps =>
    simp only [prevOf, List.getLast?_cons_cons, List.getLast?_eq_some_getLast (List.cons_ne_nil p ps)]

theorem prevOf_none (pre : List Char) : prevOf none pre = pre.getLast? := by
  unfold prevOf; cases pre.getLast? <;> rfl

/-- A `\n` of `c :: rest` is its head or lies in `rest`. -/
theorem forall_lf_cons (Q : Option Char → Prop) (prev : Option Char) (c : Char) (rest : List Char) :
    (∀ pre suf, c :: rest = pre ++ '\n' :: suf → Q (prevOf prev pre)) ↔
      (c = '\n' → Q prev) ∧ ∀ pre suf, rest = pre ++ '\n' :: suf → Q (prevOf (some c) pre) := by
  constructor
  · intro h
    refine ⟨fun hc => h [] rest (by rw [hc]; rfl), fun pre suf e => ?_⟩
    rw [← prevOf_cons prev]
    exact h (c :: pre) suf (by rw [e]; rfl)
  · rintro ⟨h1, h2⟩ pre suf e
    cases pre with
    | nil => exact h1 (List.cons.inj e).1
    | cons p pre' =>
      obtain ⟨rfl, e'⟩ := List.cons.inj e
      rw [prevOf_cons]
      exact h2 pre' suf e'

theorem everyLfAfterCr_iff (t : List Char) (prev : Option Char) :
    everyLfAfterCr prev t = true ↔
      ∀ pre suf, t = pre ++ '\n' :: suf → prevOf prev pre = some '\r' := by
  induction t generalizing prev with
  | nil => simp [everyLfAfterCr]
  | cons c rest ih =>
    rw [forall_lf_cons (· = some '\r'), ← ih, everyLfAfterCr, Bool.and_eq_true]
    refine and_congr_left' ?_
    split <;> simp [*]

theorem everyLfAfterCr_head (prev : Option Char) (s : List Char) (h : everyLfAfterCr prev s = true)
    (hs : s.head? = some '\n') : prev = some '\r' := by
  cases s with
  | nil => cases hs
  | cons c r =>
    cases hs
    rw [everyLfAfterCr, Bool.and_eq_true] at h
    simpa using h.1

/-- On a text that already has a `\r` before every `\n` the Windows converter changes nothing
(except that a leading `\n` whose `\r` is `prev` gets a `\r` of its own). -/
theorem windows_fix (s : List Char) (prev : Option Char) (h : everyLfAfterCr prev s = true) :
    convertToWindows s = if s.head? = some '\n' then '\r' :: s else s := by
  induction s generalizing prev with
  | nil => rfl
  | cons c rest ih =>
    rw [everyLfAfterCr, Bool.and_eq_true] at h
    have hh := everyLfAfterCr_head _ _ h.2
    rw [convertToWindows, ih (some c) h.2]
    by_cases hr : rest.head? = some '\n'
    · cases hh hr
      simp [hr]
    · by_cases hc : c = '\n' <;> simp [hr, hc]

theorem windows_idempotent (t : List Char) :
    convertToWindows (convertToWindows t) = convertToWindows t := by
  have h := everyLfAfterCr_windows t none
  rw [windows_fix _ none h, if_neg fun hs => by cases everyLfAfterCr_head _ _ h hs]

theorem linesGo_lf (cur rest : List Char) :
    linesGo cur ('\n' :: rest) = (dropCrHead cur).reverse :: linesGo [] rest := by
  rw [linesGo, if_pos rfl]

theorem linesGo_ne (cur rest : List Char) (c : Char) (h : c ≠ '\n') :
    linesGo cur (c :: rest) = linesGo (c :: cur) rest := by
  rw [linesGo, if_neg h]

theorem dropCrHead_of (cur : List Char) (h : cur.head? ≠ some '\r') : dropCrHead cur = cur := by
  unfold dropCrHead
  split
  · exact absurd rfl h
  · rfl

theorem windows_lf (rest : List Char) :
    convertToWindows ('\n' :: rest) = '\r' :: '\n' :: convertToWindows rest := by
  rw [convertToWindows, if_pos rfl]

theorem windows_crlf (r : List Char) :
    convertToWindows ('\r' :: '\n' :: r) = '\r' :: '\n' :: convertToWindows r := by
  rw [convertToWindows, if_neg (by decide), if_pos ⟨rfl, rfl⟩, windows_lf]

theorem windows_other (c : Char) (rest : List Char) (hc : c ≠ '\n')
    (h : ¬(c = '\r' ∧ rest.head? = some '\n')) :
    convertToWindows (c :: rest) = c :: convertToWindows rest := by
  rw [convertToWindows, if_neg hc, if_neg h]

/-- The hypothesis excludes the one case where the converter changes a line: a `\r` read earlier
(head of `cur`) would lose its `\n`-partner to the `\r` the converter inserts. -/
theorem linesGo_windows : ∀ (t cur : List Char), (cur.head? = some '\r' → t.head? ≠ some '\n') →
    linesGo cur (convertToWindows t) = linesGo cur t
  | [], _, _ => rfl
  | c :: rest, cur, h => by
    by_cases hc : c = '\n'
    · subst hc
      rw [windows_lf, linesGo_ne _ _ '\r' (by decide), linesGo_lf, linesGo_lf,
        linesGo_windows rest [] (by simp), dropCrHead_of cur fun e => h e rfl]
      rfl
    · by_cases hr : c = '\r' ∧ rest.head? = some '\n'
      · obtain ⟨rfl, hr⟩ := hr
        cases rest with
        | nil => cases hr
        | cons d r =>
          cases hr
          rw [windows_crlf, linesGo_ne _ _ '\r' (by decide), linesGo_lf,
            linesGo_ne _ _ '\r' (by decide), linesGo_lf, linesGo_windows r [] (by simp)]
      · rw [windows_other c rest hc hr, linesGo_ne _ _ c hc, linesGo_ne _ _ c hc]
        exact linesGo_windows rest _ fun e he => hr ⟨Option.some.inj e, he⟩

theorem unix_crlf (rest : List Char) :
    convertToUnix ('\r' :: '\n' :: rest) = '\n' :: convertToUnix rest := by
  rw [convertToUnix, if_pos ⟨rfl, rfl⟩]

theorem unix_other (c d : Char) (rest : List Char) (h : ¬ (c = '\r' ∧ d = '\n')) :
    convertToUnix (c :: d :: rest) = c :: convertToUnix (d :: rest) := by
  rw [convertToUnix, if_neg h]

theorem hasCrLf_cons (c : Char) (x : List Char) :
    hasCrLf (c :: x) = ((c == '\r' && x.head? == some '\n') || hasCrLf x) := by
  cases x <;> simp [hasCrLf]

theorem hasCrLf_cons_cons (c d : Char) (rest : List Char) :
    hasCrLf (c :: d :: rest) = ((c == '\r' && d == '\n') || hasCrLf (d :: rest)) := rfl

theorem hasCrCrLf_cons (c d : Char) (x : List Char) :
    hasCrCrLf (c :: d :: x) =
      ((c == '\r' && d == '\r' && x.head? == some '\n') || hasCrCrLf (d :: x)) := by
  cases x <;> simp [hasCrCrLf]

theorem hasCrLf_cons_ne (c : Char) (x : List Char) (h : c ≠ '\r') : hasCrLf (c :: x) = hasCrLf x := by
  simp [hasCrLf_cons, h]

theorem hasCrCrLf_cons_ne (c : Char) (x : List Char) (h : c ≠ '\r') :
    hasCrCrLf (c :: x) = hasCrCrLf x := by
  match x with
  | [] => rfl
  | [_] => rfl
  | d :: e :: r => simp [hasCrCrLf_cons c, h]

theorem hasCrCrLf_crlf (rest : List Char) :
    hasCrCrLf ('\r' :: '\n' :: rest) = hasCrCrLf rest := by
  rw [hasCrCrLf_cons, hasCrCrLf_cons_ne _ _ (by decide)]
  rfl

theorem unix_head (c : Char) (x : List Char) :
    (convertToUnix (c :: x)).head? =
      if c = '\r' ∧ x.head? = some '\n' then some '\n' else some c := by
  cases x with
  | nil => simp [convertToUnix]
  | cons d r =>
    by_cases h : c = '\r' ∧ d = '\n'
    · rw [h.1, h.2, unix_crlf]
      rfl
    · simp only [unix_other c d r h, List.head?_cons, Option.some.injEq, h, if_false]

theorem hasCrLf_unix (t : List Char) : hasCrLf (convertToUnix t) = hasCrCrLf t := by
  fun_induction convertToUnix t with
  | case1 => rfl
  | case2 c => rfl
  | case3 c d rest h ih =>
    obtain ⟨rfl, rfl⟩ := h
    rw [hasCrLf_cons_ne _ _ (by decide), ih, hasCrCrLf_crlf]
  | case4 c d rest h ih =>
    rw [hasCrLf_cons, ih, hasCrCrLf_cons, unix_head]
    by_cases hc : c = '\r'
    · have hd : d ≠ '\n' := fun hd => h ⟨hc, hd⟩
      by_cases hx : d = '\r' ∧ rest.head? = some '\n'
      · simp [hc, hx]
      · have : (d == '\r' && rest.head? == some '\n') = false := by simpa using hx
        simp [hc, hd, hx, this]
    · rw [beq_false_of_ne hc]
      rfl

theorem hasCrLf_infix (t : List Char) : hasCrLf t = true ↔ ['\r', '\n'] <:+: t := by
  induction t with
  | nil => simp [hasCrLf]
  | cons c x ih =>
    rw [hasCrLf_cons, List.infix_cons_iff, ← ih]
    cases x <;> simp [List.cons_prefix_cons, eq_comm (a := '\r'), eq_comm (a := '\n')]

theorem hasCrCrLf_infix (t : List Char) : hasCrCrLf t = true ↔ ['\r', '\r', '\n'] <:+: t := by
  induction t with
  | nil => simp [hasCrCrLf]
  | cons c x ih =>
    rw [List.infix_cons_iff, ← ih]
    match x with
    | [] => simp [hasCrCrLf]
    | [_] => simp [hasCrCrLf, List.cons_prefix_cons]
    | d :: e :: r =>
      simp [hasCrCrLf, List.cons_prefix_cons, and_assoc, eq_comm (a := '\r'), eq_comm (a := '\n')]

theorem hasCrLf_iff (t : List Char) :
    hasCrLf t = true ↔ ∃ pre suf, t = pre ++ '\r' :: '\n' :: suf :=
  (hasCrLf_infix t).trans (infix_iff_exists _ t)

theorem hasCrCrLf_iff (t : List Char) :
    hasCrCrLf t = true ↔ ∃ pre suf, t = pre ++ '\r' :: '\r' :: '\n' :: suf :=
  (hasCrCrLf_infix t).trans (infix_iff_exists _ t)

theorem unix_fix (s : List Char) (h : hasCrLf s = false) : convertToUnix s = s := by
  fun_induction convertToUnix s <;> simp_all [hasCrLf]

theorem linesGo_unix (t : List Char) : ∀ (cur : List Char),
    (cur.head? = some '\r' → ¬ ∃ r, t = '\r' :: '\n' :: r) → hasCrCrLf t = false →
    linesGo cur (convertToUnix t) = linesGo cur t := by
  fun_induction convertToUnix t with
  | case1 => intros; rfl
  | case2 c => intros; rfl
  | case3 c d rest hcd ih =>
    obtain ⟨rfl, rfl⟩ := hcd
    intro cur hcur h3
    rw [linesGo_lf, linesGo_ne _ _ '\r' (by decide), linesGo_lf,
      dropCrHead_of cur fun h => hcur h ⟨rest, rfl⟩]
    rw [hasCrCrLf_crlf] at h3
    rw [ih [] (by simp) h3]
    rfl
  | case4 c d rest hcd ih =>
    intro cur hcur h3
    have h3' : hasCrCrLf (d :: rest) = false := by
      rw [hasCrCrLf_cons, Bool.or_eq_false_iff] at h3
      exact h3.2
    by_cases hc : c = '\n'
    · subst hc
      rw [linesGo_lf, linesGo_lf, ih [] (by simp) h3']
    · rw [linesGo_ne _ _ c hc, linesGo_ne _ _ c hc]
      refine ih _ (fun hh ⟨r, hr⟩ => ?_) h3'
      cases hh
      cases hr
      simp [hasCrCrLf] at h3

theorem position_append_lf (pre suf : List Char) (h : '\n' ∉ pre) :
    position (· == '\n') (pre ++ '\n' :: suf) = some pre.length := by
  induction pre with
  | nil => simp [position]
  | cons p ps ih =>
    rw [List.mem_cons, not_or] at h
    simp [position, Ne.symm h.1, ih h.2]

theorem position_none (t : List Char) (h : '\n' ∉ t) : position (· == '\n') t = none := by
  fun_induction position (· == '\n') t <;> simp_all

theorem autoDetect_first (pre suf : List Char) (h : '\n' ∉ pre) :
    autoDetect (pre ++ '\n' :: suf) =
      if pre.getLast? = some '\r' then Effective.windows else Effective.unix := by
  unfold autoDetect
  rw [position_append_lf pre suf h]
  rcases List.eq_nil_or_concat pre with rfl | ⟨q, x, rfl⟩
  · rfl
  · have hget : (q ++ [x] ++ '\n' :: suf)[(q ++ [x]).length - 1]? = some x := by simp
    simp only [List.concat_eq_append, hget, List.getLast?_concat]
    split <;> simp_all

theorem autoDetect_no_lf (t : List Char) (h : '\n' ∉ t) : autoDetect t = nativeNewlineStyle := by
  unfold autoDetect
  rw [position_none t h]

def CrLfOnly (r : List Char) : Prop := ∀ c ∈ r, c = '\n' ∨ c = '\r'

def EndsInText (p : List Char) : Prop := ∀ x, p.getLast? = some x → x ≠ '\n' ∧ x ≠ '\r'

theorem newlineCount_append (n : Nat) (a b : List Char) :
    newlineCount n (a ++ b) = newlineCount (newlineCount n a) b := by
  fun_induction newlineCount n a <;> simp_all [newlineCount]

theorem newlineCount_crlf (n : Nat) (r : List Char) (h : CrLfOnly r) :
    newlineCount n r = n + r.count '\n' := by
  induction r generalizing n with
  | nil => simp [newlineCount]
  | cons c cs ih =>
    obtain ⟨hc, hcs⟩ := List.forall_mem_cons.mp h
    rcases hc with rfl | rfl
    · simp [newlineCount, ih _ hcs]; omega
    · simp [newlineCount, ih _ hcs]

theorem newlineCount_text (n : Nat) (p : List Char) (hne : p ≠ []) (h : EndsInText p) :
    newlineCount n p = 0 := by
  obtain ⟨q, x, rfl⟩ : ∃ q x, p = q ++ [x] :=
    ⟨p.dropLast, p.getLast hne, (List.dropLast_concat_getLast hne).symm⟩
  have hx := h x (by simp)
  rw [newlineCount_append]
  simp [newlineCount, hx.1, hx.2]

theorem newlineCount_decomp (p r : List Char) (hp : EndsInText p) (hr : CrLfOnly r) :
    newlineCount 0 (p ++ r) = r.count '\n' := by
  rw [newlineCount_append]
  by_cases hne : p = []
  · subst hne; simp [newlineCount, newlineCount_crlf 0 r hr]
  · rw [newlineCount_text 0 p hne hp, newlineCount_crlf 0 r hr]; simp

theorem exists_decomp (t : List Char) : ∃ p r, t = p ++ r ∧ EndsInText p ∧ CrLfOnly r := by
  obtain ⟨p, r, e, hp, hr⟩ := exists_trailing_run (fun c => c == '\n' || c == '\r') t
  exact ⟨p, r, e, fun x hx => by simpa using hp x hx, fun c hc => by simpa using hr c hc⟩

theorem byteLen_append (a b : List Char) : byteLen (a ++ b) = byteLen a + byteLen b := by
  simp [byteLen]

theorem utf8Size_crlf (c : Char) (h : c = '\n' ∨ c = '\r') : c.utf8Size = 1 := by
  rcases h with rfl | rfl <;> decide

theorem byteLen_crlf (r : List Char) (h : CrLfOnly r) : byteLen r = r.length := by
  induction r with
  | nil => rfl
  | cons c cs ih =>
    obtain ⟨hc, hcs⟩ := List.forall_mem_cons.mp h
    have h1 := utf8Size_crlf c hc
    have h2 := ih hcs
    simp only [byteLen, List.map_cons, List.sum_cons, List.length_cons] at *
    omega

theorem truncateBytes_crlf (r : List Char) (k : Nat) (h : CrLfOnly r) :
    truncateBytes r k = some (r.take k) := by
  induction r generalizing k with
  | nil => simp [truncateBytes]
  | cons c cs ih =>
    obtain ⟨hc, hcs⟩ := List.forall_mem_cons.mp h
    have h1 := utf8Size_crlf c hc
    unfold truncateBytes
    by_cases hk : k = 0
    · simp [hk]
    · have : ¬ k < 1 := by omega
      simp only [hk, if_false, h1, this, ih _ hcs]
      obtain ⟨k', rfl⟩ : ∃ k', k = k' + 1 := ⟨k - 1, by omega⟩
      simp

theorem truncateBytes_append (p r : List Char) (k : Nat) (h : CrLfOnly r) :
    truncateBytes (p ++ r) (byteLen p + k) = some (p ++ r.take k) := by
  induction p with
  | nil => simpa [byteLen] using truncateBytes_crlf r k h
  | cons c cs ih =>
    have hpos : 0 < c.utf8Size := Char.utf8Size_pos c
    have e : byteLen (c :: cs) + k = c.utf8Size + (byteLen cs + k) := by
      simp [byteLen]; omega
    rw [e]
    simp only [List.cons_append, truncateBytes]
    have h1 : ¬ (c.utf8Size + (byteLen cs + k) = 0) := by omega
    have h2 : ¬ (c.utf8Size + (byteLen cs + k) < c.utf8Size) := by omega
    simp only [h1, h2, if_false, Nat.add_sub_cancel_left, ih]
    simp

/-- The effect of the truncation, on the decomposition of the text: all but one of the `\n` counted by
`newline_count` are removed *as bytes from the end*, whatever those bytes are (`\n` or `\r`).  It never
panics. -/
theorem formatLinesTruncate_decomp (p r : List Char) (hp : EndsInText p) (hr : CrLfOnly r) :
    formatLinesTruncate (p ++ r) = some (p ++ r.take (r.length - (r.count '\n' - 1))) := by
  unfold formatLinesTruncate
  simp only [newlineCount_decomp p r hp hr]
  have hcl : r.count '\n' ≤ r.length := List.count_le_length
  split
  · rename_i hgt
    have hb : byteLen (p ++ r) = byteLen p + r.length := by
      rw [byteLen_append, byteLen_crlf r hr]
    have : ¬ (byteLen (p ++ r) < r.count '\n') := by omega
    simp only [this, if_false]
    have e : byteLen (p ++ r) - r.count '\n' + 1 = byteLen p + (r.length - (r.count '\n' - 1)) := by
      omega
    rw [e, truncateBytes_append p r _ hr]
  · rename_i hle
    have : r.count '\n' - 1 = 0 := by omega
    simp [this]

theorem formatLinesTruncate_isSome (t : List Char) : (formatLinesTruncate t).isSome = true := by
  obtain ⟨p, r, rfl, hp, hr⟩ := exists_decomp t
  rw [formatLinesTruncate_decomp p r hp hr]; rfl

theorem finalize_cr_lf (p : List Char) (c k : Nat) (hp : EndsInText p) :
    finalize (p ++ List.replicate c '\r' ++ List.replicate k '\n') =
      some (p ++ List.replicate c '\r' ++ ['\n']) := by
  -- the trailing run after `append_newline`, with the `\n` that stays put first
  have e : p ++ List.replicate c '\r' ++ List.replicate k '\n' ++ ['\n'] =
      p ++ (List.replicate c '\r' ++ ['\n'] ++ List.replicate k '\n') := by
    simp only [List.append_assoc, ← List.replicate_succ', List.replicate_succ, List.singleton_append]
  have hr : CrLfOnly (List.replicate c '\r' ++ ['\n'] ++ List.replicate k '\n') := by
    intro x hx
    simp only [List.mem_append, List.mem_replicate, List.mem_singleton] at hx
    rcases hx with (⟨_, rfl⟩ | rfl) | ⟨_, rfl⟩
    · exact .inr rfl
    · exact .inl rfl
    · exact .inl rfl
  rw [finalize, appendNewline, e, formatLinesTruncate_decomp p _ hp hr,
    List.take_left' (by simp [List.count_replicate]; omega), ← List.append_assoc]

theorem exists_strip (b : List Char) :
    ∃ p k, b = p ++ List.replicate k '\n' ∧ p.getLast? ≠ some '\n' := by
  obtain ⟨p, r, e, hp, hr⟩ := exists_trailing_run (· == '\n') b
  have hr' : r = List.replicate r.length '\n' :=
    List.eq_replicate_iff.mpr ⟨rfl, fun c hc => by simpa using hr c hc⟩
  exact ⟨p, r.length, e.trans (congrArg _ hr'), fun h => by simpa using hp _ h⟩

theorem finalize_no_cr (b : List Char) (hcr : '\r' ∉ b) (hne : ∃ x ∈ b, x ≠ '\n') :
    ∃ p k, b = p ++ List.replicate k '\n' ∧ p ≠ [] ∧ p.getLast? ≠ some '\n' ∧
      finalize b = some (p ++ ['\n']) := by
  obtain ⟨p, k, rfl, hp⟩ := exists_strip b
  have hpne : p ≠ [] := by
    rintro rfl
    obtain ⟨x, hx, hxn⟩ := hne
    simp at hx
    exact hxn hx.2
  refine ⟨p, k, rfl, hpne, hp, ?_⟩
  have hpt : EndsInText p := by
    intro x hx
    refine ⟨fun e => hp (e ▸ hx), fun e => hcr ?_⟩
    subst e
    have : '\r' ∈ p := List.mem_of_getLast? hx
    simp [this]
  simpa using finalize_cr_lf p 0 k hpt

theorem clamp_eq (off n lower upper : Nat) (h : lower ≤ upper) :
    clampBlank off n lower upper = max off (max (lower + 1) (min (off + n) (upper + 1))) := by
  simp only [clampBlank, pushVerticalSpaces]
  split
  · split <;> omega
  · split
    · split <;> omega
    · omega

theorem clamp_bounds (off n lower upper : Nat) (h : lower ≤ upper) :
    lower + 1 ≤ clampBlank off n lower upper ∧
      clampBlank off n lower upper ≤ max off (upper + 1) := by
  rw [clamp_eq off n lower upper h]; omega

theorem pushVerticalSpaces_no_underflow (off n lower upper : Nat) :
    (n + off > upper + 1 → ¬ off ≥ upper + 1 → off ≤ upper + 1) ∧
    (n + off < lower + 1 → ¬ off ≥ lower + 1 → off ≤ lower + 1) := by
  omega

theorem trailingNewlines_push (buf : List Char) (k : Nat) :
    trailingNewlines (buf ++ List.replicate k '\n') = trailingNewlines buf + k := by
  unfold trailingNewlines
  rw [List.reverse_append, List.reverse_replicate, List.takeWhile_append_of_pos (by simp)]
  simp; omega

/-- Invariant of `space_buffer`: blanks other than `\n`. -/
def WsOnly (sp : List (CC.Kind × Char)) : Prop := ∀ x ∈ sp, isWhitespace x.2 = true ∧ x.2 ≠ '\n'

theorem WsOnly_nil : WsOnly [] := by intro x h; simp at h

theorem WsOnly_append (a b : List (CC.Kind × Char)) (ha : WsOnly a) (hb : WsOnly b) :
    WsOnly (a ++ b) :=
  fun x hx => (List.mem_append.mp hx).elim (ha x) (hb x)

theorem WsOnly_snoc (sp : List (CC.Kind × Char)) (k : CC.Kind) (c : Char) (h : WsOnly sp)
    (hw : isWhitespace c = true) (hn : c ≠ '\n') : WsOnly (sp ++ [(k, c)]) :=
  WsOnly_append sp _ h fun x hx => by cases List.mem_singleton.mp hx; exact ⟨hw, hn⟩

/-- The three ways the loop of `remove_trailing_white_spaces` treats a char. -/
theorem char_cases (c : Char) :
    c = '\n' ∨ (c ≠ '\n' ∧ isWhitespace c = true) ∨ (c ≠ '\n' ∧ isWhitespace c = false) := by
  by_cases hn : c = '\n'
  · exact .inl hn
  · cases h : isWhitespace c
    · exact .inr (.inr ⟨hn, rfl⟩)
    · exact .inr (.inl ⟨hn, rfl⟩)

/-- Both arms of `if !space_buffer.is_empty()` push the same text. -/
theorem rtwTagged_cons_text (sp : List (CC.Kind × Char)) (k : CC.Kind) (c : Char)
    (rest : List (CC.Kind × Char)) (hn : c ≠ '\n') (hw : isWhitespace c = false) :
    rtwTagged sp ((k, c) :: rest) = sp ++ (k, c) :: rtwTagged [] rest := by
  simp only [rtwTagged, hn, hw, if_false]
  cases sp <;> simp

theorem rtwTagged_cons_ws (sp : List (CC.Kind × Char)) (k : CC.Kind) (c : Char)
    (rest : List (CC.Kind × Char)) (hn : c ≠ '\n') (hw : isWhitespace c = true) :
    rtwTagged sp ((k, c) :: rest) = rtwTagged (sp ++ [(k, c)]) rest := by
  simp [rtwTagged, hn, hw]

theorem rtwTagged_cons_lf (sp : List (CC.Kind × Char)) (k : CC.Kind)
    (rest : List (CC.Kind × Char)) :
    rtwTagged sp ((k, '\n') :: rest) =
      (if k = .inString then sp else []) ++ (k, '\n') :: rtwTagged [] rest := by
  simp [rtwTagged]

theorem rtwTagged_ws_prefix (sp0 sp xs : List (CC.Kind × Char)) (h : WsOnly sp) :
    rtwTagged sp0 (sp ++ xs) = rtwTagged (sp0 ++ sp) xs := by
  induction sp generalizing sp0 with
  | nil => simp
  | cons y ys ih =>
    obtain ⟨k, c⟩ := y
    obtain ⟨hy, hys⟩ := List.forall_mem_cons.mp h
    rw [List.cons_append, rtwTagged_cons_ws _ _ _ _ hy.2 hy.1, ih _ hys]
    simp

theorem rtwTagged_compose (ks sp0 sp : List (CC.Kind × Char)) (h : WsOnly sp) :
    rtwTagged sp0 (rtwTagged sp ks) = rtwTagged (sp0 ++ sp) ks := by
  induction ks generalizing sp0 sp with
  | nil => simp [rtwTagged]
  | cons y rest ih =>
    obtain ⟨k, c⟩ := y
    rcases char_cases c with rfl | ⟨hn, hw⟩ | ⟨hn, hw⟩
    · rw [rtwTagged_cons_lf, rtwTagged_cons_lf]
      by_cases hk : k = .inString
      · rw [if_pos hk, if_pos hk, rtwTagged_ws_prefix _ _ _ h, rtwTagged_cons_lf, if_pos hk,
          ih [] [] WsOnly_nil]
        rfl
      · rw [if_neg hk, if_neg hk, List.nil_append, rtwTagged_cons_lf, if_neg hk,
          ih [] [] WsOnly_nil]
        rfl
    · rw [rtwTagged_cons_ws _ _ _ _ hn hw, rtwTagged_cons_ws _ _ _ _ hn hw,
        ih _ _ (WsOnly_snoc _ _ _ h hw hn), List.append_assoc]
    · rw [rtwTagged_cons_text _ _ _ _ hn hw, rtwTagged_cons_text _ _ _ _ hn hw,
        rtwTagged_ws_prefix _ _ _ h, rtwTagged_cons_text _ _ _ _ hn hw, ih [] [] WsOnly_nil]
      rfl

/-- `prev` is not a trailing blank. -/
def prevOk (prev : Option Char) : Bool :=
  match prev with
  | some p => p == '\n' || !isWhitespace p
  | none => true

theorem prevOk_iff (prev : Option Char) :
    prevOk prev = true ↔ ∀ w, prev = some w → w = '\n' ∨ isWhitespace w = false := by
  cases prev <;> simp [prevOk]

theorem noTrailingBlankT_nil (prev : Option Char) : noTrailingBlankT prev [] = prevOk prev := by
  cases prev <;> rfl

theorem noTrailingBlankT_cons (prev : Option Char) (k : CC.Kind) (c : Char)
    (rest : List (CC.Kind × Char)) :
    noTrailingBlankT prev ((k, c) :: rest) =
      ((if c = '\n' ∧ k ≠ .inString then prevOk prev else true) && noTrailingBlankT (some c) rest) := by
  cases prev <;> rfl

theorem noTrailingBlank_nil (prev : Option Char) : noTrailingBlank prev [] = prevOk prev := by
  cases prev <;> rfl

theorem noTrailingBlank_cons (prev : Option Char) (c : Char) (rest : List Char) :
    noTrailingBlank prev (c :: rest) =
      ((if c = '\n' then prevOk prev else true) && noTrailingBlank (some c) rest) := by
  cases prev <;> rfl

/-- Walking over blanks that are not `\n` checks nothing. -/
theorem noTrailingBlankT_ws_prefix (sp xs : List (CC.Kind × Char)) (prev : Option Char)
    (h : WsOnly sp) (x : CC.Kind × Char) :
    noTrailingBlankT prev (sp ++ x :: xs) =
      noTrailingBlankT (prevOf prev (sp.map Prod.snd)) (x :: xs) := by
  induction sp generalizing prev with
  | nil => rfl
  | cons y ys ih =>
    obtain ⟨hy, hys⟩ := List.forall_mem_cons.mp h
    rw [List.cons_append, noTrailingBlankT_cons, ih _ hys, List.map_cons, prevOf_cons,
      if_neg (hy.2 ·.1)]
    rfl

theorem rtwTagged_noTrailingBlankT (ks sp : List (CC.Kind × Char)) (prev : Option Char)
    (hp : prevOk prev = true) (h : WsOnly sp) :
    noTrailingBlankT prev (rtwTagged sp ks) = true := by
  induction ks generalizing sp prev with
  | nil => simp [rtwTagged, noTrailingBlankT_nil, hp]
  | cons y rest ih =>
    obtain ⟨k, c⟩ := y
    rcases char_cases c with rfl | ⟨hn, hw⟩ | ⟨hn, hw⟩
    · rw [rtwTagged_cons_lf]
      by_cases hk : k = .inString
      · rw [if_pos hk, noTrailingBlankT_ws_prefix _ _ _ h, noTrailingBlankT_cons]
        simp [hk, ih [] (some '\n') rfl WsOnly_nil]
      · rw [if_neg hk, List.nil_append, noTrailingBlankT_cons]
        simp [hk, hp, ih [] (some '\n') rfl WsOnly_nil]
    · rw [rtwTagged_cons_ws _ _ _ _ hn hw]
      exact ih _ _ hp (WsOnly_snoc _ _ _ h hw hn)
    · rw [rtwTagged_cons_text _ _ _ _ hn hw, noTrailingBlankT_ws_prefix _ _ _ h,
        noTrailingBlankT_cons]
      simp [hn, ih [] (some c) (by simp [prevOk, hw]) WsOnly_nil]

theorem rtwTagged_sublist (ks sp : List (CC.Kind × Char)) :
    (rtwTagged sp ks).Sublist (sp ++ ks) := by
  induction ks generalizing sp with
  | nil => simp [rtwTagged]
  | cons y rest ih =>
    obtain ⟨k, c⟩ := y
    rcases char_cases c with rfl | ⟨hn, hw⟩ | ⟨hn, hw⟩
    · rw [rtwTagged_cons_lf]
      refine List.Sublist.append ?_ ((ih []).cons_cons _)
      split
      · exact .refl _
      · exact List.nil_sublist _
    · rw [rtwTagged_cons_ws _ _ _ _ hn hw]
      simpa using ih (sp ++ [(k, c)])
    · rw [rtwTagged_cons_text _ _ _ _ hn hw]
      exact (List.Sublist.refl sp).append ((ih []).cons_cons _)

theorem noTrailingBlankT_plain (ks : List (CC.Kind × Char)) (prev : Option Char)
    (h : ∀ x ∈ ks, x.2 = '\n' → x.1 ≠ .inString) :
    noTrailingBlank prev (ks.map Prod.snd) = noTrailingBlankT prev ks := by
  induction ks generalizing prev with
  | nil => rw [List.map_nil, noTrailingBlank_nil, noTrailingBlankT_nil]
  | cons y rest ih =>
    obtain ⟨k, c⟩ := y
    obtain ⟨hk, hr⟩ := List.forall_mem_cons.mp h
    rw [List.map_cons, noTrailingBlank_cons, noTrailingBlankT_cons, ih _ hr]
    by_cases hc : c = '\n'
    · rw [if_pos hc, if_pos ⟨hc, hk hc⟩]
    · rw [if_neg hc, if_neg (hc ·.1)]

/-- What is known about a status given the text still to be read. -/
def StatusInv : CC.Status → List Char → Prop
  | .rawStringSuffix n, _ => n ≠ 0
  | .blockComment d, _ => d ≠ 0
  | .stringInBlockComment d, _ => d ≠ 0
  | .blockCommentOpening d, rest => d ≠ 0 ∧ rest.head? = some '*'
  | .blockCommentClosing _, rest => rest.head? = some '/'
  | _, _ => True

/-- The outcome of one `CharClasses::next` is not a panic, and the new status is consistent with the
text left. -/
def StepOk (rest : List Char) : Option (CC.Status × CC.Kind) → Prop
  | some (st', _) => StatusInv st' rest
  | none => False

theorem stepOk_some (rest : List Char) (st : CC.Status) (k : CC.Kind) :
    StepOk rest (some (st, k)) = StatusInv st rest := rfl

theorem step_inv (st : CC.Status) (c : Char) (rest : List Char) (h : StatusInv st (c :: rest)) :
    StepOk rest (CC.step st c rest) := by
  -- `StepOk rest` is pushed into the arms of `step` (splitting the `if`s of `step` itself is slow);
  -- the arms that panic go by `h`, most others end in a status without invariant.  Left are the arms
  -- into `blockCommentOpening` (wants `rest.head? = some '*'`: its guard), `blockCommentClosing` (wants
  -- `rest.head? = some '/'`: its guard) and into a status with a counter (wants `≠ 0`: the guard
  -- `sharps ≠ 0`, or `h`, or `deepness + 1`); only `rawStringSuffix (sharps - 1)` needs arithmetic
  cases st <;> simp only [StatusInv, List.head?_cons, Option.some.injEq] at h <;>
    simp only [CC.step, apply_ite (StepOk rest), stepOk_some, StatusInv, h, if_true, if_false, ite_self]
  all_goals simp_all
  omega

theorem run_isSome (t : List Char) (st : CC.Status) (h : StatusInv st t) : (CC.run st t).isSome = true := by
  induction t generalizing st with
  | nil => rfl
  | cons c rest ih =>
    have hs := step_inv st c rest h
    cases hr : CC.step st c rest with
    | none => rw [hr] at hs; exact hs.elim
    | some r =>
      obtain ⟨st', k⟩ := r
      rw [hr] at hs
      have := ih st' hs
      simp only [CC.run, hr]
      cases hr' : CC.run st' rest with
      | none => rw [hr'] at this; cases this
      | some ks => rfl

theorem classify_isSome (t : List Char) : (CC.classify t).isSome = true :=
  run_isSome t .normal trivial

theorem firstBadLine_windows (t : List Char) (n : Nat) (prev : Option Char) :
    (firstBadLine .windows n prev t).isNone = everyLfAfterCr prev t := by
  induction t generalizing n prev with
  | nil => rfl
  | cons c rest ih =>
    rw [firstBadLine, everyLfAfterCr]
    by_cases hc : c = '\n'
    · subst hc
      cases hp : prev == some '\r' <;> simp [ih]
    · simp [hc, ih]

theorem firstBadLine_unix (t : List Char) (n : Nat) (prev : Option Char) :
    (firstBadLine .unix n prev t).isNone = !hasCrLf (prev.toList ++ t) := by
  induction t generalizing n prev with
  | nil => cases prev <;> simp [firstBadLine, hasCrLf]
  | cons c rest ih =>
    have e : hasCrLf (prev.toList ++ c :: rest) =
        ((prev == some '\r' && c == '\n') || hasCrLf (c :: rest)) := by
      cases prev <;> simp [hasCrLf_cons_cons]
    rw [e, firstBadLine]
    by_cases hc : c = '\n'
    · subst hc
      cases hp : prev == some '\r' <;> simp [ih]
    · simp [hc, ih]

theorem styleOk_windows (t : List Char) : styleOk .windows t = everyLfAfterCr none t :=
  firstBadLine_windows t 1 none

theorem styleOk_unix (t : List Char) : styleOk .unix t = !hasCrLf t := by
  have := firstBadLine_unix t 1 none
  simpa [styleOk] using this

theorem stripFinalTerminator_some (t body : List Char) (h : stripFinalTerminator t = some body) :
    t = body ++ ['\n'] ∨ t = body ++ ['\r', '\n'] := by
  unfold stripFinalTerminator at h
  split at h
  · rename_i r heq
    cases h
    exact .inr (by rw [← List.reverse_reverse t, heq]; simp)
  · rename_i r _ heq
    cases h
    exact .inl (by rw [← List.reverse_reverse t, heq]; simp)
  · cases h

theorem noTrailingBlank_iff (t : List Char) (prev : Option Char) :
    noTrailingBlank prev t = true ↔
      (∀ pre suf, t = pre ++ '\n' :: suf → prevOk (prevOf prev pre) = true) ∧
        prevOk (prevOf prev t) = true := by
  induction t generalizing prev with
  | nil =>
    simp only [noTrailingBlank_nil, prevOf_nil, iff_and_self]
    intro _ pre suf h
    simp at h
  | cons c rest ih =>
    rw [noTrailingBlank_cons, Bool.and_eq_true, ih, prevOf_cons, forall_lf_cons (prevOk · = true),
      and_assoc]
    refine and_congr_left' ?_
    split <;> simp [*]

/-- `last_wspace` after the loop has read `cs` (no `\n` in it), starting at offset `i`. -/
def lwAfterL : List Char → Option Nat → Nat → Option Nat
  | [], lw, _ => lw
  | c :: cs, lw, i => lwAfterL cs (if isWhitespace c ∧ lw.isNone then some i else none) (i + 1)

/-- (argument order of the statement; the recursion is on the list) -/
def lwAfter (lw : Option Nat) (i : Nat) (cs : List Char) : Option Nat := lwAfterL cs lw i

theorem lwAfter_nil (lw : Option Nat) (i : Nat) : lwAfter lw i [] = lw := rfl

theorem lwAfter_cons (lw : Option Nat) (i : Nat) (c : Char) (cs : List Char) :
    lwAfter lw i (c :: cs) =
      lwAfter (if isWhitespace c ∧ lw.isNone then some i else none) (i + 1) cs := by
  -- a bare `rfl` is very slow here: the unifier unfolds `lwAfterL` on the wrong side first
  unfold lwAfter
  rw [lwAfterL]

theorem lwAfter_append (lw : Option Nat) (i : Nat) (a b : List Char) :
    lwAfter lw i (a ++ b) = lwAfter (lwAfter lw i a) (i + a.length) b := by
  induction a generalizing lw i with
  | nil => simp [lwAfter_nil]
  | cons c cs ih =>
    simp only [List.cons_append, lwAfter_cons, ih, List.length_cons]
    congr 1; omega

theorem pmcLoop_noLf (sn : List Char) (cl : Nat → Bool) (cs rest : List Char) (i : Nat)
    (st : SnippetStatus) (out : List Char) (h : '\n' ∉ cs) :
    pmcLoop sn cl i (cs ++ rest) st out =
      pmcLoop sn cl (i + cs.length) rest { st with last_wspace := lwAfter st.last_wspace i cs } out := by
  induction cs generalizing i st with
  | nil => simp [lwAfter_nil]
  | cons c cs ih =>
    have hc : c ≠ '\n' := fun e => h (by simp [e])
    have hcs : '\n' ∉ cs := fun e => h (by simp [e])
    simp only [List.cons_append, pmcLoop, hc, if_false, lwAfter_cons, List.length_cons]
    split
    · rw [ih _ _ hcs]
      congr 1; omega
    · rw [ih _ _ hcs]
      congr 1; omega

theorem lwAfter_text (lw : Option Nat) (i : Nat) (body : List Char) (hne : body ≠ [])
    (h : ∀ x, body.getLast? = some x → isWhitespace x = false) : lwAfter lw i body = none := by
  obtain ⟨q, x, rfl⟩ : ∃ q x, body = q ++ [x] :=
    ⟨body.dropLast, body.getLast hne, (List.dropLast_concat_getLast hne).symm⟩
  have hx := h x (by simp)
  rw [lwAfter_append]
  simp [lwAfter_cons, lwAfter_nil, hx]

/-- Over a run of blanks `last_wspace` alternates, so it ends set (to the last blank) iff the run is odd. -/
theorem lwAfter_blanks : ∀ (ws : List Char) (i : Nat), (∀ c ∈ ws, isWhitespace c = true) →
    lwAfter none i ws = if ws.length % 2 = 1 then some (i + ws.length - 1) else none
  | [], _, _ => rfl
  | [a], i, h => by simp [lwAfter_cons, lwAfter_nil, h]
  | a :: b :: ws, i, h => by
    have ha : isWhitespace a = true := h a (by simp)
    have hb : isWhitespace b = true := h b (by simp)
    have e : (ws.length + 1 + 1) % 2 = ws.length % 2 := by omega
    simp only [lwAfter_cons, ha, hb, Option.isNone_none, Option.isNone_some, and_self, if_true,
      Bool.false_eq_true, and_false, if_false, List.length_cons, e,
      lwAfter_blanks ws (i + 1 + 1) fun c hc => h c (by simp [hc])]
    split
    · congr 1; omega
    · rfl

theorem sliceExcl_mid {s pre mid post : List Char} (hs : s = pre ++ mid ++ post) {b : Nat}
    (hb : b = pre.length + mid.length) : sliceExcl s pre.length b = some mid := by
  subst hs hb
  unfold sliceExcl
  rw [if_pos ⟨by omega, by simp⟩]
  simp

/-- `CharClasses` and the loop of `remove_trailing_white_spaces` fused: status `s` is the one reached
after the blanks in `sp` have been read. -/
def rtwS : CC.Status → List Char → List Char → Option (List Char)
  | _, _, [] => some []
  | s, sp, c :: t =>
    match CC.step s c t with
    | none => none
    | some (s', k) =>
      if c = '\n' then (rtwS s' [] t).map fun o => (if k = .inString then sp else []) ++ '\n' :: o
      else if isWhitespace c then rtwS s' (sp ++ [c]) t
      else (rtwS s' [] t).map fun o => sp ++ c :: o

theorem rtwS_eq (t : List Char) (s : CC.Status) (spT : List (CC.Kind × Char)) :
    (CC.run s t).map (fun ks => (rtwTagged spT ks).map Prod.snd) = rtwS s (spT.map Prod.snd) t := by
  induction t generalizing s spT with
  | nil => simp [CC.run, rtwS, rtwTagged]
  | cons c t ih =>
    simp only [CC.run, rtwS]
    cases hs : CC.step s c t with
    | none => rfl
    | some r =>
      obtain ⟨s', k⟩ := r
      have ih0 := ih s' []
      have ih1 := ih s' (spT ++ [(k, c)])
      simp only [List.map_nil, List.map_append, List.map_cons] at ih0 ih1
      rcases char_cases c with rfl | ⟨hn, hw⟩ | ⟨hn, hw⟩
      · simp only [if_true, ← ih0]
        cases CC.run s' t with
        | none => rfl
        | some ks =>
          simp only [Option.map_some, rtwTagged_cons_lf, List.map_append, List.map_cons]
          split <;> rfl
      · simp only [hn, hw, if_false, if_true, ← ih1]
        cases CC.run s' t with
        | none => rfl
        | some ks => simp only [Option.map_some, rtwTagged_cons_ws _ _ _ _ hn hw]
      · simp only [hn, hw, if_false, Bool.false_eq_true, ← ih0]
        cases CC.run s' t with
        | none => rfl
        | some ks =>
          simp only [Option.map_some, rtwTagged_cons_text _ _ _ _ hn hw, List.map_append, List.map_cons]

theorem removeTrailingWhiteSpaces_eq_rtwS (t : List Char) :
    removeTrailingWhiteSpaces t = rtwS .normal [] t := by
  simpa [removeTrailingWhiteSpaces, CC.classify] using rtwS_eq t .normal []

theorem rtwS_cons_some {s : CC.Status} {sp O t : List Char} {c : Char}
    (h : rtwS s sp (c :: t) = some O) :
    ∃ s' k, CC.step s c t = some (s', k) ∧
      ((c = '\n' ∧ ∃ o, rtwS s' [] t = some o ∧
          O = (if k = .inString then sp else []) ++ '\n' :: o) ∨
        (c ≠ '\n' ∧ isWhitespace c = true ∧ rtwS s' (sp ++ [c]) t = some O) ∨
        (c ≠ '\n' ∧ isWhitespace c = false ∧ ∃ o, rtwS s' [] t = some o ∧ O = sp ++ c :: o)) := by
  rw [rtwS] at h
  cases hs : CC.step s c t with
  | none => rw [hs] at h; cases h
  | some r =>
    obtain ⟨s', k⟩ := r
    refine ⟨s', k, rfl, ?_⟩
    simp only [hs] at h
    rcases char_cases c with rfl | ⟨hn, hw⟩ | ⟨hn, hw⟩
    · simp only [if_true, Option.map_eq_some_iff] at h
      obtain ⟨o, ho, rfl⟩ := h
      exact .inl ⟨rfl, o, ho, rfl⟩
    · simp only [hn, hw, if_false, if_true] at h
      exact .inr (.inl ⟨hn, hw, h⟩)
    · simp only [hn, hw, if_false, Bool.false_eq_true, Option.map_eq_some_iff] at h
      obtain ⟨o, ho, rfl⟩ := h
      exact .inr (.inr ⟨hn, hw, o, ho, rfl⟩)

/-- The chars `CharClasses` looks for are not blanks. -/
theorem ws_not_special (c : Char) (h : isWhitespace c = true) :
    c ≠ 'r' ∧ c ≠ '"' ∧ c ≠ '\'' ∧ c ≠ '/' ∧ c ≠ '*' ∧ c ≠ '#' ∧ c ≠ '\\' := by
  refine ⟨?_, ?_, ?_, ?_, ?_, ?_, ?_⟩ <;> (rintro rfl; revert h; decide)

/-- A blank never triggers a look-ahead. -/
theorem step_ws (s : CC.Status) (c : Char) (r1 r2 : List Char) (h : isWhitespace c = true) :
    CC.step s c r1 = CC.step s c r2 := by
  obtain ⟨h1, h2, h3, h4, h5, h6, h7⟩ := ws_not_special c h
  cases s <;> simp [CC.step, h1, h2, h3, h4, h5, h6, h7]

/-- All blanks other than `\n` act alike. -/
theorem step_blank (s : CC.Status) (c : Char) (r : List Char) (h : isWhitespace c = true)
    (hn : c ≠ '\n') : CC.step s c r = CC.step s ' ' [] := by
  obtain ⟨h1, h2, h3, h4, h5, h6, h7⟩ := ws_not_special c h
  cases s <;> simp [CC.step, h1, h2, h3, h4, h5, h6, h7, hn]

/-- Leading run of non-blank chars. -/
def leadText (l : List Char) : List Char := l.takeWhile fun c => !isWhitespace c

theorem head_of_leadText (r1 r2 : List Char) (h : leadText r1 = leadText r2) (x : Char)
    (hx : isWhitespace x = false) :
    r1.head? = some x ↔ r2.head? = some x := by
  have key : ∀ l : List Char, (leadText l).head? = some x ↔ l.head? = some x := fun l => by
    rw [leadText, List.head?_takeWhile]
    cases l.head? <;> simp [Option.filter]
    rintro rfl; simp [hx]
  rw [← key r1, ← key r2, h]

theorem isRawStringSuffix_leadText (r : List Char) (n : Nat) :
    CC.isRawStringSuffix r n = CC.isRawStringSuffix (leadText r) n := by
  induction n generalizing r with
  | zero => simp [CC.isRawStringSuffix]
  | succ n ih =>
    cases r with
    | nil => rfl
    | cons c rest =>
      cases hw : isWhitespace c
      · simp only [leadText, List.takeWhile_cons, hw, Bool.not_false, if_true, CC.isRawStringSuffix]
        rw [ih rest]; rfl
      · have hc : c ≠ '#' := by rintro rfl; revert hw; decide
        simp [leadText, hw, CC.isRawStringSuffix, hc]

/-- Except for `'` (two chars of look-ahead) `CharClasses::next` depends on the rest of the text only
through its leading non-blank run. -/
theorem step_leadText (s : CC.Status) (c : Char) (r1 r2 : List Char) (hc : c ≠ '\'')
    (h : leadText r1 = leadText r2) :
    CC.step s c r1 = CC.step s c r2 := by
  have e1 := head_of_leadText r1 r2 h '#' (by decide)
  have e2 := head_of_leadText r1 r2 h '"' (by decide)
  have e3 := head_of_leadText r1 r2 h '\\' (by decide)
  have e4 := head_of_leadText r1 r2 h '*' (by decide)
  have e5 := head_of_leadText r1 r2 h '/' (by decide)
  have e6 : ∀ n, CC.isRawStringSuffix r1 n = CC.isRawStringSuffix r2 n := fun n => by
    rw [isRawStringSuffix_leadText r1, isRawStringSuffix_leadText r2, h]
  cases s <;> simp only [CC.step, e1, e2, e3, e4, e5, e6, hc, if_false]

/-- When the buffer starts with a blank, so does the output (or it is empty). -/
theorem leadText_rtwS_buf (t : List Char) : ∀ (s : CC.Status) (w : Char) (ws O : List Char),
    isWhitespace w = true → rtwS s (w :: ws) t = some O → leadText O = [] := by
  induction t with
  | nil => intro s w ws O _ h; cases h; rfl
  | cons c t ih =>
    intro s w ws O hw h
    obtain ⟨s', k, -, ⟨rfl, o, -, rfl⟩ | ⟨-, -, h⟩ | ⟨-, -, o, -, rfl⟩⟩ := rtwS_cons_some h
    · split <;> simp [leadText, List.takeWhile_cons, hw]
      decide
    · exact ih s' w _ O hw h
    · simp [leadText, hw]

/-- With an empty buffer the output starts with the leading non-blank run of the input. -/
theorem leadText_rtwS (t : List Char) : ∀ (s : CC.Status) (O : List Char),
    rtwS s [] t = some O → leadText O = leadText t := by
  induction t with
  | nil => intro s O h; cases h; rfl
  | cons c t ih =>
    intro s O h
    obtain ⟨s', k, -, ⟨rfl, o, -, rfl⟩ | ⟨-, hw, h⟩ | ⟨-, hw, o, ho, rfl⟩⟩ := rtwS_cons_some h
    · have : isWhitespace '\n' = true := by decide
      split <;> simp [leadText, this]
    · rw [leadText_rtwS_buf t s' c [] O hw h]
      simp [leadText, hw]
    · simp only [List.nil_append, leadText, List.takeWhile_cons, hw, Bool.not_false, if_true]
      congr 1
      exact ih s' o ho

/-- The status after a blank other than `\n`, when `CharClasses::next` does not panic on it. -/
def afterBlank : CC.Status → CC.Status
  | .litStringEscape => .litString
  | .rawStringPrefix _ => .normal
  | .rawStringSuffix _ => .normal
  | .litCharEscape => .litChar
  | s => s

theorem afterBlank_idem (s : CC.Status) : afterBlank (afterBlank s) = afterBlank s := by
  cases s <;> rfl

theorem step_space (s s1 : CC.Status) (k : CC.Kind) (h : CC.step s ' ' [] = some (s1, k)) :
    s1 = afterBlank s := by
  cases s <;> simp [CC.step] at h <;> simp [afterBlank, h]

/-- Skipping blanks before a `\n` that is not inside a string leaves the status after the `\n`
unchanged. -/
theorem step_lf_afterBlank (s s' : CC.Status) (k : CC.Kind) (r r' : List Char)
    (h : CC.step (afterBlank s) '\n' r = some (s', k)) (hk : k ≠ .inString) :
    ∃ k', CC.step s '\n' r' = some (s', k') := by
  cases s with
  | litStringEscape => simp [afterBlank, CC.step] at h; exact absurd h.2.symm hk
  | rawStringPrefix n => simp [afterBlank, CC.step] at h ⊢; exact h.1
  | rawStringSuffix n => simp [afterBlank, CC.step] at h ⊢; exact h.1
  | litCharEscape => simp [afterBlank, CC.step] at h ⊢; exact h.1
  | _ => exact ⟨k, by rw [step_ws _ '\n' r' r (by decide)]; exact h⟩

/-- Re-running the fused function on its own output, from the status `s0` held before the
buffered blanks `sp` were read, reproduces that output — when the text has no `'`.  What is known of
`s0`, `sp` and the current status `s`: re-reading `sp` from `s0` leads to `s` with `sp` buffered again,
and `s` is `s0` or what one blank makes of it.  (The first is used with `sp0 = []`; it is stated for
every `sp0` so that it survives the reading of one more blank.) -/
theorem rtwS_rerun (t : List Char) : ∀ (s0 s : CC.Status) (sp O : List Char), '\'' ∉ t →
    (∀ sp0 x, rtwS s0 sp0 (sp ++ x) = rtwS s (sp0 ++ sp) x) → (s = s0 ∨ s = afterBlank s0) →
    rtwS s sp t = some O → rtwS s0 [] O = some O := by
  induction t with
  | nil => intro s0 s sp O _ _ _ h; cases h; rfl
  | cons c t ih =>
    intro s0 s sp O hq hre hst h
    rw [List.mem_cons, not_or] at hq
    have hnil : ∀ (s' : CC.Status) (sp0 x : List Char),
        rtwS s' sp0 ([] ++ x) = rtwS s' (sp0 ++ []) x := fun _ _ _ => by rw [List.append_nil]; rfl
    obtain ⟨s', k, hs, ⟨rfl, O', hO', rfl⟩ | ⟨hn, hcw, h⟩ | ⟨hn, hcw, O', hO', rfl⟩⟩ :=
      rtwS_cons_some h
    · have ihO := ih s' s' [] O' hq.2 (hnil s') (.inl rfl) hO'
      have hlf : isWhitespace '\n' = true := by decide
      by_cases hk : k = .inString
      · rw [if_pos hk, hre [] ('\n' :: O')]
        simp only [List.nil_append, rtwS, step_ws s '\n' O' t hlf, hs, hk, if_true, ihO,
          Option.map_some]
      · -- the status reached by `\n` directly from `s0`
        have hstep : ∃ k', CC.step s0 '\n' O' = some (s', k') := by
          rcases hst with rfl | rfl
          · exact ⟨k, by rw [step_ws _ '\n' O' t hlf, hs]⟩
          · exact step_lf_afterBlank s0 s' k t O' hs hk
        obtain ⟨k', hk'⟩ := hstep
        simp only [hk, if_false, List.nil_append, rtwS, hk', if_true, ihO, Option.map_some]
        split <;> rfl
    · refine ih s0 s' (sp ++ [c]) O hq.2 (fun sp0 x => ?_) ?_ h
      · rw [List.append_assoc, hre, List.singleton_append, rtwS, step_ws s c x t hcw, hs]
        simp only [hn, hcw, if_false, if_true, List.append_assoc]
      · have hs' := step_space s s' k (by rw [← step_blank s c t hcw hn]; exact hs)
        rcases hst with rfl | rfl
        · exact .inr hs'
        · exact .inr (hs'.trans (afterBlank_idem _))
    · have ihO := ih s' s' [] O' hq.2 (hnil s') (.inl rfl) hO'
      rw [hre [] (c :: O')]
      simp only [List.nil_append, rtwS, step_leadText s c O' t (Ne.symm hq.1) (leadText_rtwS t s' O' hO'),
        hs, hn, hcw, if_false, Bool.false_eq_true, ihO, Option.map_some]

end RF.Lemmas.Newline

import RF.Model.Comment
import RF.Lemmas.CharClasses
/-!
Lemmas about the comment model (`RF.Comment`): the slice iterators partition their input, the
`_ => panic!()` arm of `UngroupedCommentCodeSlices` and the `&subslice[..2]` of `CommentCodeSlices`
are never reached; `CommentReducer` (through its one-character step `rstep`) depends only on the
stripped lines of a comment; the comparison of the safety net; what `remove_comment_header` leaves
of `/*body*/` and `//body`; `find_uncommented`, `find_comment_end` and the byte slices stay inside
the text (what `get_comment_end`'s bound in `RF/Props/C03.lean` rests on).
-/
namespace RF.Lemmas.Comment
open RF.CharClasses RF.Comment RF.Lemmas.CharClasses

/-- Kinds alternate, starting with `k`. -/
def Alternates : CodeCharKind → List Slice → Prop
  | _, [] => True
  | k, s :: t => s.kind = k ∧ Alternates (flipKind k) t

/-- Every slice starts where the previous one ended (byte offsets). -/
def Contiguous : Nat → List Slice → Prop
  | _, [] => True
  | off, s :: t => s.start = off ∧ Contiguous (off + utf8Len s.text) t

/-! ## `UngroupedCommentCodeSlices` -/

theorem takeCode_split : ∀ l : List (Kind × Char),
    (takeCode l).1 ++ (takeCode l).2.map (·.2) = l.map (·.2)
  | [] => rfl
  | (k, c) :: rest => by
    unfold takeCode
    split
    · rfl
    · simp [takeCode_split rest]

theorem takeComment_split : ∀ l : List (Kind × Char),
    (takeComment l).1 ++ (takeComment l).2.map (·.2) = l.map (·.2)
  | [] => rfl
  | (k, c) :: rest => by
    unfold takeComment
    split
    · simp [takeComment_split rest]
    · rfl

/-- `takeCode` stops in front of the next `StartComment` … -/
theorem takeCode_kinds : ∀ l : List (Kind × Char), KindsOk false l → KindsOk false (takeCode l).2
  | [], _ => trivial
  | (k, c) :: rest, h => by
    rcases kindsOk_code h with ⟨hk, hr⟩ | ⟨rfl, -⟩
    · have : k.isComment = false := by rcases hk with rfl | rfl <;> rfl
      simp only [takeCode, this]
      exact takeCode_kinds rest hr
    · exact h

/-- … and `takeComment` behind the `EndComment`. -/
theorem takeComment_kinds : ∀ l : List (Kind × Char), KindsOk true l →
    KindsOk false (takeComment l).2
  | [], _ => trivial
  | (k, c) :: rest, h => by
    rcases kindsOk_comment h with ⟨hk, hr⟩ | ⟨rfl, hr⟩
    · have : k.insideComment = true := by rcases hk with rfl | rfl <;> rfl
      simp only [takeComment, this]
      exact takeComment_kinds rest hr
    · exact hr

/-- On the kinds `CharClasses` emits and with enough fuel, `ungroupedGo` does not reach its
`panic!()`, and the slices it returns are contiguous and concatenate to the characters it was
given. -/
theorem ungroupedGo_concat (fuel off : Nat) (l : List (Kind × Char)) (h : KindsOk false l)
    (hl : l.length ≤ fuel) :
    ∃ items, ungroupedGo fuel off l = some items ∧ items.flatMap (·.text) = l.map (·.2) ∧
      Contiguous off items := by
  induction fuel generalizing off l with
  | zero =>
    cases List.eq_nil_of_length_eq_zero (Nat.le_zero.mp hl)
    exact ⟨[], rfl, rfl, trivial⟩
  | succ fuel ih =>
    match l, h with
    | [], _ => exact ⟨[], rfl, rfl, trivial⟩
    | (k, c) :: rest, h =>
      -- both arms: one slice `c :: p.1`, then the iterator goes on with `p.2`
      have arm : ∀ (kind : CodeCharKind) (p : List Char × List (Kind × Char)),
          p.1 ++ p.2.map (·.2) = rest.map (·.2) → KindsOk false p.2 →
          ∃ items, (ungroupedGo fuel (off + utf8Len (c :: p.1)) p.2).map (⟨kind, off, c :: p.1⟩ :: ·)
              = some items ∧ items.flatMap (·.text) = c :: rest.map (·.2) ∧ Contiguous off items := by
        intro kind p hs hp
        have hlen : p.2.length ≤ fuel := by
          have := congrArg List.length hs
          rw [List.length_append, List.length_map, List.length_map] at this
          exact Nat.le_trans (this ▸ Nat.le_add_left ..) (Nat.le_of_succ_le_succ hl)
        obtain ⟨tl, htl, hcat, hcont⟩ := ih (off + utf8Len (c :: p.1)) p.2 hp hlen
        exact ⟨⟨kind, off, c :: p.1⟩ :: tl, by rw [htl]; rfl,
          by rw [List.flatMap_cons, hcat, ← hs]; rfl, rfl, hcont⟩
      rcases kindsOk_code h with ⟨hk, hr⟩ | ⟨rfl, -, hr⟩
      · rcases hk with rfl | rfl <;>
          exact arm .normal (takeCode rest) (takeCode_split rest) (takeCode_kinds rest hr)
      · exact arm .comment (takeComment rest) (takeComment_split rest) (takeComment_kinds rest hr)

/-- `UngroupedCommentCodeSlices` returns slices for every text (no panic); they concatenate to the
text and each starts where the one before ended. -/
theorem ungrouped_spec (s : List Char) :
    ∃ items, ungrouped? s = some items ∧ items.flatMap (·.text) = s ∧ Contiguous 0 items := by
  have := ungroupedGo_concat s.length 0 (classes s) (classes_kindsOk s) (Nat.le_of_eq (classes_length s))
  rwa [classes_map_snd] at this

theorem ungrouped_isSome (s : List Char) : (ungrouped? s).isSome := by
  obtain ⟨_, h, -⟩ := ungrouped_spec s
  rw [h]; rfl

/-! ## `CommentCodeSlices` -/

/-- The `for` loop when a Normal slice is sought (`last_slice_kind == Comment`): no connector, so
it runs to the end or stops at the first comment character, and there the text has an opener. -/
theorem ccsScan_comment (l : List (Kind × Char)) (i : Nat) (h : KindsOk false l) :
    ccsScan .comment false i none l = .finished none ∨
      ∃ n more, ccsScan .comment false i none l = .broke (i + n) none more ∧
        Opener ((l.drop n).map (·.2)) := by
  induction l generalizing i with
  | nil => exact .inl rfl
  | cons kc rest ih =>
    obtain ⟨k, c⟩ := kc
    rcases kindsOk_code h with ⟨hk, hr⟩ | ⟨rfl, hop, -⟩
    · have e : ccsScan .comment false i none ((k, c) :: rest) =
          ccsScan .comment false (i + 1) none rest := by
        rcases hk with rfl | rfl <;> rfl
      rw [e]
      rcases ih (i + 1) hr with h | ⟨n, more, h, hop⟩
      · exact .inl h
      · exact .inr ⟨n + 1, more, by rw [h, Nat.add_right_comm, Nat.add_assoc], hop⟩
    · exact .inr ⟨0, _, rfl, hop⟩

theorem ccsNext_comment (rest : List Char) :
    ∃ n, ccsNext? .comment rest = some n ∧ (rest.drop n = [] ∨ Opener (rest.drop n)) := by
  have hne : (CodeCharKind.comment == CodeCharKind.normal) = false := rfl
  unfold ccsNext?
  simp only [hne, Bool.false_eq_true, if_false]
  rcases ccsScan_comment (classes rest) 0 (classes_kindsOk rest) with h | ⟨n, more, h, hop⟩
  · exact ⟨rest.length, by rw [h], .inl List.drop_length⟩
  · rw [List.map_drop, classes_map_snd] at hop
    rw [h, Nat.zero_add]
    simp only [Option.getD_none]
    by_cases hz : (n == 0 && !more) = true
    · exact ⟨rest.length, by rw [if_pos hz], .inl List.drop_length⟩
    · exact ⟨n, by rw [if_neg hz], .inr hop⟩

/-- Lower bound on the indices the `for` loop returns. -/
def ScanGe (lo : Nat) : Scan → Prop
  | .broke k fw _ => lo ≤ k ∧ ∀ j, fw = some j → lo ≤ j
  | .finished fw => ∀ j, fw = some j → lo ≤ j

theorem ccsScan_bounds (lk : CodeCharKind) (ss : Bool) (i : Nat) (fw : Option Nat)
    (l : List (Kind × Char)) (lo : Nat) (hi : lo ≤ i) (hfw : ∀ j, fw = some j → lo ≤ j) :
    ScanGe lo (ccsScan lk ss i fw l) := by
  fun_induction ccsScan lk ss i fw l with
  | case1 i fw => exact hfw
  | case2 i fw k c rest conn fw1 hb =>
    refine ⟨hi, fun j hj => ?_⟩
    by_cases h : (conn && fw.isNone) = true
    · cases (if_pos h).symm.trans hj; exact hi
    · exact hfw j ((if_neg h).symm.trans hj)
  | case3 i fw k c rest conn fw1 hb ih =>
    refine ih (Nat.le_succ_of_le hi) fun j hj => ?_
    by_cases hc : conn = true
    · rw [if_pos hc] at hj
      by_cases h : (conn && fw.isNone) = true
      · cases (if_pos h).symm.trans hj; exact hi
      · exact hfw j ((if_neg h).symm.trans hj)
    · rw [if_neg hc] at hj; cases hj

/-- After a Normal slice the text starts with a comment opener: `&subslice[..2]` is in range, and
the Comment slice found has at least the two characters of the opener. -/
theorem ccsNext_normal (rest : List Char) (h : Opener rest) :
    ∃ n, ccsNext? .normal rest = some n ∧ 2 ≤ n := by
  obtain ⟨c2, t, rfl, hc2⟩ := h
  -- either opener: two ASCII characters, tagged `StartComment`, `InComment`, the second no blank,
  -- so the scan goes on at index 2 with no connector seen
  obtain ⟨l2, ss, hss, hscan⟩ : ∃ l2 ss, prefixIsSlashSlash? ('/' :: c2 :: t) = some ss ∧
      ccsScan .normal ss 0 none (classes ('/' :: c2 :: t)) = ccsScan .normal ss 2 none l2 := by
    rcases hc2 with rfl | rfl
    · exact ⟨run .lineComment t, true, rfl, rfl⟩
    · exact ⟨run (.blockComment 1) t, false, rfl, by cases t <;> rfl⟩
  have hb := ccsScan_bounds .normal ss 2 none l2 2 (Nat.le_refl 2) nofun
  have hnn : (CodeCharKind.normal == CodeCharKind.normal) = true := rfl
  rw [ccsNext?, if_pos hnn, hss]
  simp only [hscan]
  cases hsc : ccsScan .normal ss 2 none l2 with
  | broke k fw more =>
    rw [hsc] at hb
    have hli : 2 ≤ fw.getD k := by
      cases fw with
      | none => exact hb.1
      | some w => exact hb.2 w rfl
    have : (fw.getD k == 0 && !more) = false := by
      rw [beq_eq_false_iff_ne.mpr (Nat.ne_of_gt (Nat.lt_of_lt_of_le Nat.zero_lt_two hli))]; rfl
    exact ⟨fw.getD k, by simp [this], hli⟩
  | finished fw =>
    rw [hsc] at hb
    cases fw with
    | none => exact ⟨_, rfl, by simp⟩
    | some w => exact ⟨w, rfl, hb w rfl⟩

/-- What `CommentCodeSlices` can hold between two calls of `next`: after a Normal slice the rest is
empty or begins with a comment opener. -/
def CcsInv (lk : CodeCharKind) (rest : List Char) : Prop :=
  lk = .normal → rest = [] ∨ Opener rest

/-- One `next` from a reachable state: no panic, the invariant is kept, and a Comment slice is not
empty (a Normal slice can be: a text that starts with a comment). -/
theorem ccsNext_step (lk : CodeCharKind) (rest : List Char) (hne : rest ≠ []) (hinv : CcsInv lk rest) :
    ∃ n, ccsNext? lk rest = some n ∧ CcsInv (flipKind lk) (rest.drop n) ∧ (lk = .normal → 2 ≤ n) := by
  cases lk with
  | comment =>
    obtain ⟨n, hn, hinv'⟩ := ccsNext_comment rest
    exact ⟨n, hn, fun _ => hinv', nofun⟩
  | normal =>
    obtain ⟨n, hn, h2⟩ := ccsNext_normal rest ((hinv rfl).resolve_left hne)
    exact ⟨n, hn, nofun, fun _ => h2⟩

/-- `2 * rest.length`, plus one when a Normal slice is sought, bounds the calls of `next` still
needed: seeking a Normal slice may consume nothing, seeking a Comment slice consumes the opener. -/
theorem ccsGo_spec (fuel : Nat) (lk : CodeCharKind) (off : Nat) (rest : List Char)
    (hinv : CcsInv lk rest) (hm : 2 * rest.length + (if lk = .comment then 1 else 0) ≤ fuel) :
    ∃ items, ccsGo fuel lk off rest = some items ∧ items.flatMap (·.text) = rest ∧
      Alternates (flipKind lk) items ∧ Contiguous off items := by
  fun_induction ccsGo fuel lk off rest with
  | case1 lk off rest =>
    cases List.eq_nil_of_length_eq_zero (l := rest) ((Nat.mul_eq_zero.mp
      (Nat.eq_zero_of_add_eq_zero_right (Nat.le_zero.mp hm))).resolve_left (by decide))
    exact ⟨[], rfl, rfl, trivial, trivial⟩
  | case2 fuel lk off rest he =>
    cases List.isEmpty_iff.mp he
    exact ⟨[], rfl, rfl, trivial, trivial⟩
  | case3 fuel lk off rest he hnone =>
    obtain ⟨n, hn, -⟩ := ccsNext_step lk rest (by simpa using he) hinv
    rw [hn] at hnone; cases hnone
  | case4 fuel lk off rest he n hn ih =>
    have hne : rest ≠ [] := by simpa using he
    obtain ⟨n', hn', hinv', h2⟩ := ccsNext_step lk rest hne hinv
    cases hn.symm.trans hn'
    obtain ⟨tl, htl, hcat, halt, hcont⟩ := ih hinv' (by
      cases lk with
      | comment =>
        have hd : (rest.drop n).length ≤ rest.length := by rw [List.length_drop]; exact Nat.sub_le _ _
        exact Nat.le_trans (Nat.mul_le_mul_left 2 hd) (Nat.le_of_succ_le_succ hm)
      | normal =>
        have hd : (rest.drop n).length + 1 ≤ rest.length := by
          rw [List.length_drop]
          exact Nat.sub_lt (List.length_pos_iff.mpr hne) (Nat.lt_of_lt_of_le Nat.zero_lt_two (h2 rfl))
        exact Nat.le_of_succ_le_succ (Nat.le_trans (Nat.mul_le_mul_left 2 hd) hm))
    exact ⟨⟨flipKind lk, off, rest.take n⟩ :: tl, by rw [htl]; rfl,
      by rw [List.flatMap_cons, hcat, List.take_append_drop], ⟨rfl, halt⟩, ⟨rfl, hcont⟩⟩

/-- `CommentCodeSlices::new(s)` collected: no panic, the slices concatenate to `s`, their kinds
alternate starting with `Normal`, and each starts at the byte where the previous one ended. -/
theorem slices_spec (s : List Char) :
    ∃ items, commentCodeSlices? s = some items ∧ items.flatMap (·.text) = s ∧
      Alternates .normal items ∧ Contiguous 0 items :=
  ccsGo_spec (2 * s.length + 2) .comment 0 s nofun (Nat.add_le_add_left (by decide) _)

/-! ## `CommentReducer` -/

/-- One character through `CommentReducer::next`: the state after it, and whether it is yielded. -/
def rstep (blk : Bool) : RState → Char → RState × Bool
  | .firstLine, c => (if c = '\n' ∧ blk = true then .lineStart else .firstLine, !isWs c)
  | .lineStart, c => (if isWs c = false ∧ c = '*' then .afterStar else .lineStart, !isWs c && c != '*')
  | .afterStar, c => (.lineStart, !isWs c)

theorem isWs_nl : isWs '\n' = true := by decide

theorem reduce_cons (blk : Bool) (st : RState) (c : Char) (rest : List Char) :
    reduce blk st (c :: rest) =
      (if (rstep blk st c).2 then [c] else []) ++ reduce blk (rstep blk st c).1 rest := by
  cases st
  · by_cases hn : c = '\n'
    · cases blk <;> simp [reduce, rstep, hn, isWs_nl]
    · by_cases hw : isWs c = true <;> simp [reduce, rstep, hn, hw]
  · by_cases hs : c = '*'
    · simp [reduce, rstep, hs, show isWs '*' = false by decide]
    · by_cases hw : isWs c = true <;> simp [reduce, rstep, hw, hs]
  · by_cases hw : isWs c = true <;> simp [reduce, rstep, hw]

theorem isPad_iff {c : Char} : isPad c = true ↔ isWs c = true ∧ c ≠ '\n' := by
  simp [isPad]

theorem rstep_ws {c : Char} (h : isWs c = true) (blk : Bool) (st : RState) :
    (rstep blk st c).2 = false := by
  cases st <;> simp [rstep, h]

theorem rstep_no_star {c : Char} (h : c ≠ '*') (blk : Bool) (st : RState) :
    (rstep blk st c).2 = !isWs c := by
  cases st <;> simp [rstep, h]

theorem rstep_pad {c : Char} (h : isPad c = true) (blk : Bool) {st : RState} (hst : st ≠ .afterStar) :
    (rstep blk st c).1 = st := by
  cases st
  · simp [rstep, (isPad_iff.mp h).2]
  · simp [rstep, (isPad_iff.mp h).1]
  · exact absurd rfl hst

/-- The state in which the line after a `'\n'` starts. -/
def lineEnd (blk : Bool) (st : RState) : RState := (rstep blk st '\n').1

theorem rstep_nl (blk : Bool) (st : RState) : rstep blk st '\n' = (lineEnd blk st, false) := by
  cases st <;> rfl

theorem lineEnd_ne_afterStar (blk : Bool) (st : RState) : lineEnd blk st ≠ .afterStar := by
  cases st <;> cases blk <;> decide

theorem lineEnd_rstep {c : Char} (h : c ≠ '\n') (blk : Bool) (st : RState) :
    lineEnd blk (rstep blk st c).1 = lineEnd blk st := by
  cases st
  · simp [rstep, h]
  · simp only [rstep]; split <;> rfl
  · rfl

/-- The state of `CommentReducer` after the text `s`, started in `st`. -/
def stateAfter (blk : Bool) (st : RState) (s : List Char) : RState :=
  s.foldl (fun st c => (rstep blk st c).1) st

theorem reduce_append (blk : Bool) : ∀ (a b : List Char) (st : RState),
    reduce blk st (a ++ b) = reduce blk st a ++ reduce blk (stateAfter blk st a) b
  | [], _, _ => rfl
  | c :: a, b, st => by
    rw [List.cons_append, reduce_cons, reduce_cons, reduce_append blk a b, List.append_assoc]; rfl

theorem lineEnd_stateAfter (blk : Bool) : ∀ (s : List Char) (st : RState),
    (∀ c ∈ s, c ≠ '\n') → lineEnd blk (stateAfter blk st s) = lineEnd blk st
  | [], _, _ => rfl
  | c :: s, st, h => by
    rw [stateAfter, List.foldl_cons, ← stateAfter, lineEnd_stateAfter blk s _ fun x hx => h x (List.mem_cons_of_mem _ hx),
      lineEnd_rstep (h c List.mem_cons_self)]

/-- A line and its newline: whatever state the line leaves, the next one starts in `lineEnd`. -/
theorem reduce_nl (blk : Bool) (s y : List Char) (st : RState) (hs : ∀ c ∈ s, c ≠ '\n') :
    reduce blk st (s ++ '\n' :: y) = reduce blk st s ++ reduce blk (lineEnd blk st) y := by
  rw [reduce_append, reduce_cons, rstep_nl, lineEnd_stateAfter blk s st hs]; rfl

theorem reduce_ws (blk : Bool) : ∀ (ws : List Char) (st : RState), (∀ c ∈ ws, isWs c = true) →
    reduce blk st ws = []
  | [], _, _ => by rw [reduce]
  | c :: rest, st, h => by
    rw [reduce_cons, rstep_ws (h c List.mem_cons_self),
      reduce_ws blk rest _ fun x hx => h x (List.mem_cons_of_mem _ hx)]; rfl

theorem reduce_pad_prefix (blk : Bool) : ∀ (ps x : List Char) (st : RState),
    st ≠ .afterStar → (∀ c ∈ ps, isPad c = true) → reduce blk st (ps ++ x) = reduce blk st x
  | [], _, _, _, _ => rfl
  | c :: rest, x, st, hst, h => by
    have hc := h c List.mem_cons_self
    rw [List.cons_append, reduce_cons, rstep_ws (isPad_iff.mp hc).1, rstep_pad hc blk hst]
    exact reduce_pad_prefix blk rest x st hst fun y hy => h y (List.mem_cons_of_mem _ hy)

theorem line_decomp (l : List Char) : ∃ p q, l = p ++ (stripLine l ++ q) ∧
    (∀ c ∈ p, isPad c = true) ∧ (∀ c ∈ q, isPad c = true) := by
  refine ⟨l.takeWhile isPad, ((l.dropWhile isPad).reverse.takeWhile isPad).reverse, ?_,
    fun c hc => List.all_eq_true.mp List.all_takeWhile c hc,
    fun c hc => List.all_eq_true.mp List.all_takeWhile c (List.mem_reverse.mp hc)⟩
  rw [stripLine, ← List.reverse_append, List.takeWhile_append_dropWhile, List.reverse_reverse,
    List.takeWhile_append_dropWhile]

theorem stripLine_no_nl {l : List Char} (h : ∀ c ∈ l, c ≠ '\n') : ∀ c ∈ stripLine l, c ≠ '\n' :=
  fun c hc => h c (List.dropWhile_subset _ (List.mem_reverse.mp
    (List.dropWhile_subset _ (List.mem_reverse.mp hc))))

/-- Blanks put in front of a line or after it do not change its stripped form. -/
theorem stripLine_pads (p l q : List Char) (hp : ∀ c ∈ p, isPad c = true)
    (hq : ∀ c ∈ q, isPad c = true) : stripLine (p ++ l ++ q) = stripLine l := by
  have hq' : ∀ c ∈ q.reverse, isPad c = true := fun c hc => hq c (List.mem_reverse.mp hc)
  have hq0 : q.dropWhile isPad = [] := by
    have := List.dropWhile_append_of_pos (l₂ := []) hq
    rwa [List.append_nil] at this
  simp only [stripLine, List.append_assoc, List.dropWhile_append_of_pos hp]
  rw [List.dropWhile_append]
  split
  · rename_i he
    rw [List.isEmpty_iff.mp he, hq0]
  · rw [List.reverse_append, List.dropWhile_append_of_pos hq']

/-- `CommentReducer` does not see the blanks around a line. -/
theorem reduce_strip (blk : Bool) (l : List Char) (st : RState) (hst : st ≠ .afterStar) :
    reduce blk st l = reduce blk st (stripLine l) := by
  obtain ⟨p, q, hd, hp, hq⟩ := line_decomp l
  conv => lhs; rw [hd]
  rw [reduce_pad_prefix blk p _ st hst hp, reduce_append,
    reduce_ws blk q _ fun c hc => (isPad_iff.mp (hq c hc)).1, List.append_nil]

/-- Lines joined by `'\n'` (inverse of `splitNl`). -/
def joinNl : List (List Char) → List Char
  | [] => []
  | [l] => l
  | l :: l2 :: ls => l ++ '\n' :: joinNl (l2 :: ls)

theorem splitNl_ne_nil : ∀ s : List Char, splitNl s ≠ []
  | [] => by simp [splitNl]
  | c :: cs => by
    have := splitNl_ne_nil cs
    unfold splitNl
    split
    · simp
    · split <;> simp

theorem splitNl_line : ∀ (l : List Char), (∀ c ∈ l, c ≠ '\n') → splitNl l = [l]
  | [], _ => rfl
  | c :: cs, h => by
    have hc : c ≠ '\n' := h c (by simp)
    simp [splitNl, splitNl_line cs (fun x hx => h x (by simp [hx])), hc]

theorem splitNl_line_append : ∀ (l y : List Char), (∀ c ∈ l, c ≠ '\n') →
    splitNl (l ++ '\n' :: y) = l :: splitNl y
  | [], y, _ => by
    have := splitNl_ne_nil y
    cases hy : splitNl y with
    | nil => exact absurd hy this
    | cons a as => simp [splitNl, hy]
  | c :: cs, y, h => by
    have hc : c ≠ '\n' := h c (by simp)
    simp [splitNl, splitNl_line_append cs y (fun x hx => h x (by simp [hx])), hc]

theorem splitNl_joinNl : ∀ (ls : List (List Char)), ls ≠ [] → (∀ l ∈ ls, ∀ c ∈ l, c ≠ '\n') →
    splitNl (joinNl ls) = ls
  | [], h, _ => absurd rfl h
  | [l], _, h => by simpa [joinNl] using splitNl_line l (h l (by simp))
  | l :: l2 :: ls, _, h => by
    have ih := splitNl_joinNl (l2 :: ls) (by simp) (fun x hx => h x (by simp [hx]))
    simp only [joinNl]
    rw [splitNl_line_append l _ (h l (by simp)), ih]

theorem exists_lines : ∀ s : List Char,
    ∃ ls, ls ≠ [] ∧ (∀ l ∈ ls, ∀ c ∈ l, c ≠ '\n') ∧ joinNl ls = s
  | [] => ⟨[[]], nofun, by simp, rfl⟩
  | c :: cs => by
    obtain ⟨ls, hne, hnl, rfl⟩ := exists_lines cs
    match ls, hne with
    | l :: ls, _ =>
      by_cases hc : c = '\n'
      · subst hc
        refine ⟨[] :: l :: ls, nofun, fun x hx => ?_, rfl⟩
        rcases List.mem_cons.mp hx with rfl | hx
        · nofun
        · exact hnl x hx
      · refine ⟨(c :: l) :: ls, nofun, fun x hx => ?_, by cases ls <;> rfl⟩
        rcases List.mem_cons.mp hx with rfl | hx
        · intro d hd
          rcases List.mem_cons.mp hd with rfl | hd
          · exact hc
          · exact hnl l List.mem_cons_self d hd
        · exact hnl x (List.mem_cons_of_mem _ hx)

theorem joinNl_splitNl (s : List Char) : joinNl (splitNl s) = s := by
  obtain ⟨ls, hne, hnl, rfl⟩ := exists_lines s
  rw [splitNl_joinNl ls hne hnl]

theorem splitNl_no_nl (s : List Char) : ∀ l ∈ splitNl s, ∀ c ∈ l, c ≠ '\n' := by
  obtain ⟨ls, hne, hnl, rfl⟩ := exists_lines s
  rw [splitNl_joinNl ls hne hnl]
  exact hnl

/-- `CommentReducer` sees only the stripped lines (from a state a text can start in). -/
theorem reduce_joinNl_strip (blk : Bool) : ∀ (ls : List (List Char)) (st : RState),
    st ≠ .afterStar → (∀ l ∈ ls, ∀ c ∈ l, c ≠ '\n') →
    reduce blk st (joinNl ls) = reduce blk st (joinNl (ls.map stripLine))
  | [], _, _, _ => rfl
  | [l], st, hst, _ => reduce_strip blk l st hst
  | l :: l2 :: ls, st, hst, h => by
    have hl := h l List.mem_cons_self
    simp only [joinNl, List.map_cons]
    rw [reduce_nl blk l _ st hl, reduce_nl blk _ _ st (stripLine_no_nl hl), ← reduce_strip blk l st hst]
    exact congrArg _ (reduce_joinNl_strip blk (l2 :: ls) _ (lineEnd_ne_afterStar blk st) fun x hx => h x (List.mem_cons_of_mem _ hx))

/-- Without a `*` in the text, the payload is the non-blank characters. -/
theorem reduce_no_star (blk : Bool) : ∀ (s : List Char) (st : RState), (∀ c ∈ s, c ≠ '*') →
    reduce blk st s = s.filter (fun c => !isWs c)
  | [], _, _ => by rw [reduce]; rfl
  | c :: rest, st, h => by
    rw [reduce_cons, rstep_no_star (h c List.mem_cons_self),
      reduce_no_star blk rest _ fun x hx => h x (List.mem_cons_of_mem _ hx), List.filter_cons]
    cases isWs c <;> rfl

/-- A line comment's payload: the non-blank characters (the state stays `firstLine`). -/
theorem reduce_line_comment : ∀ (s : List Char), reduce false .firstLine s = s.filter (fun c => !isWs c)
  | [] => rfl
  | c :: rest => by
    have e : rstep false .firstLine c = (.firstLine, !isWs c) := by simp [rstep]
    rw [reduce_cons, e, reduce_line_comment rest, List.filter_cons]
    cases isWs c <;> rfl

/-- Dropping a non-blank character changes such a payload (it gets shorter). -/
theorem filter_erase_ne (x y : List Char) (c : Char) (hc : isWs c = false) :
    (x ++ c :: y).filter (fun c => !isWs c) ≠ (x ++ y).filter (fun c => !isWs c) := by
  intro h
  have := congrArg List.length h
  simp [List.filter_append, hc] at this

theorem isText_not_ws {c : Char} (h : isText c = true) : isWs c = false ∧ c ≠ '*' ∧ c ≠ '/' ∧ c ≠ '!' := by
  simp [isText] at h
  exact ⟨h.1.1.1, h.1.1.2, h.1.2, h.2⟩

/-- A text character is never skipped by `CommentReducer`, whatever state it is met in. -/
theorem reduce_yields_text (blk : Bool) {c : Char} (ht : isText c = true) :
    ∀ (s : List Char) (st : RState), c ∈ s → reduce blk st s ≠ []
  | [], _, hm => absurd hm List.not_mem_nil
  | x :: rest, st, hm => by
    rw [reduce_cons]
    rcases List.mem_cons.mp hm with rfl | hm
    · obtain ⟨hw, hs, -⟩ := isText_not_ws ht
      rw [rstep_no_star hs, hw]; nofun
    · exact fun h => reduce_yields_text blk ht rest _ hm (List.append_eq_nil_iff.mp h).2

/-! ## The safety net -/

theorem streamsEq_true (a b : List (Option Char)) (h : streamsEq? a b = some true) :
    a = b ∧ (sequence a).isSome := by
  fun_induction streamsEq? a b with
  | case1 => exact ⟨rfl, rfl⟩
  | case7 x a b ih =>
    obtain ⟨rfl, h2⟩ := ih h
    obtain ⟨l, hl⟩ := Option.isSome_iff_exists.mp h2
    exact ⟨rfl, by rw [sequence, hl]; rfl⟩
  | _ => cases h

/-- Two streams without a panic event can always be compared. -/
theorem streamsEq_map_some : ∀ (la lb : List Char),
    streamsEq? (la.map some) (lb.map some) = some (decide (la = lb))
  | [], [] => rfl
  | [], _ :: _ => rfl
  | _ :: _, [] => rfl
  | x :: a, y :: b => by
    simp only [List.map_cons, streamsEq?, streamsEq_map_some a b, List.cons.injEq]
    by_cases h : x = y <;> simp [h]

theorem eq_map_some_of_sequence (a : List (Option Char)) (l : List Char) (h : sequence a = some l) :
    a = l.map some := by
  fun_induction sequence a generalizing l with
  | case1 => cases h; rfl
  | case2 => cases h
  | case3 c rest ih =>
    obtain ⟨t, ht, rfl⟩ := Option.map_eq_some_iff.mp h
    rw [List.map_cons, ← ih t ht]

/-- `changed_comment_content` when both payloads exist: it compares them. -/
theorem changed_of_payloads {orig new la lb : List Char} (ha : commentPayload? orig = some la)
    (hb : commentPayload? new = some lb) :
    changedCommentContent? orig new = some (!decide (la = lb)) := by
  obtain ⟨a, ea⟩ := Option.isSome_iff_exists.mp (ungrouped_isSome orig)
  obtain ⟨b, eb⟩ := Option.isSome_iff_exists.mp (ungrouped_isSome new)
  simp only [commentPayload?, ea, eb] at ha hb
  simp only [changedCommentContent?, ea, eb, eq_map_some_of_sequence _ _ ha, eq_map_some_of_sequence _ _ hb,
    streamsEq_map_some, Option.map_some]

/-! ## `remove_comment_header` -/

theorem utf8Len_append : ∀ (a b : List Char), utf8Len (a ++ b) = utf8Len a + utf8Len b
  | [], _ => by rw [List.nil_append, utf8Len, Nat.zero_add]
  | c :: cs, b => by rw [List.cons_append, utf8Len, utf8Len, utf8Len_append cs b, Nat.add_assoc]

/-- Core's `Char.utf8Size_pos`, under the name `RF/Lemmas/MissedSpans.lean` opens. -/
theorem utf8Size_pos (c : Char) : 0 < c.utf8Size := Char.utf8Size_pos c

/-- `&s[..a.len()]` of `a ++ b` is `a`. -/
theorem takeBytes_prefix : ∀ (a b : List Char), takeBytes? (utf8Len a) (a ++ b) = some a
  | [], b => by cases b <;> rfl
  | c :: cs, b => by
    -- `c.utf8Size` written as a successor, so that `takeBytes?` unfolds
    obtain ⟨m, hm⟩ := Nat.exists_eq_succ_of_ne_zero (Nat.ne_of_gt (Char.utf8Size_pos c))
    rw [utf8Len, hm, Nat.succ_add, List.cons_append, takeBytes?, hm,
      if_pos (Nat.succ_le_succ (Nat.le_add_right m _)), Nat.succ_sub_succ, Nat.add_sub_cancel_left,
      takeBytes_prefix cs b]
    rfl

/-- `&comment[k..comment.len() - 2]` of `hdr ++ body ++ "*/"` with a `k`-byte ASCII header. -/
theorem stripBlock_spec (hdr body : List Char) (h : utf8Len hdr = hdr.length) :
    stripBlock? hdr.length (hdr ++ (body ++ ['*', '/'])) = some body := by
  have hlen : utf8Len (hdr ++ (body ++ ['*', '/'])) = utf8Len (hdr ++ body) + 2 := by
    rw [← List.append_assoc, utf8Len_append]; rfl
  have hge : hdr.length ≤ utf8Len (hdr ++ body) := by
    rw [utf8Len_append, h]; exact Nat.le_add_right _ _
  rw [stripBlock?]
  simp only [hlen]
  rw [if_neg (Nat.not_lt.mpr (Nat.add_le_add_right hge 2)), Nat.add_sub_cancel, ← List.append_assoc, takeBytes_prefix, Option.map_some,
    List.drop_left]

theorem startsWith_singleton (x d : Char) (r : List Char) : startsWith (x :: r) [d] = (x == d) := by
  simp [startsWith]

/-- `remove_comment_header` on a text that starts with `/*`: the choice between the two slices. -/
theorem removeCommentHeader_slash_star (tail : List Char) :
    removeCommentHeader? ('/' :: '*' :: tail) =
      if (startsWith tail ['*'] && !startsWith tail ['*', '/']) || startsWith tail ['!']
      then stripBlock? 3 ('/' :: '*' :: tail) else stripBlock? 2 ('/' :: '*' :: tail) := by
  simp [removeCommentHeader?, startsWith]

/-- What `remove_comment_header` leaves of a terminated block comment `/*body*/`: the body, without
its first character if that makes the opener `/**` (but not `/**/`) or `/*!`. -/
theorem removeCommentHeader_block_eq (body : List Char) :
    removeCommentHeader? ('/' :: '*' :: (body ++ ['*', '/'])) =
      some (if (startsWith body ['*'] && !startsWith body ['*', '/']) || startsWith body ['!']
        then body.drop 1 else body) := by
  match body with
  | [] => decide +kernel
  | x :: rest =>
    -- the closer `*/` after the body does not change what the opener looks like
    have hc : (startsWith (x :: (rest ++ ['*', '/'])) ['*'] &&
          !startsWith (x :: (rest ++ ['*', '/'])) ['*', '/'] ||
        startsWith (x :: (rest ++ ['*', '/'])) ['!']) =
        (startsWith (x :: rest) ['*'] && !startsWith (x :: rest) ['*', '/'] ||
          startsWith (x :: rest) ['!']) := by
      cases rest <;> simp [startsWith]
    rw [List.cons_append, removeCommentHeader_slash_star, hc]
    split
    · rename_i h
      have hx : x = '*' ∨ x = '!' := by
        simp only [startsWith_singleton, Bool.or_eq_true, Bool.and_eq_true, beq_iff_eq] at h
        exact h.imp And.left id
      exact stripBlock_spec ['/', '*', x] rest (by rcases hx with rfl | rfl <;> decide)
    · exact stripBlock_spec ['/', '*'] (x :: rest) (by decide)

/-- A terminated plain block comment `/*body*/`: the header and the closer are removed. -/
theorem removeCommentHeader_block (body : List Char)
    (h1 : startsWith body ['*'] = false) (h2 : startsWith body ['!'] = false) :
    removeCommentHeader? ('/' :: '*' :: (body ++ ['*', '/'])) = some body := by
  rw [removeCommentHeader_block_eq, h1, h2]; rfl

/-- The same for a line comment `//body`: `///` and `//!` lose one character more. -/
theorem removeCommentHeader_line_eq (body : List Char) :
    removeCommentHeader? ('/' :: '/' :: body) =
      some (if startsWith body ['/'] || startsWith body ['!'] then body.drop 1 else body) := by
  match body with
  | [] => decide +kernel
  | x :: rest =>
    by_cases hs : x = '/'
    · subst hs; simp [removeCommentHeader?, startsWith]
    · by_cases he : x = '!'
      · subst he; simp [removeCommentHeader?, startsWith]
      · simp [removeCommentHeader?, startsWith, hs, he]

/-- A header that swallows one more character swallows decoration, never text. -/
theorem mem_drop_of_text {body : List Char} {b : Bool} {c : Char} (hc : c ∈ body) (ht : isText c = true)
    (hb : b = true → ∃ d, isText d = false ∧ startsWith body [d] = true) :
    c ∈ (if b then body.drop 1 else body) := by
  cases b with
  | false => exact hc
  | true =>
    obtain ⟨d, hd, hs⟩ := hb rfl
    match body, hc with
    | x :: rest, hc =>
      rw [startsWith_singleton, beq_iff_eq] at hs
      refine (List.mem_cons.mp hc).resolve_left fun e => ?_
      rw [e, hs, hd] at ht; cases ht

/-- What `remove_comment_header` leaves of a terminated block comment `/*body*/` keeps every text
character of the body. -/
theorem removeCommentHeader_block_text (body : List Char) :
    ∃ b', removeCommentHeader? ('/' :: '*' :: (body ++ ['*', '/'])) = some b' ∧
      ∀ c ∈ body, isText c = true → c ∈ b' := by
  refine ⟨_, removeCommentHeader_block_eq body, fun c hc ht => mem_drop_of_text hc ht fun hb => ?_⟩
  simp only [Bool.or_eq_true, Bool.and_eq_true] at hb
  rcases hb with ⟨h, -⟩ | h
  · exact ⟨'*', by decide, h⟩
  · exact ⟨'!', by decide, h⟩

theorem removeCommentHeader_line_text (body : List Char) :
    ∃ b', removeCommentHeader? ('/' :: '/' :: body) = some b' ∧
      ∀ c ∈ body, isText c = true → c ∈ b' := by
  refine ⟨_, removeCommentHeader_line_eq body, fun c hc ht => mem_drop_of_text hc ht fun hb => ?_⟩
  rcases Bool.or_eq_true _ _ ▸ hb with h | h
  · exact ⟨'/', by decide, h⟩
  · exact ⟨'!', by decide, h⟩

/-! ## `find_uncommented`, `find_comment_end` and the byte slices stay inside the text -/

theorem findGo_bound (pat needle : List Char) (i : Nat) (l : List (Kind × Char)) (r : Nat)
    (hinv : utf8Len pat ≤ i + utf8Len needle) (h : findGo pat needle i l = some r) :
    r + utf8Len pat ≤ i + utf8Len (l.map (·.2)) := by
  fun_induction findGo pat needle i l with
  | case1 i | case3 i =>
    cases h
    rw [utf8Len, Nat.add_zero] at hinv
    rw [Nat.sub_add_cancel hinv]
    exact Nat.le_add_right _ _
  | case2 => cases h
  | case4 i k b rest c needle' hm ih =>
    have hbc : b = c := by simp at hm; exact hm.2
    have := ih (by rwa [utf8Len, ← hbc, ← Nat.add_assoc] at hinv) h
    rwa [List.map_cons, utf8Len, ← Nat.add_assoc]
  | case5 i k b rest c needle' hm ih =>
    have := ih (Nat.le_add_left _ _) h
    rwa [List.map_cons, utf8Len, ← Nat.add_assoc]

/-- `find_uncommented` returns the start of an occurrence that lies inside the text. -/
theorem findUncommented_bound (s pat : List Char) (r : Nat) (h : findUncommented s pat = some r) :
    r + utf8Len pat ≤ utf8Len s := by
  have := findGo_bound pat pat 0 (classes s) r (Nat.le_add_left _ _) h
  rwa [classes_map_snd, Nat.zero_add] at this

theorem findChar_lt (p : Char → Bool) (s : List Char) (j : Nat) (h : findChar p s = some j) :
    j < utf8Len s := by
  fun_induction findChar p s generalizing j with
  | case1 => cases h
  | case2 c cs hc => cases h; exact Nat.lt_add_right _ (Char.utf8Size_pos c)
  | case3 c cs hc ih =>
    obtain ⟨j', hj', rfl⟩ := Option.map_eq_some_iff.mp h
    rw [utf8Len, Nat.add_comm]
    exact Nat.add_lt_add_left (ih j' hj') _

theorem dropBytes_len (n : Nat) (s t : List Char) (h : dropBytes? n s = some t) :
    utf8Len t + n = utf8Len s := by
  fun_induction dropBytes? n s with
  | case1 s => cases h; rfl
  | case2 => cases h
  | case3 n c cs hc ih => rw [utf8Len, ← ih h, Nat.add_left_comm, Nat.add_sub_of_le hc]
  | case4 => cases h

theorem findCommentEndGo_le (i : Nat) (l : List (Kind × Char)) (e : Nat)
    (h : findCommentEndGo i l = some e) : e ≤ i + utf8Len (l.map (·.2)) := by
  fun_induction findCommentEndGo i l with
  | case1 => cases h
  | case2 i k c rest hk => cases h; exact Nat.le_add_right _ _
  | case3 i k c rest hk ih =>
    have := ih h
    rwa [List.map_cons, utf8Len, ← Nat.add_assoc]

theorem findCommentEnd_le (s : List Char) (e : Nat) (h : findCommentEnd s = some e) :
    e ≤ utf8Len s := by
  rw [findCommentEnd] at h
  split at h
  · rename_i i hi
    cases h
    have := findCommentEndGo_le 0 (classes s) _ hi
    rwa [classes_map_snd, Nat.zero_add] at this
  · split at h <;> cases h
    exact Nat.le_refl _

theorem utf8Len_snoc (s : List Char) (c : Char) : utf8Len (s ++ [c]) = utf8Len s + c.utf8Size := by
  rw [utf8Len_append, utf8Len, utf8Len, Nat.add_zero]

theorem nl_size : ('\n' : Char).utf8Size = 1 := by decide

theorem dropBytes_cons_add (c : Char) (cs : List Char) (n : Nat) :
    dropBytes? (c.utf8Size + n) (c :: cs) = dropBytes? n cs := by
  obtain ⟨m, hm⟩ : ∃ m, c.utf8Size + n = m + 1 :=
    ⟨c.utf8Size + n - 1, by have := utf8Size_pos c; omega⟩
  rw [hm, dropBytes?, if_pos (by omega)]
  congr 1; omega

/-- `&s[a.len()..]` of `a ++ b` is `b`. -/
theorem dropBytes_prefix : ∀ (a b : List Char), dropBytes? (utf8Len a) (a ++ b) = some b
  | [], b => by simp [utf8Len, dropBytes?]
  | c :: cs, b => by rw [utf8Len, List.cons_append, dropBytes_cons_add, dropBytes_prefix cs b]

theorem takeBytes_of_split (s a b : List Char) (i : Nat) (hs : s = a ++ b) (hi : i = utf8Len a) :
    takeBytes? i s = some a := by
  subst hs hi; exact takeBytes_prefix a b

theorem dropBytes_of_split (s a b : List Char) (i : Nat) (hs : s = a ++ b) (hi : i = utf8Len a) :
    dropBytes? i s = some b := by
  subst hs hi; exact dropBytes_prefix a b

theorem utf8Len_eq_zero : ∀ (s : List Char), utf8Len s = 0 → s = []
  | [], _ => rfl
  | c :: cs, h => by have := utf8Size_pos c; rw [utf8Len] at h; omega

theorem findChar_split (p : Char → Bool) (s : List Char) (i : Nat) (h : findChar p s = some i) :
    ∃ a c b, s = a ++ c :: b ∧ i = utf8Len a ∧ p c = true ∧ ∀ x ∈ a, p x = false := by
  fun_induction findChar p s generalizing i with
  | case1 => cases h
  | case2 c cs hc => cases h; exact ⟨[], c, cs, rfl, rfl, hc, List.forall_mem_nil _⟩
  | case3 c cs hc ih =>
    obtain ⟨j, hj, rfl⟩ := Option.map_eq_some_iff.mp h
    obtain ⟨a, d, b, rfl, rfl, hd, ha⟩ := ih j hj
    exact ⟨c :: a, d, b, rfl, Nat.add_comm .., hd, List.forall_mem_cons.mpr ⟨Bool.not_eq_true _ ▸ hc, ha⟩⟩

theorem rfindChar_none (p : Char → Bool) (s : List Char) (h : rfindChar p s = none) :
    ∀ x ∈ s, p x = false := by
  fun_induction rfindChar p s with
  | case1 => exact List.forall_mem_nil _
  | case2 c cs i hi ih => cases h
  | case3 c cs hf hc ih => cases h
  | case4 c cs hf hc ih => exact List.forall_mem_cons.mpr ⟨Bool.not_eq_true _ ▸ hc, ih hf⟩

theorem rfindChar_split (p : Char → Bool) (s : List Char) (i : Nat) (h : rfindChar p s = some i) :
    ∃ a c b, s = a ++ c :: b ∧ i = utf8Len a ∧ p c = true ∧ ∀ x ∈ b, p x = false := by
  fun_induction rfindChar p s generalizing i with
  | case1 => cases h
  | case2 c cs j hj ih =>
    cases h
    obtain ⟨a, d, b, rfl, rfl, hd, hb⟩ := ih j hj
    exact ⟨c :: a, d, b, rfl, Nat.add_comm .., hd, hb⟩
  | case3 c cs hf hc ih => cases h; exact ⟨[], c, cs, rfl, rfl, hc, rfindChar_none p cs hf⟩
  | case4 c cs hf hc ih => cases h

theorem dropWhile_eq_nil_iff {p : Char → Bool} : ∀ {s : List Char},
    s.dropWhile p = [] ↔ ∀ c ∈ s, p c = true
  | [] => by simp
  | c :: cs => by
    rw [List.dropWhile_cons, List.forall_mem_cons]
    split
    next hc => simp [hc, dropWhile_eq_nil_iff (s := cs)]
    next hc => simp [hc]

end RF.Lemmas.Comment

import RF.Model.LexSpec
import RF.Lemmas.CharClasses
/-!
`CharClasses` against the declarative lexer specification `RF.LexSpec`: after each well-formed
token, the characters `CharClasses` has tagged as comment are exactly those of a comment token
(one segment `Seg` per token kind: started in `Status.normal` before the token, the scanner is
back in `Status.normal` after it).
-/
namespace RF.Lemmas.LexSpec
open RF.CharClasses RF.LexSpec RF.Lemmas.CharClasses

/-- Comment flags of a tagged text. -/
def flags (l : List (Kind × Char)) : List Bool := l.map (·.1.isComment)

/-- Started in `st` on `x ++ R`, the scanner gives every character of `x` the comment flag `b`
and is in `st'` when it reaches `R`. -/
def Seg (st : Status) (x : List Char) (b : Bool) (st' : Status) (R : List Char) : Prop :=
  flags (run st (x ++ R)) = List.replicate x.length b ++ flags (run st' R)

theorem Seg.nil {st : Status} {b : Bool} {R : List Char} : Seg st [] b st R := rfl

/-- One character.  `hs` is closed by reduction of `step?`: `rfl` where the characters at hand
decide every test, `if_neg`/`if_pos` for a test they leave open. -/
theorem Seg.cons {st st' st'' : Status} {c : Char} {x R : List Char} {b : Bool} {k : Kind}
    (hs : step? st c (x ++ R) = some (st', k)) (hk : k.isComment = b) (h : Seg st' x b st'' R) :
    Seg st (c :: x) b st'' R := by
  unfold Seg at *
  rw [List.cons_append, run_cons, step_of_step? hs, flags, List.map_cons, ← flags, h, hk]; rfl

theorem Seg.append {st st' st'' : Status} {x y R : List Char} {b : Bool}
    (h1 : Seg st x b st' (y ++ R)) (h2 : Seg st' y b st'' R) : Seg st (x ++ y) b st'' R := by
  unfold Seg at *
  rw [List.append_assoc, h1, h2, List.length_append, ← List.replicate_append_replicate, List.append_assoc]

theorem code_step (c : Char) (after : List Char) (h : wfCode c after = true) :
    step? .normal c after = some (.normal, .normal) := by
  simp only [wfCode, Bool.and_eq_true, bne_iff_ne, ne_eq, Bool.or_eq_true, Bool.not_eq_true',
    Bool.or_eq_false_iff, beq_eq_false_iff_ne] at h
  obtain ⟨⟨⟨h1, h2⟩, h3⟩, h4⟩ := h
  unfold step?
  simp only []
  by_cases hr : c = 'r'
  · rw [if_pos hr]
    split
    · exact absurd rfl (h3.resolve_left (absurd hr)).1
    · exact absurd rfl (h3.resolve_left (absurd hr)).2
    · rfl
  · rw [if_neg hr, if_neg h1]
    by_cases hq : c = '\''
    · rw [if_pos hq]
      have h4 := h4.resolve_left (absurd hq)
      match after, h4 with
      | [], _ => rfl
      | [a], h4 => exact if_neg (bne_iff_ne.mp h4)
      | a :: b :: _, h4 =>
        simp only [Bool.and_eq_true, bne_iff_ne] at h4
        exact (if_neg h4.1).trans (if_neg h4.2)
    · rw [if_neg hq]
      by_cases hs : c = '/'
      · rw [if_pos hs]
        split
        · exact absurd rfl (h2.resolve_left (absurd hs)).2
        · exact absurd rfl (h2.resolve_left (absurd hs)).1
        · rfl
      · rw [if_neg hs]

theorem lineComment_body : ∀ (body R : List Char), (∀ c ∈ body, c ≠ '\n') →
    Seg .lineComment body true .lineComment R
  | [], _, _ => .nil
  | c :: cs, R, h =>
    .cons (if_neg (h c List.mem_cons_self)) rfl
      (lineComment_body cs R fun x hx => h x (List.mem_cons_of_mem _ hx))

theorem lineComment_flags (body : List Char) (nl : Bool) (R : List Char)
    (h : wfTok (.lineComment body nl) R = true) :
    Seg .normal (renderTok (.lineComment body nl)) true .normal R := by
  simp only [wfTok, Bool.and_eq_true, List.all_eq_true, bne_iff_ne, ne_eq, Bool.or_eq_true] at h
  obtain ⟨hb, hn⟩ := h
  refine .cons rfl rfl (.cons rfl rfl (.append (lineComment_body body _ hb) ?_))
  cases nl with
  | true => exact .cons rfl rfl .nil
  | false =>
    cases List.isEmpty_iff.mp (hn.resolve_left nofun)
    rfl

theorem events_flags (evs : List BEv) (d : Nat) (R : List Char) (hd : 1 ≤ d) (h : wfEvents d evs = true) :
    Seg (.blockComment d) (evs.flatMap renderBEv) true .normal R := by
  fun_induction wfEvents d evs with
  | case1 => cases h
  | case2 d rest he =>
    cases List.isEmpty_iff.mp he
    cases (beq_iff_eq.mp h : d = 1)
    exact .cons rfl rfl (.cons rfl rfl .nil)
  | case3 d rest he ih =>
    simp only [Bool.and_eq_true, decide_eq_true_eq] at h
    have hne1 : d - 1 ≠ 0 := Nat.sub_ne_zero_of_lt h.1
    exact .cons (if_neg (Nat.ne_of_gt hd)) rfl (.cons (if_neg hne1) rfl
      (ih (Nat.pos_of_ne_zero hne1) h.2))
  | case4 d rest ih =>
    exact .cons (if_neg (Nat.ne_of_gt hd)) rfl (.cons rfl rfl (ih (Nat.le_add_left 1 d) h))
  | case5 d c rest next ih =>
    simp only [Bool.and_eq_true, bne_iff_ne, ne_eq, Bool.not_eq_true', Bool.and_eq_false_iff,
      beq_eq_false_iff_ne] at h
    obtain ⟨⟨⟨h1, h2⟩, h3⟩, hw⟩ := h
    show Seg _ (c :: rest.flatMap renderBEv) _ _ _
    refine .cons (k := .inComment) ?_ rfl (ih hd hw)
    -- the character after `c` comes from the rendered rest (never empty: it ends with a closer)
    cases hrr : rest.flatMap renderBEv with
    | nil =>
      cases rest with
      | nil => simp [wfEvents] at hw
      | cons e es => cases e <;> simp [renderBEv] at hrr
    | cons x xs =>
      simp only [next, hrr, List.head?_cons, Option.some.injEq] at h2 h3
      have a1 : (decide (x = '/') && decide (c = '*')) = false := by
        rcases h2 with h2 | h2 <;> simp [h2]
      have a2 : (decide (x = '*') && decide (c = '/')) = false := by
        rcases h3 with h3 | h3 <;> simp [h3]
      refine (if_neg (Nat.ne_of_gt hd)).trans ?_
      show (if (decide (x = '/') && decide (c = '*')) = true then _ else _) = _
      rw [a1, a2, if_neg Bool.false_ne_true, if_neg Bool.false_ne_true, if_neg h1]

theorem blockComment_flags (evs : List BEv) (R : List Char)
    (h : wfTok (.blockComment evs) R = true) :
    Seg .normal (renderTok (.blockComment evs)) true .normal R :=
  .cons rfl rfl (.cons rfl rfl (events_flags evs 1 R (Nat.le_refl 1) h))

theorem items_flags : ∀ (items : List SItem) (X : List Char), (∀ i ∈ items, wfSItem i = true) →
    Seg .litString (items.flatMap renderSItem) false .litString X
  | [], _, _ => .nil
  | .ch c :: rest, X, h => by
    have hc := h (.ch c) List.mem_cons_self
    simp only [wfSItem, Bool.and_eq_true, bne_iff_ne, ne_eq] at hc
    exact .cons ((if_neg hc.1).trans (if_neg hc.2)) rfl
      (items_flags rest X fun i hi => h i (List.mem_cons_of_mem _ hi))
  | .esc c :: rest, X, h =>
    .cons rfl rfl (.cons rfl rfl (items_flags rest X fun i hi => h i (List.mem_cons_of_mem _ hi)))

theorem str_flags (items : List SItem) (R : List Char) (h : wfTok (.str items) R = true) :
    Seg .normal (renderTok (.str items)) false .normal R :=
  .append (.cons rfl rfl (items_flags items _ (List.all_eq_true.mp h))) (.cons rfl rfl .nil)

theorem chr_flags (c : Char) (R : List Char) (h : wfTok (.chr c) R = true) :
    Seg .normal (renderTok (.chr c)) false .normal R := by
  simp only [wfTok, Bool.and_eq_true, bne_iff_ne, ne_eq] at h
  exact .cons (if_neg h.1) rfl (.cons ((if_neg h.1).trans (if_neg h.2)) rfl (.cons rfl rfl .nil))

theorem litChar_flags : ∀ (more : List Char) (X : List Char), (∀ c ∈ more, c ≠ '\\' ∧ c ≠ '\'') →
    Seg .litChar more false .litChar X
  | [], _, _ => .nil
  | c :: cs, X, h =>
    .cons ((if_neg (h c List.mem_cons_self).1).trans (if_neg (h c List.mem_cons_self).2)) rfl
      (litChar_flags cs X fun x hx => h x (List.mem_cons_of_mem _ hx))

theorem chrEsc_flags (e : Char) (more : List Char) (R : List Char)
    (h : wfTok (.chrEsc e more) R = true) :
    Seg .normal (renderTok (.chrEsc e more)) false .normal R := by
  simp only [wfTok, List.all_eq_true, Bool.and_eq_true, bne_iff_ne, ne_eq] at h
  exact .append (.cons rfl rfl (.cons rfl rfl (.cons rfl rfl (litChar_flags more _ h))))
    (.cons rfl rfl .nil)

theorem isRawStringSuffix_eq : ∀ (l : List Char) (n : Nat), isRawStringSuffix l n = hashRun l n
  | _, 0 => by simp [isRawStringSuffix, hashRun]
  | [], _ + 1 => by simp [isRawStringSuffix, hashRun]
  | c :: rest, n + 1 => by
    simp only [isRawStringSuffix, hashRun, isRawStringSuffix_eq rest n]
    by_cases hc : c = '#' <;> simp [hc]

theorem hashRun_append : ∀ (a b : List Char) (n : Nat), n ≤ a.length →
    hashRun (a ++ b) n = hashRun a n
  | _, _, 0, _ => by simp [hashRun]
  | [], _, _ + 1, h => by simp at h
  | c :: cs, b, n + 1, h => by
    simp only [List.cons_append, hashRun, hashRun_append cs b n (by simpa using h)]

theorem hashRun_hashes : ∀ (n : Nat) (R : List Char), hashRun (hashes n ++ R) n = true
  | 0, _ => by simp [hashRun]
  | n + 1, R => by
    simp only [hashes, List.replicate_succ, List.cons_append, hashRun]
    simpa [hashes] using hashRun_hashes n R

theorem prefix_flags : ∀ (m k : Nat) (X : List Char),
    Seg (.rawStringPrefix k) (hashes m) false (.rawStringPrefix (m + k)) X
  | 0, _, _ => by rw [Nat.zero_add]; exact .nil
  | m + 1, k, X => by
    rw [Nat.add_right_comm]
    exact .cons rfl rfl (prefix_flags m (k + 1) X)

theorem suffix_flags : ∀ (k : Nat) (R : List Char), 1 ≤ k →
    Seg (.rawStringSuffix k) (hashes k) false .normal R
  | 1, _, _ => .cons rfl rfl .nil
  | k + 2, R, _ => .cons rfl rfl (suffix_flags (k + 1) R (Nat.le_add_left 1 k))

theorem rawBody_flags (n : Nat) : ∀ (body R : List Char), wfRawBody n body = true →
    Seg (.litRawString n) body false (.litRawString n) ('"' :: hashes n ++ R)
  | [], _, _ => .nil
  | c :: cs, R, h => by
    simp only [wfRawBody, Bool.and_eq_true, Bool.not_eq_true', Bool.and_eq_false_iff,
      beq_eq_false_iff_ne] at h
    obtain ⟨h1, h2⟩ := h
    refine .cons (k := .inString) ?_ rfl (rawBody_flags n cs R h2)
    by_cases hc : c = '"'
    · have h1 := h1.resolve_left (absurd hc)
      have hn0 : n ≠ 0 := by rintro rfl; simp [hashRun] at h1
      have hs : isRawStringSuffix (cs ++ ('"' :: hashes n ++ R)) n = false := by
        rw [isRawStringSuffix_eq, ← List.append_assoc,
          hashRun_append _ _ _ (by
            rw [List.length_append, List.length_cons, hashes, List.length_replicate]
            exact Nat.le_trans (Nat.le_succ n) (Nat.le_add_left _ _))]
        exact h1
      exact (if_pos hc).trans ((if_neg hn0).trans (by rw [hs]; rfl))
    · exact if_neg hc

theorem rawClose_flags (n : Nat) (R : List Char) :
    Seg (.litRawString n) ('"' :: hashes n) false .normal R := by
  cases n with
  | zero => exact .cons rfl rfl .nil
  | succ k =>
    have hs : isRawStringSuffix (hashes (k + 1) ++ R) (k + 1) = true := by
      rw [isRawStringSuffix_eq]; exact hashRun_hashes _ _
    exact .cons (if_pos hs) rfl (suffix_flags (k + 1) R (Nat.le_add_left 1 k))

theorem rawStr_flags (n : Nat) (body : List Char) (R : List Char)
    (h : wfTok (.rawStr n body) R = true) :
    Seg .normal (renderTok (.rawStr n body)) false .normal R := by
  have hq : Seg (.rawStringPrefix (n + 0)) ('"' :: body) false (.litRawString n)
      ('"' :: hashes n ++ R) := .cons rfl rfl (rawBody_flags n body R h)
  refine .append (.append (.cons (k := .inString) ?_ rfl (prefix_flags n 0 _)) hq) (rawClose_flags n R)
  cases n <;> rfl

theorem tok_flags (t : Token) (R : List Char) (h : wfTok t R = true) :
    Seg .normal (renderTok t) (isCommentTok t) .normal R := by
  cases t with
  | code c => exact .cons (code_step c R h) rfl .nil
  | lineComment body nl => exact lineComment_flags body nl R h
  | blockComment evs => exact blockComment_flags evs R h
  | str items => exact str_flags items R h
  | rawStr n body => exact rawStr_flags n body R h
  | chr c => exact chr_flags c R h
  | chrEsc e more => exact chrEsc_flags e more R h

end RF.Lemmas.LexSpec

import RF.Model.Config
/-!
Lemmas about `RF.Model.Config`.  Every operation is characterised by its effect on `getE`
(`getE_upd`, `getE_setHeuristics`, `getE_setAlias`, `getE_fillFold`, `getE_default`), and configurations
are compared through `getE` (`Equiv`); `Local B F` says `F` reads and writes only the keys in `B`, which
gives congruence and commutation.  The three setters are one operation `store` (check, store, dispatch
through one table), `apply_to`'s two loops are `run`s of it; the clamping invariant `Inv`, the frame
lemmas (`Protected`) and the order-independence of the `--config` pairs are proved for `store`/`run`
and carried to `override_value`, `set()`, `set_cli()`, `apply_to`, `load_config` along `Equiv`.
-/
namespace RF.Lemmas.Config
open RF.Config RF.Gen.Options

/-! ## Association lists -/

theorem lookup_eq_none_of_not_mem {β} (l : List (String × β)) (k : String)
    (h : k ∉ l.map (·.1)) : l.lookup k = none := by
  induction l with
  | nil => rfl
  | cons p r ih =>
    obtain ⟨k0, b⟩ := p
    simp only [List.map_cons, List.mem_cons, not_or] at h
    have : (k == k0) = false := by simpa using h.1
    simp [List.lookup_cons, this, ih h.2]

theorem lookup_map_snd {β γ} (l : List (String × β)) (g : String × β → γ) (k : String) :
    (l.map fun o => (o.1, g o)).lookup k =
      match l.lookup k with
      | some b => some (g (k, b))
      | none => none := by
  induction l with
  | nil => rfl
  | cons p r ih =>
    obtain ⟨k0, b⟩ := p
    simp only [List.map_cons, List.lookup_cons]
    by_cases h : k = k0
    · subst h; simp
    · have : (k == k0) = false := by simpa using h
      simp only [this, ih]

theorem mem_of_lookup {β} (l : List (String × β)) (k : String) (b : β)
    (h : l.lookup k = some b) : (k, b) ∈ l := by
  induction l with
  | nil => cases h
  | cons p r ih =>
    obtain ⟨k0, b0⟩ := p
    simp only [List.lookup_cons] at h
    by_cases hk : k = k0
    · subst hk
      simp at h
      subst h
      exact List.mem_cons_self
    · have : (k == k0) = false := by simpa using hk
      simp only [this] at h
      exact List.mem_cons_of_mem _ (ih h)

theorem lookup_filter_key {β} (l : List (String × β)) (p : String → Bool) (k : String) :
    (l.filter fun kv => p kv.1).lookup k = if p k then l.lookup k else none := by
  induction l with
  | nil => simp
  | cons a r ih =>
    obtain ⟨k0, b⟩ := a
    by_cases hk : k = k0
    · subst hk
      by_cases hp : p k = true
      · simp [List.filter, hp]
      · have hp' : p k = false := by simpa using hp
        simp only [List.filter, hp', ih, Bool.false_eq_true, if_false]
    · have hb : (k == k0) = false := by simpa using hk
      by_cases hp0 : p k0 = true
      · simp only [List.filter, hp0, List.lookup_cons, hb, ih]
      · have hp0' : p k0 = false := by simpa using hp0
        simp only [List.filter, hp0', List.lookup_cons, hb, ih]

theorem lookup_of_mem_nodup {β} (l : List (String × β)) (k : String) (b : β) (h : (k, b) ∈ l)
    (hnd : (l.map (·.1)).Nodup) : l.lookup k = some b := by
  induction l with
  | nil => cases h
  | cons a r ih =>
    obtain ⟨k0, b0⟩ := a
    simp only [List.map_cons, List.nodup_cons] at hnd
    rcases List.mem_cons.1 h with heq | hr
    · cases heq; simp
    · have hne : k ≠ k0 := fun e => hnd.1 (e ▸ List.mem_map.2 ⟨(k, b), hr, rfl⟩)
      have hb : (k == k0) = false := by simpa using hne
      simp only [List.lookup_cons, hb]
      exact ih hr hnd.2

/-! ## get / upd -/

theorem getE_nil (k : String) : getE [] k = dflt := rfl

theorem getE_cons (k' : String) (e : Entry) (r : Config) (k : String) :
    getE ((k', e) :: r) k = if k = k' then e else getE r k := by
  unfold getE
  simp only [List.lookup_cons]
  by_cases h : k = k'
  · subst h; simp
  · have : (k == k') = false := by simpa using h
    simp [this, h]

theorem getE_upd (c : Config) (k : String) (f : Entry → Entry) (k' : String) :
    getE (upd c k f) k' = if k' = k then f (getE c k) else getE c k' := by
  induction c with
  | nil =>
    simp only [upd, getE_cons, getE_nil]
  | cons p r ih =>
    obtain ⟨k0, e0⟩ := p
    simp only [upd]
    by_cases h0 : k0 = k
    · subst h0
      simp only [if_true, getE_cons]
      by_cases h1 : k' = k0 <;> simp [h1]
    · simp only [h0, if_false, getE_cons, ih]
      by_cases h1 : k' = k
      · subst h1
        have : ¬ k' = k0 := fun h => h0 h.symm
        simp [this]
      · simp [h1]

theorem getE_setVal (c : Config) (k : String) (v : Val) (k' : String) :
    getE (setVal c k v) k' = if k' = k then { getE c k with val := v } else getE c k' := by
  simp [setVal, getE_upd]

theorem getE_setWasSet (c : Config) (k k' : String) :
    getE (setWasSet c k) k' = if k' = k then { getE c k with wasSet := true } else getE c k' := by
  simp [setWasSet, getE_upd]

theorem getE_setWasSetCli (c : Config) (k k' : String) :
    getE (setWasSetCli c k) k' = if k' = k then { getE c k with wasSetCli := true } else getE c k' := by
  simp [setWasSetCli, getE_upd]

/-! ## set_width_heuristics / set_heuristics -/

/-- What `set_width_heuristics` does to the entry of a width key whose heuristic value is `hv`. -/
def widthEntry (mw hv : Nat) (e : Entry) : Entry :=
  { e with val := .nat (getWidthValue mw e.wasSet e.val.toNat hv) }

theorem getE_foldl_setOneWidth (mw : Nat) (l : List (String × Nat))
    (hnd : (l.map (·.1)).Nodup) (c : Config) (k : String) :
    getE (l.foldl (setOneWidth mw) c) k =
      match l.lookup k with
      | some hv => widthEntry mw hv (getE c k)
      | none => getE c k := by
  induction l generalizing c with
  | nil => rfl
  | cons p r ih =>
    obtain ⟨k0, h0⟩ := p
    simp only [List.map_cons, List.nodup_cons] at hnd
    simp only [List.foldl_cons, ih hnd.2, List.lookup_cons]
    by_cases hk : k = k0
    · subst hk
      simp only [beq_self_eq_true, lookup_eq_none_of_not_mem r k hnd.1]
      simp [setOneWidth, getE_setVal, widthEntry, wasSet, natOf]
    · have : (k == k0) = false := by simpa using hk
      simp only [this]
      simp [setOneWidth, getE_setVal, hk]

theorem toList_keys (h : WidthHeuristics) : h.toList.map (·.1) = widthKeys := rfl

theorem widthKeys_nodup : widthKeys.Nodup := by decide +kernel

theorem getE_setWidthHeuristics (c : Config) (h : WidthHeuristics) (k : String) :
    getE (setWidthHeuristics c h) k =
      match h.toList.lookup k with
      | some hv => widthEntry (natOf c "max_width") hv (getE c k)
      | none => getE c k :=
  getE_foldl_setOneWidth _ _ (by rw [toList_keys]; exact widthKeys_nodup) c k

/-- The heuristics `set_heuristics` installs, as a function of the two entries it reads. -/
def heurOf (mwE hE : Entry) : Option WidthHeuristics :=
  match Heuristics.ofVal? hE.val with
  | some .default => some (WidthHeuristics.scaled mwE.val.toNat)
  | some .max => some (WidthHeuristics.set mwE.val.toNat)
  | some .off => some WidthHeuristics.null
  | none => none

theorem heurOf_isSome_eq (m u : Entry) :
    (heurOf m u).isSome = (Heuristics.ofVal? u.val).isSome := by
  unfold heurOf
  cases Heuristics.ofVal? u.val with
  | none => rfl
  | some x => cases x <;> rfl

/-- `set_heuristics` entry by entry: the result at `k` depends on the entries of `max_width`,
`use_small_heuristics` and `k` only. -/
def heurEntry (mwE hE e : Entry) (k : String) : Entry :=
  match heurOf mwE hE with
  | none => e
  | some h =>
    match h.toList.lookup k with
    | some hv => widthEntry mwE.val.toNat hv e
    | none => e

theorem getE_setHeuristics (c : Config) (k : String) :
    getE (setHeuristics c) k =
      heurEntry (getE c "max_width") (getE c "use_small_heuristics") (getE c k) k := by
  unfold setHeuristics heurEntry heurOf
  cases h : Heuristics.ofVal? (getE c "use_small_heuristics").val with
  | none => rfl
  | some x => cases x <;> simp only [getE_setWidthHeuristics, natOf]

theorem lookup_toList_none (h : WidthHeuristics) (k : String) (hk : k ∉ widthKeys) :
    h.toList.lookup k = none :=
  lookup_eq_none_of_not_mem _ _ (by rw [toList_keys]; exact hk)

theorem heurEntry_of_not_width (mwE hE e : Entry) (k : String) (hk : k ∉ widthKeys) :
    heurEntry mwE hE e k = e := by
  unfold heurEntry
  cases heurOf mwE hE with
  | none => rfl
  | some h => simp [lookup_toList_none h k hk]

theorem heurEntry_wasSet (mwE hE e : Entry) (k : String) :
    (heurEntry mwE hE e k).wasSet = e.wasSet ∧ (heurEntry mwE hE e k).wasSetCli = e.wasSetCli := by
  unfold heurEntry
  cases heurOf mwE hE with
  | none => exact ⟨rfl, rfl⟩
  | some h =>
    simp only
    cases h.toList.lookup k with
    | none => exact ⟨rfl, rfl⟩
    | some hv => exact ⟨rfl, rfl⟩

theorem getE_setHeuristics_of_not_width (c : Config) (k : String) (hk : k ∉ widthKeys) :
    getE (setHeuristics c) k = getE c k := by
  rw [getE_setHeuristics, heurEntry_of_not_width _ _ _ _ hk]

theorem wasSet_setHeuristics (c : Config) (k : String) :
    wasSet (setHeuristics c) k = wasSet c k := by
  simp only [wasSet, getE_setHeuristics, (heurEntry_wasSet _ _ _ _).1]

/-! ## Alias setters -/

/-- Common shape of `set_merge_imports`, `set_fn_args_layout`, `set_hide_parse_errors`. -/
def setAlias (old new : String) (f : Val → Val) (c : Config) : Config :=
  if wasSet c old then
    if !wasSet c new then setVal c new (f (getE c old).val) else c
  else c

def mergeImportsMap (v : Val) : Val := .str (if v = .bool true then "Crate" else "Preserve")

theorem setMergeImports_eq (c : Config) :
    setMergeImports c = setAlias "merge_imports" "imports_granularity" mergeImportsMap c := rfl
theorem setFnArgsLayout_eq (c : Config) :
    setFnArgsLayout c = setAlias "fn_args_layout" "fn_params_layout" id c := rfl
theorem setHideParseErrors_eq (c : Config) :
    setHideParseErrors c = setAlias "hide_parse_errors" "show_parse_errors" negBool c := rfl

theorem getE_setAlias (old new : String) (f : Val → Val) (c : Config) (k : String) :
    getE (setAlias old new f c) k =
      if k = new ∧ wasSet c old = true ∧ wasSet c new = false then
        { getE c new with val := f (getE c old).val }
      else getE c k := by
  unfold setAlias
  by_cases h1 : wasSet c old = true <;> by_cases h2 : wasSet c new = true <;>
    simp [h1, h2, getE_setVal]
  all_goals (try (by_cases hk : k = new <;> simp [hk]))

def successorKeys : List String := ["imports_granularity", "fn_params_layout", "show_parse_errors"]

/-- `k` is not written by any of the dispatched methods in state `c`: it is not one of the eight
width options, and if it is the successor of a deprecated alias it has been set. -/
def Protected (c : Config) (k : String) : Prop :=
  k ∉ widthKeys ∧ (k ∈ successorKeys → wasSet c k = true)

theorem getE_setAlias_of_protected (old new : String) (f : Val → Val) (c : Config) (k : String)
    (h : k = new → wasSet c k = true) : getE (setAlias old new f c) k = getE c k := by
  rw [getE_setAlias]
  by_cases hk : k = new
  · have := h hk
    subst hk
    simp [this]
  · simp [hk]

theorem getE_applyMethod_of_protected (m : String) (c : Config) (k : String)
    (h : Protected c k) : getE (applyMethod m c) k = getE c k := by
  obtain ⟨hw, hs⟩ := h
  unfold applyMethod
  split
  · exact getE_setHeuristics_of_not_width c k hw
  split
  · rw [setMergeImports_eq]; exact getE_setAlias_of_protected _ _ _ _ _ (fun e => hs (by simp [e, successorKeys]))
  split
  · rw [setFnArgsLayout_eq]; exact getE_setAlias_of_protected _ _ _ _ _ (fun e => hs (by simp [e, successorKeys]))
  split
  · rw [setHideParseErrors_eq]; exact getE_setAlias_of_protected _ _ _ _ _ (fun e => hs (by simp [e, successorKeys]))
  split <;> rfl

theorem getE_dispatch_of_protected (T : List (List String × String)) (k' : String) (c : Config)
    (k : String) (h : Protected c k) : getE (dispatch T k' c) k = getE c k := by
  unfold dispatch
  cases methodFor T k' with
  | none => rfl
  | some m => exact getE_applyMethod_of_protected m c k h

/-! ## The generated dispatch tables -/

def heurKeys : List String := "max_width" :: "use_small_heuristics" :: widthKeys

theorem not_heur_cases (k : String) (hk : k ∉ heurKeys) :
    k ≠ "max_width" ∧ k ≠ "use_small_heuristics" ∧ k ∉ widthKeys := by
  simp only [heurKeys, List.mem_cons, not_or] at hk
  exact ⟨hk.1, hk.2.1, hk.2.2⟩

def aliasKeys : List String := ["merge_imports", "fn_args_layout", "hide_parse_errors"]

def allDispatchKeys : List String := heurKeys ++ aliasKeys ++ ["version"]

def dispatchKeys (T : List (List String × String)) : List String := T.flatMap (·.1)

theorem methodFor_none (T : List (List String × String)) (k : String)
    (h : k ∉ dispatchKeys T) : methodFor T k = none := by
  unfold methodFor
  have : T.find? (fun row => row.1.contains k) = none := by
    rw [List.find?_eq_none]
    intro row hrow hc
    apply h
    simp only [dispatchKeys, List.mem_flatMap]
    exact ⟨row, hrow, by simpa using hc⟩
  rw [this]

theorem tables_agree :
    configSetterDispatch = overrideValueDispatch ∧ cliConfigSetterDispatch = overrideValueDispatch := by
  decide +kernel

theorem methodFor_heur :
    ∀ k ∈ heurKeys, methodFor overrideValueDispatch k = some "set_heuristics" := by decide +kernel

theorem methodFor_alias :
    methodFor overrideValueDispatch "merge_imports" = some "set_merge_imports" ∧
    methodFor overrideValueDispatch "fn_args_layout" = some "set_fn_args_layout" ∧
    methodFor overrideValueDispatch "hide_parse_errors" = some "set_hide_parse_errors" ∧
    methodFor overrideValueDispatch "version" = some "set_version" := by decide +kernel

theorem dispatchKeys_sub : ∀ k ∈ dispatchKeys overrideValueDispatch, k ∈ allDispatchKeys := by decide +kernel

theorem dispatch_heur (k : String) (hk : k ∈ heurKeys) (c : Config) :
    dispatch overrideValueDispatch k c = setHeuristics c := by
  unfold dispatch
  rw [methodFor_heur k hk]
  rfl

theorem dispatch_other (k : String) (hk : k ∉ allDispatchKeys) (c : Config) :
    dispatch overrideValueDispatch k c = c := by
  unfold dispatch
  rw [methodFor_none _ _ (fun h => hk (dispatchKeys_sub k h))]

theorem dispatch_merge_imports (c : Config) :
    dispatch overrideValueDispatch "merge_imports" c = setMergeImports c := by
  unfold dispatch; rw [methodFor_alias.1]; rfl
theorem dispatch_fn_args_layout (c : Config) :
    dispatch overrideValueDispatch "fn_args_layout" c = setFnArgsLayout c := by
  unfold dispatch; rw [methodFor_alias.2.1]; rfl
theorem dispatch_hide_parse_errors (c : Config) :
    dispatch overrideValueDispatch "hide_parse_errors" c = setHideParseErrors c := by
  unfold dispatch; rw [methodFor_alias.2.2.1]; rfl
theorem dispatch_version (c : Config) :
    dispatch overrideValueDispatch "version" c = c := by
  unfold dispatch; rw [methodFor_alias.2.2.2]; rfl

/-! ## Extensional equality and footprints -/

/-- Same effective configuration: every option has the same value and provenance bits. -/
def Equiv (a b : Config) : Prop := ∀ k, getE a k = getE b k

theorem Equiv.refl (a : Config) : Equiv a a := fun _ => rfl
theorem Equiv.symm {a b : Config} (h : Equiv a b) : Equiv b a := fun k => (h k).symm
theorem Equiv.trans {a b c : Config} (h1 : Equiv a b) (h2 : Equiv b c) : Equiv a c :=
  fun k => (h1 k).trans (h2 k)

/-- `F` reads and writes only the entries of the keys in `B`. -/
def Local (B : List String) (F : Config → Config) : Prop :=
  (∀ c k, k ∉ B → getE (F c) k = getE c k) ∧
  (∀ c1 c2, (∀ k ∈ B, getE c1 k = getE c2 k) → ∀ k ∈ B, getE (F c1) k = getE (F c2) k)

theorem Local.congr {B F} (h : Local B F) {a b : Config} (e : Equiv a b) : Equiv (F a) (F b) := by
  intro k
  by_cases hk : k ∈ B
  · exact h.2 a b (fun k' _ => e k') k hk
  · rw [h.1 a k hk, h.1 b k hk]; exact e k

theorem Local.mono {B B' F} (h : Local B F) (hs : ∀ k ∈ B, k ∈ B') : Local B' F := by
  refine ⟨fun c k hk => h.1 c k (fun hb => hk (hs k hb)), fun c1 c2 hag k hk => ?_⟩
  by_cases hb : k ∈ B
  · exact h.2 c1 c2 (fun k' hk' => hag k' (hs k' hk')) k hb
  · rw [h.1 c1 k hb, h.1 c2 k hb]; exact hag k hk

theorem Local.comp {B F G} (hF : Local B F) (hG : Local B G) : Local B (fun c => G (F c)) :=
  ⟨fun c k hk => by rw [hG.1 _ k hk, hF.1 c k hk],
   fun c1 c2 hag k hk => hG.2 _ _ (hF.2 c1 c2 hag) k hk⟩

theorem Local.id (B : List String) : Local B (fun c => c) :=
  ⟨fun _ _ _ => rfl, fun _ _ h => h⟩

/-- Operations with disjoint footprints commute. -/
theorem Local.comm {B1 B2 F1 F2} (h1 : Local B1 F1) (h2 : Local B2 F2)
    (hd : ∀ k ∈ B1, k ∉ B2) (c : Config) : Equiv (F2 (F1 c)) (F1 (F2 c)) := by
  intro k
  by_cases hk1 : k ∈ B1
  · rw [h2.1 _ k (hd k hk1)]
    exact h1.2 c (F2 c) (fun k' hk' => (h2.1 c k' (hd k' hk')).symm) k hk1
  · rw [h1.1 _ k hk1]
    by_cases hk2 : k ∈ B2
    · exact h2.2 (F1 c) c (fun k' hk' => h1.1 c k' (fun hb => hd k' hb hk')) k hk2
    · rw [h2.1 _ k hk2, h2.1 _ k hk2, h1.1 _ k hk1]

/-- Past an operation with a disjoint footprint, `F` sees the entries it would have seen. -/
theorem Local.skip {B B' F G} (hF : Local B F) (hG : Local B' G) (hd : ∀ k ∈ B, k ∉ B')
    (c : Config) (k : String) (hk : k ∈ B) : getE (F (G c)) k = getE (F c) k :=
  hF.2 _ _ (fun k' hk' => hG.1 c k' (hd k' hk')) k hk

theorem local_upd (k : String) (f : Entry → Entry) : Local [k] (fun c => upd c k f) := by
  refine ⟨fun c k' hk' => ?_, fun c1 c2 hag k' hk' => ?_⟩
  · rw [getE_upd]; simp only [List.mem_singleton] at hk'; simp [hk']
  · simp only [List.mem_singleton] at hk'
    subst hk'
    simp only [getE_upd, if_true]
    rw [hag k' (List.mem_singleton.2 rfl)]

theorem local_setHeuristics : Local heurKeys setHeuristics := by
  refine ⟨fun c k hk => getE_setHeuristics_of_not_width c k (not_heur_cases k hk).2.2,
    fun c1 c2 hag k hk => ?_⟩
  rw [getE_setHeuristics, getE_setHeuristics, hag _ (by decide +kernel : "max_width" ∈ heurKeys),
    hag _ (by decide +kernel : "use_small_heuristics" ∈ heurKeys), hag k hk]

theorem local_setAlias (old new : String) (f : Val → Val) : Local [old, new] (setAlias old new f) := by
  refine ⟨fun c k hk => ?_, fun c1 c2 hag k _ => ?_⟩
  · simp only [List.mem_cons, List.not_mem_nil, or_false, not_or] at hk
    rw [getE_setAlias]; simp [hk.2]
  · have ho := hag old (by simp)
    have hn := hag new (by simp)
    by_cases hk : k = new
    · subst hk; simp only [getE_setAlias, wasSet, ho, hn]
    · have hkk : getE c1 k = getE c2 k := hag k ‹_›
      simp only [getE_setAlias, hk, false_and, if_false, hkk]

def pairMI : List String := ["merge_imports", "imports_granularity"]
def pairFA : List String := ["fn_args_layout", "fn_params_layout"]
def pairHP : List String := ["hide_parse_errors", "show_parse_errors"]

theorem local_setMergeImports : Local pairMI setMergeImports :=
  local_setAlias "merge_imports" "imports_granularity" mergeImportsMap
theorem local_setFnArgsLayout : Local pairFA setFnArgsLayout :=
  local_setAlias "fn_args_layout" "fn_params_layout" id
theorem local_setHideParseErrors : Local pairHP setHideParseErrors :=
  local_setAlias "hide_parse_errors" "show_parse_errors" negBool

/-- The entries a dispatched method reads or writes. -/
def footprint (m : String) : List String :=
  if m = "set_heuristics" then heurKeys
  else if m = "set_merge_imports" then pairMI
  else if m = "set_fn_args_layout" then pairFA
  else if m = "set_hide_parse_errors" then pairHP
  else []

theorem local_applyMethod (m : String) : Local (footprint m) (applyMethod m) := by
  unfold footprint
  by_cases h1 : m = "set_heuristics"
  · rw [if_pos h1, show applyMethod m = setHeuristics from funext fun c => if_pos h1]
    exact local_setHeuristics
  by_cases h2 : m = "set_merge_imports"
  · rw [if_neg h1, if_pos h2, show applyMethod m = setMergeImports from
      funext fun c => (if_neg h1).trans (if_pos h2)]
    exact local_setMergeImports
  by_cases h3 : m = "set_fn_args_layout"
  · rw [if_neg h1, if_neg h2, if_pos h3, show applyMethod m = setFnArgsLayout from
      funext fun c => (if_neg h1).trans ((if_neg h2).trans (if_pos h3))]
    exact local_setFnArgsLayout
  by_cases h4 : m = "set_hide_parse_errors"
  · rw [if_neg h1, if_neg h2, if_neg h3, if_pos h4, show applyMethod m = setHideParseErrors from
      funext fun c => (if_neg h1).trans ((if_neg h2).trans ((if_neg h3).trans (if_pos h4)))]
    exact local_setHideParseErrors
  · rw [if_neg h1, if_neg h2, if_neg h3, if_neg h4, show applyMethod m = fun c => c from
      funext fun c => by simp [applyMethod, h1, h2, h3, h4, setVersion]]
    exact Local.id _

/-- Every dispatched method respects extensional equality. -/
theorem equiv_applyMethod (m : String) {a b : Config} (e : Equiv a b) :
    Equiv (applyMethod m a) (applyMethod m b) := (local_applyMethod m).congr e

theorem equiv_dispatch (T : List (List String × String)) (k : String) {a b : Config}
    (e : Equiv a b) : Equiv (dispatch T k a) (dispatch T k b) := by
  unfold dispatch
  cases methodFor T k with
  | none => exact e
  | some m => exact equiv_applyMethod m e

theorem equiv_upd (k : String) (f : Entry → Entry) {a b : Config} (e : Equiv a b) :
    Equiv (upd a k f) (upd b k f) := (local_upd k f).congr e

/-! ## The clamping invariant -/

def HeurOK (c : Config) : Prop := (Heuristics.ofVal? (getE c "use_small_heuristics").val).isSome = true

/-- Every width option that was set is at most `max_width`. -/
def Clamped (c : Config) : Prop :=
  ∀ w ∈ widthKeys, wasSet c w = true → natOf c w ≤ natOf c "max_width"

def Inv (c : Config) : Prop := HeurOK c ∧ Clamped c

theorem getWidthValue_le (mw ov hv : Nat) : getWidthValue mw true ov hv ≤ mw := by
  unfold getWidthValue
  simp only [Bool.not_true, Bool.false_eq_true, if_false]
  split <;> omega

theorem getWidthValue_of_le (mw ov hv : Nat) (h : ov ≤ mw) :
    getWidthValue mw true ov hv = ov := by
  simp only [getWidthValue, Bool.not_true, Bool.false_eq_true, if_false]
  exact if_neg (by omega)

theorem lookup_toList_some (h : WidthHeuristics) (k : String) (hk : k ∈ widthKeys) :
    ∃ hv, h.toList.lookup k = some hv := by
  simp only [widthKeys, List.mem_cons, List.not_mem_nil, or_false] at hk
  rcases hk with rfl | rfl | rfl | rfl | rfl | rfl | rfl | rfl <;> exact ⟨_, rfl⟩

theorem max_width_not_width : "max_width" ∉ widthKeys := by decide +kernel
theorem use_small_not_width : "use_small_heuristics" ∉ widthKeys := by decide +kernel

theorem natOf_max_width_setHeuristics (c : Config) :
    natOf (setHeuristics c) "max_width" = natOf c "max_width" := by
  simp only [natOf, getE_setHeuristics_of_not_width c _ max_width_not_width]

theorem heurOK_setHeuristics (c : Config) : HeurOK (setHeuristics c) ↔ HeurOK c := by
  simp only [HeurOK, getE_setHeuristics_of_not_width c _ use_small_not_width]

theorem heurOf_isSome (c : Config) (h : HeurOK c) :
    ∃ wh, heurOf (getE c "max_width") (getE c "use_small_heuristics") = some wh :=
  Option.isSome_iff_exists.1 ((heurOf_isSome_eq _ _).trans h)

/-- `explicit_width_clamped`, one step: right after `set_heuristics`, every width option that was
set is at most `max_width`. -/
theorem clamped_setHeuristics (c : Config) (h : HeurOK c) : Clamped (setHeuristics c) := by
  intro w hw hset
  rw [natOf_max_width_setHeuristics]
  rw [wasSet_setHeuristics] at hset
  obtain ⟨wh, hwh⟩ := heurOf_isSome c h
  obtain ⟨hv, hhv⟩ := lookup_toList_some wh w hw
  simp only [natOf, getE_setHeuristics, heurEntry, hwh, hhv, widthEntry]
  have : (getE c w).wasSet = true := hset
  rw [this]
  exact getWidthValue_le _ _ _

theorem inv_setHeuristics (c : Config) (h : HeurOK c) : Inv (setHeuristics c) :=
  ⟨(heurOK_setHeuristics c).2 h, clamped_setHeuristics c h⟩

/-- Two configs that agree on the ten entries the heuristics read or write. -/
theorem inv_congr (c c' : Config) (h : ∀ k ∈ heurKeys, getE c' k = getE c k) (hi : Inv c) :
    Inv c' := by
  have hmw : getE c' "max_width" = getE c "max_width" := h _ (by decide +kernel)
  have hus : getE c' "use_small_heuristics" = getE c "use_small_heuristics" := h _ (by decide +kernel)
  refine ⟨by simpa only [HeurOK, hus] using hi.1, ?_⟩
  intro w hw hset
  have hww : getE c' w = getE c w := h w (by simp only [heurKeys, List.mem_cons]; exact .inr (.inr hw))
  simp only [natOf, wasSet, hww, hmw] at hset ⊢
  exact hi.2 w hw hset

theorem inv_upd_of_not_heur (c : Config) (k : String) (f : Entry → Entry) (hk : k ∉ heurKeys)
    (hi : Inv c) : Inv (upd c k f) :=
  inv_congr c _ (fun k' hk' => by
    rw [getE_upd]
    have : k' ≠ k := fun e => hk (e ▸ hk')
    simp [this]) hi

theorem inv_setAlias (old new : String) (f : Val → Val) (c : Config) (hn : new ∉ heurKeys)
    (hi : Inv c) : Inv (setAlias old new f c) := by
  unfold setAlias
  split
  · split
    · exact inv_upd_of_not_heur c new _ hn hi
    · exact hi
  · exact hi

theorem inv_applyMethod (m : String) (c : Config) (hi : Inv c) : Inv (applyMethod m c) := by
  unfold applyMethod
  split
  · exact inv_setHeuristics c hi.1
  split
  · rw [setMergeImports_eq]; exact inv_setAlias _ _ _ _ (by decide +kernel) hi
  split
  · rw [setFnArgsLayout_eq]; exact inv_setAlias _ _ _ _ (by decide +kernel) hi
  split
  · rw [setHideParseErrors_eq]; exact inv_setAlias _ _ _ _ (by decide +kernel) hi
  split <;> exact hi

theorem inv_dispatch (T : List (List String × String)) (k : String) (c : Config) (hi : Inv c) :
    Inv (dispatch T k c) := by
  unfold dispatch
  cases methodFor T k with
  | none => exact hi
  | some m => exact inv_applyMethod m c hi

theorem tagOf_use_small : tagOf "use_small_heuristics" = some .str := by decide +kernel

theorem heuristics_ofVal_of_checkVal (v : Val) (h : checkVal "use_small_heuristics" v = true) :
    (Heuristics.ofVal? v).isSome = true := by
  unfold checkVal at h
  rw [tagOf_use_small] at h
  cases v with
  | nat n => simp at h
  | bool b => simp at h
  | str s =>
    simp only [enumOk, if_true, List.contains_cons, List.contains_nil, Bool.or_false,
      Bool.or_eq_true, beq_iff_eq] at h
    rcases h with rfl | rfl | rfl <;> rfl

/-- A store (`.2 = v`, optionally `.1 = true` / `.4 = true`) of a checked value keeps `HeurOK`. -/
theorem heurOK_upd_of_checkVal (c : Config) (k : String) (f : Entry → Entry) (v : Val)
    (hf : ∀ e, (f e).val = v) (hv : checkVal k v = true) (h : HeurOK c) : HeurOK (upd c k f) := by
  unfold HeurOK
  rw [getE_upd]
  by_cases hk : "use_small_heuristics" = k
  · subst hk
    simp only [if_true, hf]
    exact heuristics_ofVal_of_checkVal v hv
  · simp only [hk, if_false]; exact h

theorem heurOK_applyMethod (m : String) (c : Config) : HeurOK (applyMethod m c) ↔ HeurOK c := by
  unfold HeurOK
  rw [getE_applyMethod_of_protected m c _ ⟨use_small_not_width, fun h => absurd h (by decide +kernel)⟩]

theorem heurOK_dispatch (T : List (List String × String)) (k : String) (c : Config) :
    HeurOK (dispatch T k c) ↔ HeurOK c := by
  unfold dispatch
  cases methodFor T k with
  | none => exact Iff.rfl
  | some m => exact heurOK_applyMethod m c

/-! ## The three setters as one operation -/

/-- What a setter writes: the value, and the provenance bits it is told to set. -/
def storeFn (ws wc : Bool) (v : Val) (e : Entry) : Entry :=
  ⟨v, e.wasSet || ws, e.wasSetCli || wc⟩

/-- `override_value` (`ws`), `set()` and `set_cli()` (`wc`) once the value is checked: store, then
dispatch on the key.  One table serves all three (`tables_agree`). -/
def store (ws wc : Bool) (k : String) (v : Val) (c : Config) : Config :=
  dispatch overrideValueDispatch k (upd c k (storeFn ws wc v))

/-- The core of `override_value` as a function. -/
abbrev ov (k : String) (v : Val) : Config → Config := store true false k v

theorem getE_override_store (c : Config) (k : String) (v : Val) (k' : String) :
    getE (setVal (setWasSet c k) k v) k' = getE (upd c k (storeFn true false v)) k' := by
  simp only [getE_setVal, getE_setWasSet, getE_upd, storeFn]
  by_cases h : k' = k <;> simp [h]

theorem getE_cli_store (c : Config) (k : String) (v : Val) (k' : String) :
    getE (setWasSetCli (setVal c k v) k) k' = getE (upd c k (storeFn false true v)) k' := by
  simp only [getE_setVal, getE_setWasSetCli, getE_upd, storeFn]
  by_cases h : k' = k <;> simp [h]

theorem getE_set_store (c : Config) (k : String) (v : Val) (k' : String) :
    getE (setVal c k v) k' = getE (upd c k (storeFn false false v)) k' := by
  simp only [getE_setVal, getE_upd, storeFn]
  by_cases h : k' = k <;> simp [h]

theorem overrideValue_some {c c' : Config} {k : String} {v : Val}
    (h : overrideValue c k v = some c') :
    checkVal k v = true ∧ Equiv c' (store true false k v c) := by
  unfold overrideValue at h
  split at h
  · exact ⟨‹_›, Option.some.inj h ▸ equiv_dispatch _ _ (getE_override_store c k v)⟩
  · cases h

theorem configSet_some {c c' : Config} {k : String} {v : Val} (h : configSet c k v = some c') :
    checkVal k v = true ∧ Equiv c' (store false false k v c) := by
  unfold configSet at h
  rw [tables_agree.1] at h
  split at h
  · exact ⟨‹_›, Option.some.inj h ▸ equiv_dispatch _ _ (getE_set_store c k v)⟩
  · cases h

theorem configSetCli_some {c c' : Config} {k : String} {v : Val}
    (h : configSetCli c k v = some c') :
    checkVal k v = true ∧ Equiv c' (store false true k v c) := by
  unfold configSetCli at h
  rw [tables_agree.2] at h
  split at h
  · exact ⟨‹_›, Option.some.inj h ▸ equiv_dispatch _ _ (getE_cli_store c k v)⟩
  · cases h

/-- One call of the flags part of `apply_to`. -/
theorem flagCall_some {c c' : Config} {cli : Bool} {k : String} {v : Val}
    (h : (if cli then configSetCli c k v else configSet c k v) = some c') :
    checkVal k v = true ∧ Equiv c' (store false cli k v c) := by
  cases cli
  · exact configSet_some h
  · exact configSetCli_some h

theorem Inv.congr {a b : Config} (e : Equiv a b) (h : Inv b) : Inv a :=
  inv_congr b a (fun k _ => e k) h

theorem HeurOK.congr {a b : Config} (e : Equiv a b) (h : HeurOK b) : HeurOK a := by
  simpa only [HeurOK, e _] using h

theorem store_congr (ws wc : Bool) (k : String) (v : Val) {a b : Config} (e : Equiv a b) :
    Equiv (store ws wc k v a) (store ws wc k v b) := equiv_dispatch _ _ (equiv_upd _ _ e)

theorem store_heurOK (ws wc : Bool) (k : String) (v : Val) (c : Config)
    (hv : checkVal k v = true) (h : HeurOK c) : HeurOK (store ws wc k v c) :=
  (heurOK_dispatch _ _ _).2 (heurOK_upd_of_checkVal c k _ v (fun _ => rfl) hv h)

/-- The table sends the ten keys the heuristics read or write to `set_heuristics`; any other store
leaves those entries alone. -/
theorem store_inv (ws wc : Bool) (k : String) (v : Val) (c : Config)
    (hv : checkVal k v = true) (hi : Inv c) : Inv (store ws wc k v c) := by
  by_cases hk : k ∈ heurKeys
  · rw [store, dispatch_heur k hk]
    exact inv_setHeuristics _ (heurOK_upd_of_checkVal c k _ v (fun _ => rfl) hv hi.1)
  · exact inv_dispatch _ _ _ (inv_upd_of_not_heur c k _ hk hi)

theorem protected_congr (c c' : Config) (k : String) (h : getE c' k = getE c k)
    (hp : Protected c k) : Protected c' k :=
  ⟨hp.1, fun hs => by simpa only [wasSet, h] using hp.2 hs⟩

/-- A store at `k` leaves a protected `k0 ≠ k` alone. -/
theorem store_frame (ws wc : Bool) (k : String) (v : Val) (c : Config) (k0 : String)
    (hne : k0 ≠ k) (hp : Protected c k0) : getE (store ws wc k v c) k0 = getE c k0 := by
  have h0 : getE (upd c k (storeFn ws wc v)) k0 = getE c k0 := by rw [getE_upd, if_neg hne]
  rw [store, getE_dispatch_of_protected _ k _ k0 (protected_congr c _ k0 h0 hp), h0]

/-- A store at `k` keeps what it stored when `k` is not a width option and, if it is an alias
successor, ends up marked as set. -/
theorem store_self (ws wc : Bool) (k : String) (v : Val) (c : Config) (hw : k ∉ widthKeys)
    (hs : k ∈ successorKeys → ws = true) :
    getE (store ws wc k v c) k = storeFn ws wc v (getE c k) := by
  have h0 : getE (upd c k (storeFn ws wc v)) k = storeFn ws wc v (getE c k) := by
    rw [getE_upd, if_pos rfl]
  rw [store, getE_dispatch_of_protected _ k _ k
    ⟨hw, fun h => by rw [wasSet, h0]; simp [storeFn, hs h]⟩, h0]

/-! ## Sequences of setter calls -/

/-- A sequence of checked setter calls `(ws, wc, key, value)`. -/
def run (calls : List (Bool × Bool × String × Val)) (c : Config) : Config :=
  calls.foldl (fun c x => store x.1 x.2.1 x.2.2.1 x.2.2.2 c) c

theorem run_congr (l : List (Bool × Bool × String × Val)) {a b : Config} (e : Equiv a b) :
    Equiv (run l a) (run l b) := by
  induction l generalizing a b with
  | nil => exact e
  | cons x r ih => exact ih (store_congr _ _ _ _ e)

theorem run_inv (l : List (Bool × Bool × String × Val)) (c : Config)
    (hv : ∀ x ∈ l, checkVal x.2.2.1 x.2.2.2 = true) (hi : Inv c) : Inv (run l c) :=
  List.foldlRecOn l _ hi fun a ha x hx => store_inv _ _ _ _ a (hv x hx) ha

theorem run_heurOK (l : List (Bool × Bool × String × Val)) (c : Config)
    (hv : ∀ x ∈ l, checkVal x.2.2.1 x.2.2.2 = true) (h : HeurOK c) : HeurOK (run l c) :=
  List.foldlRecOn l _ h fun a ha x hx => store_heurOK _ _ _ _ a (hv x hx) ha

theorem run_frame (l : List (Bool × Bool × String × Val)) (c : Config) (k : String)
    (hk : ∀ x ∈ l, k ≠ x.2.2.1) (hp : Protected c k) : getE (run l c) k = getE c k := by
  induction l generalizing c with
  | nil => rfl
  | cons x r ih =>
    have hf := store_frame x.1 x.2.1 x.2.2.1 x.2.2.2 c k (hk x List.mem_cons_self) hp
    exact (ih _ (fun y hy => hk y (List.mem_cons_of_mem _ hy)) (protected_congr c _ k hf hp)).trans hf

/-- A call wins over the other calls of the sequence (distinct keys): its value stays, and the
provenance bits it sets. -/
theorem run_mem (l : List (Bool × Bool × String × Val)) (c : Config) (ws wc : Bool) (k : String)
    (v : Val) (hm : (ws, wc, k, v) ∈ l) (hnd : (l.map (·.2.2.1)).Nodup) (hw : k ∉ widthKeys)
    (hs : k ∈ successorKeys → ws = true) :
    (getE (run l c) k).val = v ∧ (ws = true → (getE (run l c) k).wasSet = true) ∧
      (wc = true → (getE (run l c) k).wasSetCli = true) := by
  induction l generalizing c with
  | nil => cases hm
  | cons x r ih =>
    simp only [List.map_cons, List.nodup_cons] at hnd
    rcases List.mem_cons.1 hm with rfl | hr
    · have hself := store_self ws wc k v c hw hs
      have hf := run_frame r _ k (fun y hy e => hnd.1 (e ▸ List.mem_map.2 ⟨y, hy, rfl⟩))
        ⟨hw, fun h => by rw [wasSet, hself]; simp [storeFn, hs h]⟩
      rw [show run ((ws, wc, k, v) :: r) c = run r (store ws wc k v c) from rfl, hf, hself]
      exact ⟨rfl, fun h => by simp [storeFn, h], fun h => by simp [storeFn, h]⟩
    · exact ih _ hr hnd.2

/-! ## Defaults -/

theorem getE_default (se : StyleEdition) (k : String) :
    getE (defaultWithStyleEdition se) k =
      match options.lookup k with
      | some o => ⟨defaultValFor se o.1, false, false⟩
      | none => dflt := by
  unfold getE defaultWithStyleEdition
  rw [lookup_map_snd options (fun o => (⟨defaultValFor se o.2.1, false, false⟩ : Entry)) k]
  cases options.lookup k <;> rfl

theorem wasSet_default (se : StyleEdition) (k : String) :
    wasSet (defaultWithStyleEdition se) k = false := by
  unfold wasSet
  rw [getE_default]
  cases options.lookup k <;> rfl

theorem wasSetCli_default (se : StyleEdition) (k : String) :
    wasSetCli (defaultWithStyleEdition se) k = false := by
  unfold wasSetCli
  rw [getE_default]
  cases options.lookup k <;> rfl

/-- The two arms of `style_edition_default!`: there are only two default configurations. -/
theorem default_class (se : StyleEdition) :
    defaultWithStyleEdition se = defaultWithStyleEdition .e2015 ∨
    defaultWithStyleEdition se = defaultWithStyleEdition .e2024 := by
  cases se
  · exact .inl rfl
  · exact .inl rfl
  · exact .inl rfl
  · exact .inr rfl
  · exact .inr rfl

theorem heurOK_default (se : StyleEdition) : HeurOK (defaultWithStyleEdition se) := by
  unfold HeurOK
  rcases default_class se with h | h <;> rw [h] <;> decide +kernel

theorem inv_default (se : StyleEdition) : Inv (defaultWithStyleEdition se) :=
  ⟨heurOK_default se, fun w _ h => by rw [wasSet_default] at h; cases h⟩

theorem defaultForPossible_eq (se : Option StyleEdition) (ed : Option Edition)
    (ver : Option Version) :
    defaultForPossibleStyleEdition se ed ver =
      defaultWithStyleEdition (chosenStyleEdition se ed ver) := by
  unfold defaultForPossibleStyleEdition chosenStyleEdition
  cases se with
  | some s => rfl
  | none =>
    cases ver with
    | some v => cases v <;> rfl
    | none => cases ed <;> rfl

/-! ## fill_from_parsed_config -/

/-- What the store loop of `fill_from_parsed_config` does to the entry of option `k`. -/
def fillEntry (env : Env) (parsed : List (String × Val)) (k : String) (e : Entry) : Entry :=
  match parsed.lookup k with
  | some v => if isStableOptionAndValue env k v then storeFn true false v e else e
  | none => e

theorem getE_fillStore (env : Env) (parsed : List (String × Val)) (c : Config) (a k : String) :
    getE (fillStore env parsed c a) k =
      if k = a then fillEntry env parsed a (getE c a) else getE c k := by
  unfold fillStore fillEntry
  cases parsed.lookup a with
  | none => by_cases h : k = a <;> simp [h]
  | some v =>
    simp only
    split
    · rw [getE_override_store, getE_upd]
    · by_cases h : k = a <;> simp [h]

theorem fillEntry_idem (env : Env) (parsed : List (String × Val)) (k : String) (e : Entry) :
    fillEntry env parsed k (fillEntry env parsed k e) = fillEntry env parsed k e := by
  unfold fillEntry
  cases parsed.lookup k with
  | none => rfl
  | some v =>
    simp only
    split
    · simp [storeFn]
    · rfl

theorem getE_fillFold (env : Env) (parsed : List (String × Val)) (l : List String) (c : Config)
    (k : String) :
    getE (l.foldl (fillStore env parsed) c) k =
      if k ∈ l then fillEntry env parsed k (getE c k) else getE c k := by
  induction l generalizing c with
  | nil => simp
  | cons a r ih =>
    simp only [List.foldl_cons, ih, getE_fillStore, List.mem_cons]
    by_cases h1 : k = a
    · subst h1
      by_cases h2 : k ∈ r <;> simp [h2, fillEntry_idem]
    · simp [h1]

theorem checkVal_of_validParsed (parsed : List (String × Val)) (hv : validParsed parsed = true)
    (k : String) (v : Val) (hl : parsed.lookup k = some v) (hk : k ∈ optionNames) :
    checkVal k v = true := by
  have hm := mem_of_lookup parsed k v hl
  unfold validParsed at hv
  rw [List.all_eq_true] at hv
  have := hv (k, v) hm
  simp only [isValidName, List.contains_eq_mem, hk, decide_true, Bool.not_true, Bool.false_or] at this
  exact this

theorem heurOK_fillFold (env : Env) (parsed : List (String × Val))
    (hv : validParsed parsed = true) (c : Config) (h : HeurOK c) :
    HeurOK (optionNames.foldl (fillStore env parsed) c) := by
  unfold HeurOK
  rw [getE_fillFold]
  have hmem : "use_small_heuristics" ∈ optionNames := by decide +kernel
  simp only [hmem, if_true, fillEntry]
  cases hl : parsed.lookup "use_small_heuristics" with
  | none => exact h
  | some v =>
    simp only
    split
    · exact heuristics_ofVal_of_checkVal v (checkVal_of_validParsed parsed hv _ v hl hmem)
    · exact h

theorem fillFromParsedConfig_eq (env : Env) (c : Config) (parsed : List (String × Val)) :
    fillFromParsedConfig env c parsed =
      setHideParseErrors (setFnArgsLayout (setMergeImports
        (setHeuristics (optionNames.foldl (fillStore env parsed) c)))) := by
  rw [fillFromParsedConfig, setVersion]

theorem inv_fillFromParsedConfig (env : Env) (parsed : List (String × Val))
    (hv : validParsed parsed = true) (c : Config) (h : HeurOK c) :
    Inv (fillFromParsedConfig env c parsed) := by
  rw [fillFromParsedConfig_eq, setHideParseErrors_eq, setFnArgsLayout_eq, setMergeImports_eq]
  exact inv_setAlias _ _ _ _ (by decide +kernel) (inv_setAlias _ _ _ _ (by decide +kernel)
    (inv_setAlias _ _ _ _ (by decide +kernel) (inv_setHeuristics _ (heurOK_fillFold env parsed hv c h))))

theorem inv_fromToml (env : Env) (parsed : List (String × Val)) (ed se ver) (c : Config)
    (h : fromToml env parsed ed se ver = some c) : Inv c := by
  unfold fromToml at h
  split at h
  · next hv =>
    rw [← Option.some.inj h, toParsedConfig, defaultForPossible_eq]
    exact inv_fillFromParsedConfig env parsed hv _ (heurOK_default _)
  · cases h

theorem inv_runOp (env : Env) (c c' : Config) (op : Op) (h : runOp env c op = some c')
    (hi : Inv c) : Inv c' := by
  cases op with
  | file parsed =>
    simp only [runOp] at h
    split at h
    · next hv => exact Option.some.inj h ▸ inv_fillFromParsedConfig env parsed hv c hi.1
    · cases h
  | toml parsed => exact inv_fromToml env parsed none none none c' h
  | override k v =>
    obtain ⟨hv, e⟩ := overrideValue_some h
    exact (store_inv _ _ k v c hv hi).congr e
  | set k v =>
    obtain ⟨hv, e⟩ := configSet_some h
    exact (store_inv _ _ k v c hv hi).congr e
  | setCli k v =>
    obtain ⟨hv, e⟩ := configSetCli_some h
    exact (store_inv _ _ k v c hv hi).congr e

theorem inv_runOps (env : Env) (ops : List Op) (c c' : Config) (h : runOps env ops c = some c')
    (hi : Inv c) : Inv c' := by
  induction ops generalizing c with
  | nil => simp only [runOps] at h; cases h; exact hi
  | cons op r ih =>
    simp only [runOps] at h
    cases h1 : runOp env c op with
    | none => simp [h1] at h
    | some c1 =>
      simp only [h1] at h
      exact ih c1 h (inv_runOp env c c1 op h1 hi)

/-! ## Heuristic widths against max_width -/

theorem set_le (mw : Nat) : ∀ p ∈ (WidthHeuristics.set mw).toList, p.2 ≤ mw := by
  intro p hp
  simp only [WidthHeuristics.set, WidthHeuristics.toList, List.mem_cons, List.not_mem_nil,
    or_false] at hp
  rcases hp with rfl | rfl | rfl | rfl | rfl | rfl | rfl | rfl <;> exact Nat.le_refl _

theorem scaled_le_iff (mw : Nat) :
    (∀ p ∈ (WidthHeuristics.scaled mw).toList, p.2 ≤ mw) ↔ 70 ≤ mw := by
  simp only [WidthHeuristics.scaled, WidthHeuristics.toList, List.mem_cons, List.not_mem_nil,
    or_false, forall_eq_or_imp, forall_eq, scaleBy, ratio10]
  by_cases h : mw > 100
  · simp only [h, if_true]; omega
  · simp only [h, if_false, Nat.reduceMul, Nat.reduceAdd, Nat.reduceDiv]; omega

theorem scaled_each_le_iff (mw : Nat) :
    let h := WidthHeuristics.scaled mw
    (h.fnCallWidth ≤ mw ↔ 60 ≤ mw) ∧ (h.attrFnLikeWidth ≤ mw ↔ 70 ≤ mw) ∧
    (h.structLitWidth ≤ mw ↔ 18 ≤ mw) ∧ (h.structVariantWidth ≤ mw ↔ 35 ≤ mw) ∧
    (h.arrayWidth ≤ mw ↔ 60 ≤ mw) ∧ (h.chainWidth ≤ mw ↔ 60 ≤ mw) ∧
    (h.singleLineIfElseMaxWidth ≤ mw ↔ 50 ≤ mw) ∧ (h.singleLineLetElseMaxWidth ≤ mw ↔ 50 ≤ mw) := by
  simp only [WidthHeuristics.scaled, scaleBy, ratio10]
  by_cases h : mw > 100
  · simp only [h, if_true]; omega
  · simp [h]

/-! ## The f32 emulation of `WidthHeuristics::scaled`

`scaledF32` depends on `max_width` only through the ratio, which is a whole number of tenths: the rounded product
`(max_width as f32 / 100.0 * 10.0).round()` is exactly `ratio10`.  So the agreement with the integer formula
splits into one sweep over `max_width` for the tenths and one over the 91 possible ratios for the widths. -/

/-- One width of `scaledF32` as a function of the ratio. -/
def widthF32 (ratio : Dy) (base : Nat) : Nat := f32ToUsize (f32Round (f32Mul (f32OfNat base) ratio))

theorem tenths_eq : ∀ mw ∈ List.range 1001, 100 < mw →
    f32Round (f32Mul (f32Div (f32OfNat mw) (f32OfNat 100)) (f32OfNat 10)) = f32OfNat (ratio10 mw) := by
  decide +kernel

theorem widthF32_eq : ∀ r ∈ List.range 101, ∀ b ∈ [60, 70, 18, 35, 50],
    widthF32 (f32Div (f32OfNat r) (f32OfNat 10)) b = scaleBy r b := by
  decide +kernel

theorem scaledF32_eq (mw : Nat) (hmw : mw ∈ List.range 1001) : WidthHeuristics.scaledF32 mw =
    let r := f32Div (f32OfNat (ratio10 mw)) (f32OfNat 10)
    ⟨widthF32 r 60, widthF32 r 70, widthF32 r 18, widthF32 r 35, widthF32 r 60, widthF32 r 60,
     widthF32 r 50, widthF32 r 50⟩ := by
  by_cases h : 100 < mw
  · simp only [WidthHeuristics.scaledF32, if_pos h, tenths_eq mw hmw h]; rfl
  · simp only [WidthHeuristics.scaledF32, ratio10, if_neg h]; rfl

theorem getWidthValue_le_of (mw ov hv : Nat) (ws : Bool) (h : hv ≤ mw) :
    getWidthValue mw ws ov hv ≤ mw := by
  unfold getWidthValue
  split
  · exact h
  · split <;> omega

/-- After `set_heuristics`, every width option (set or not) is at most `max_width`, provided the
heuristics in force are all at most `max_width`. -/
theorem widths_le_of_heur_le (c : Config) (wh : WidthHeuristics)
    (hwh : heurOf (getE c "max_width") (getE c "use_small_heuristics") = some wh)
    (hle : ∀ p ∈ wh.toList, p.2 ≤ natOf c "max_width") :
    ∀ w ∈ widthKeys, natOf (setHeuristics c) w ≤ natOf (setHeuristics c) "max_width" := by
  intro w hw
  rw [natOf_max_width_setHeuristics]
  obtain ⟨hv, hhv⟩ := lookup_toList_some wh w hw
  simp only [natOf, getE_setHeuristics, heurEntry, hwh, hhv, widthEntry]
  exact getWidthValue_le_of _ _ _ _ (hle (w, hv) (mem_of_lookup _ _ _ hhv))

/-! ## Directory search -/

section Dir
variable {α : Type}

theorem getTomlPath_eq [DecidableEq α] (t : Tree α) (d : List α) :
    getTomlPath t d =
      if hasDotted t d then some ⟨d, true⟩
      else if hasPlain t d then some ⟨d, false⟩ else none := by
  simp only [getTomlPath, List.findSome?, fileExists]
  by_cases h1 : hasDotted t d = true <;> by_cases h2 : hasPlain t d = true <;> simp [h1, h2]

theorem getTomlPath_some [DecidableEq α] (t : Tree α) (d : List α) (f : ConfigFile α)
    (h : getTomlPath t d = some f) : f.dir = d ∧ fileExists t f = true := by
  rw [getTomlPath_eq] at h
  by_cases h1 : hasDotted t d = true
  · simp only [h1, if_true, Option.some.injEq] at h; subst h; simp [fileExists, h1]
  · by_cases h2 : hasPlain t d = true
    · simp only [h1, h2, if_true, if_false, Bool.false_eq_true, Option.some.injEq] at h
      subst h; simp [fileExists, h2]
    · simp [h1, h2] at h

theorem mem_ancestorsRev (r : List α) (b : List α) : b ∈ ancestorsRev r ↔ b <+: r.reverse := by
  induction r with
  | nil => simp [ancestorsRev]
  | cons x r ih =>
    simp only [ancestorsRev, List.mem_cons, ih, List.reverse_cons, List.prefix_concat_iff]

theorem mem_ancestors (d b : List α) : b ∈ ancestors d ↔ b <+: d := by
  simp [ancestors, mem_ancestorsRev]

/-- The first hit of a search along `ancestorsRev r` is the longest prefix with a hit. -/
theorem findSome_ancestorsRev {β} (g : List α → Option β) (r : List α) (x : β)
    (h : (ancestorsRev r).findSome? g = some x) :
    ∃ d, d <+: r.reverse ∧ g d = some x ∧
      ∀ b, b <+: r.reverse → d.length < b.length → g b = none := by
  induction r with
  | nil =>
    simp only [ancestorsRev, List.findSome?] at h
    refine ⟨[], List.prefix_refl _, ?_, ?_⟩
    · cases hg : g [] with
      | none => simp [hg] at h
      | some y => simp [hg] at h; rw [h]
    · intro b hb hlen
      have hb' : b = [] := by simpa using hb
      subst hb'
      simp at hlen
  | cons a r ih =>
    simp only [ancestorsRev, List.findSome?] at h
    cases hg : g (a :: r).reverse with
    | some y =>
      simp only [hg, Option.some.injEq] at h
      subst h
      refine ⟨(a :: r).reverse, List.prefix_refl _, hg, ?_⟩
      intro b hb hlen
      have := hb.length_le
      omega
    | none =>
      simp only [hg] at h
      obtain ⟨d, hd, hgd, hmax⟩ := ih h
      refine ⟨d, ?_, hgd, ?_⟩
      · rw [List.reverse_cons]; exact hd.trans (List.prefix_append _ _)
      · intro b hb hlen
        rw [List.reverse_cons, List.prefix_concat_iff] at hb
        rcases hb with rfl | hb
        · rw [← List.reverse_cons]; exact hg
        · exact hmax b hb hlen

theorem findSome_ancestors_none {β} (g : List α → Option β) (d : List α) :
    (ancestors d).findSome? g = none ↔ ∀ b, b <+: d → g b = none := by
  rw [List.findSome?_eq_none_iff]
  simp only [mem_ancestors]

theorem resolve_ok [DecidableEq α] (fs : FS α) (dir : List α) (h : dirExists fs.tree dir = true) :
    resolveProjectFile fs dir =
      .ok (((ancestors dir).findSome? (getTomlPath fs.tree)).or
        ((fs.home.toList.findSome? (getTomlPath fs.tree)).or
          ((fs.configDir.map (· ++ [fs.rustfmtName])).toList.findSome? (getTomlPath fs.tree)))) := by
  unfold resolveProjectFile
  simp only [h, Bool.not_true, Bool.false_eq_true, if_false, List.findSome?_append, List.append_assoc]

end Dir

/-! ## Order of `--config` overrides -/

theorem widthEntry_absorb (mw hv hv' : Nat) (e : Entry) :
    widthEntry mw hv' (widthEntry mw hv e) = widthEntry mw hv' e := by
  unfold widthEntry getWidthValue
  generalize e.val.toNat = n
  cases hws : e.wasSet
  · simp
  · simp only [Bool.not_true, Bool.false_eq_true, if_false, Val.toNat]
    congr 2
    split <;> (try split) <;> first | rfl | omega

theorem heurEntry_absorb (m u u' e : Entry) (w : String) (hu' : (heurOf m u').isSome = true) :
    heurEntry m u' (heurEntry m u e w) w = heurEntry m u' e w := by
  unfold heurEntry
  cases h1 : heurOf m u with
  | none => rfl
  | some h =>
    simp only
    cases h2 : heurOf m u' with
    | none => simp [h2] at hu'
    | some h' =>
      simp only
      by_cases hw : w ∈ widthKeys
      · obtain ⟨hv, hhv⟩ := lookup_toList_some h w hw
        obtain ⟨hv', hhv'⟩ := lookup_toList_some h' w hw
        simp only [hhv, hhv', widthEntry_absorb]
      · simp only [lookup_toList_none h w hw, lookup_toList_none h' w hw]

/-- A second `set_heuristics` makes the first one redundant, as long as `max_width` is not what was
stored in between. -/
theorem heur_absorb (k : String) (v : Val) (hk : k ≠ "max_width") (x : Config)
    (hok : HeurOK (upd x k (storeFn true false v))) :
    Equiv (setHeuristics (upd (setHeuristics x) k (storeFn true false v)))
      (setHeuristics (upd x k (storeFn true false v))) := by
  intro w
  have hmw : getE (upd (setHeuristics x) k (storeFn true false v)) "max_width" =
      getE (upd x k (storeFn true false v)) "max_width" := by
    simp only [getE_upd, Ne.symm hk, if_false,
      getE_setHeuristics_of_not_width x _ max_width_not_width]
  have hus : getE (upd (setHeuristics x) k (storeFn true false v)) "use_small_heuristics" =
      getE (upd x k (storeFn true false v)) "use_small_heuristics" := by
    simp only [getE_upd, getE_setHeuristics_of_not_width x _ use_small_not_width]
    split
    · next h => subst h; simp only [getE_setHeuristics_of_not_width x _ use_small_not_width]
    · rfl
  rw [getE_setHeuristics, getE_setHeuristics, hmw, hus]
  by_cases hwk : w = k
  · subst hwk
    have e3 : getE (upd (setHeuristics x) w (storeFn true false v)) w =
        getE (upd x w (storeFn true false v)) w := by
      simp only [getE_upd, if_true, storeFn, getE_setHeuristics, (heurEntry_wasSet _ _ _ _).2,
        (heurEntry_wasSet _ _ _ _).1]
    rw [e3]
  · have e3 : getE (upd (setHeuristics x) k (storeFn true false v)) w =
        getE (setHeuristics x) w := by rw [getE_upd]; simp [hwk]
    have e4 : getE (upd x k (storeFn true false v)) w = getE x w := by rw [getE_upd]; simp [hwk]
    have e1 : getE x "max_width" = getE (upd x k (storeFn true false v)) "max_width" := by
      simp [getE_upd, Ne.symm hk]
    rw [e3, e4, getE_setHeuristics, e1]
    apply heurEntry_absorb
    rw [heurOf_isSome_eq]
    exact hok

theorem alias_comm (old new : String) (f : Val → Val) (hne : old ≠ new) (vo vn : Val)
    (c : Config) :
    Equiv (upd (setAlias old new f (upd c old (storeFn true false vo))) new (storeFn true false vn))
      (setAlias old new f (upd (upd c new (storeFn true false vn)) old (storeFn true false vo))) := by
  intro w
  have hno : new ≠ old := Ne.symm hne
  have hset : wasSet (upd (upd c new (storeFn true false vn)) old (storeFn true false vo)) new = true := by
    simp [wasSet, getE_upd, hno, storeFn]
  rw [getE_setAlias_of_protected _ _ _ _ _ (fun e => e ▸ hset)]
  by_cases h1 : w = new
  · subst h1
    simp only [getE_upd, if_true, hne, if_false, getE_setAlias, storeFn]
    split <;> simp
  · simp only [getE_upd, h1, if_false, getE_setAlias, false_and, hne]

/-- The entries an `override_value(k, _)` can read or write. -/
def block (k : String) : List String :=
  if k ∈ heurKeys then heurKeys
  else if k ∈ pairMI then pairMI
  else if k ∈ pairFA then pairFA
  else if k ∈ pairHP then pairHP
  else [k]

theorem mem_block (k : String) : k ∈ block k := by
  unfold block
  split; · assumption
  split; · assumption
  split; · assumption
  split; · assumption
  simp

theorem methodFor_some (T : List (List String × String)) (k m : String)
    (h : methodFor T k = some m) : ∃ row ∈ T, k ∈ row.1 ∧ row.2 = m := by
  unfold methodFor at h
  cases hf : T.find? (fun row => row.1.contains k) with
  | none => rw [hf] at h; cases h
  | some row =>
    rw [hf] at h
    exact ⟨row, List.mem_of_find?_eq_some hf, by simpa using List.find?_some hf,
      Option.some.inj h⟩

/-- In the generated table every key is sent to a method whose footprint is the key's block (or
to `set_version`, which has none). -/
theorem footprint_block : ∀ row ∈ overrideValueDispatch, ∀ k ∈ row.1,
    footprint row.2 = [] ∨ footprint row.2 = block k := by decide +kernel

theorem local_dispatch (k : String) : Local (block k) (dispatch overrideValueDispatch k) := by
  cases hm : methodFor overrideValueDispatch k with
  | none =>
    rw [show dispatch overrideValueDispatch k = fun c => c from
      funext fun c => by simp only [dispatch, hm]]
    exact Local.id _
  | some m =>
    obtain ⟨row, hrow, hk, rfl⟩ := methodFor_some _ k m hm
    rw [show dispatch overrideValueDispatch k = applyMethod row.2 from
      funext fun c => by simp only [dispatch, hm]]
    rcases footprint_block row hrow k hk with h | h
    · exact (h ▸ local_applyMethod row.2).mono (by simp)
    · exact h ▸ local_applyMethod row.2

theorem local_store (ws wc : Bool) (k : String) (v : Val) : Local (block k) (store ws wc k v) :=
  Local.comp (F := fun c => upd c k (storeFn ws wc v)) (G := dispatch overrideValueDispatch k)
    ((local_upd k _).mono fun x hx => by rw [List.mem_singleton.1 hx]; exact mem_block k)
    (local_dispatch k)

def blocks : List (List String) := [heurKeys, pairMI, pairFA, pairHP]

theorem blocks_disjoint : ∀ A ∈ blocks, ∀ B ∈ blocks, A = B ∨ ∀ x ∈ A, x ∉ B := by
  decide +kernel

theorem block_spec (k : String) :
    (block k ∈ blocks ∧ k ∈ block k) ∨ (block k = [k] ∧ ∀ B ∈ blocks, k ∉ B) := by
  unfold block
  split
  · exact .inl ⟨by simp [blocks], ‹_›⟩
  split
  · exact .inl ⟨by simp [blocks], ‹_›⟩
  split
  · exact .inl ⟨by simp [blocks], ‹_›⟩
  split
  · exact .inl ⟨by simp [blocks], ‹_›⟩
  · refine .inr ⟨rfl, fun B hB => ?_⟩
    simp only [blocks, List.mem_cons, List.not_mem_nil, or_false] at hB
    rcases hB with rfl | rfl | rfl | rfl <;> assumption

theorem block_eq_or_disjoint (k1 k2 : String) :
    block k1 = block k2 ∨ ∀ x ∈ block k1, x ∉ block k2 := by
  rcases block_spec k1 with ⟨m1, _⟩ | ⟨e1, n1⟩ <;> rcases block_spec k2 with ⟨m2, h2⟩ | ⟨e2, n2⟩
  · exact blocks_disjoint _ m1 _ m2
  · rw [e2]
    exact .inr fun x hx hx2 => n2 _ m1 (List.mem_singleton.1 hx2 ▸ hx)
  · rw [e1]
    exact .inr fun x hx hx2 => n1 _ m2 (List.mem_singleton.1 hx ▸ hx2)
  · rw [e1, e2]
    by_cases e : k1 = k2
    · exact .inl (by rw [e])
    · exact .inr fun x hx hx2 => e ((List.mem_singleton.1 hx).symm.trans (List.mem_singleton.1 hx2))

theorem upd_comm (k1 k2 : String) (f1 f2 : Entry → Entry) (hne : k1 ≠ k2) (c : Config) :
    Equiv (upd (upd c k1 f1) k2 f2) (upd (upd c k2 f2) k1 f1) :=
  Local.comm (local_upd k1 f1) (local_upd k2 f2)
    (fun _ hx hx2 => hne ((List.mem_singleton.1 hx).symm.trans (List.mem_singleton.1 hx2))) c

theorem ov_heur (k : String) (v : Val) (hk : k ∈ heurKeys) (c : Config) :
    ov k v c = setHeuristics (upd c k (storeFn true false v)) := dispatch_heur k hk _

theorem heur_comm (k1 k2 : String) (v1 v2 : Val) (hne : k1 ≠ k2) (h1 : k1 ≠ "max_width")
    (h2 : k2 ≠ "max_width") (hk1 : k1 ∈ heurKeys) (hk2 : k2 ∈ heurKeys)
    (hv1 : checkVal k1 v1 = true) (hv2 : checkVal k2 v2 = true) (c : Config) (hc : HeurOK c) :
    Equiv (ov k2 v2 (ov k1 v1 c)) (ov k1 v1 (ov k2 v2 c)) := by
  rw [ov_heur k1 v1 hk1, ov_heur k2 v2 hk2, ov_heur k2 v2 hk2, ov_heur k1 v1 hk1]
  have ok12 : HeurOK (upd (upd c k1 (storeFn true false v1)) k2 (storeFn true false v2)) :=
    heurOK_upd_of_checkVal _ k2 _ v2 (fun _ => rfl) hv2 (heurOK_upd_of_checkVal c k1 _ v1 (fun _ => rfl) hv1 hc)
  have ok21 : HeurOK (upd (upd c k2 (storeFn true false v2)) k1 (storeFn true false v1)) :=
    heurOK_upd_of_checkVal _ k1 _ v1 (fun _ => rfl) hv1 (heurOK_upd_of_checkVal c k2 _ v2 (fun _ => rfl) hv2 hc)
  exact (heur_absorb k2 v2 h2 _ ok12).trans
    ((local_setHeuristics.congr (upd_comm k1 k2 _ _ hne c)).trans
      (heur_absorb k1 v1 h1 _ ok21).symm)

theorem pair_comm (old new : String) (f : Val → Val) (hne : old ≠ new)
    (hold : ∀ c, dispatch overrideValueDispatch old c = setAlias old new f c)
    (hnew : ∀ c, dispatch overrideValueDispatch new c = c) (vo vn : Val) (c : Config) :
    Equiv (ov new vn (ov old vo c)) (ov old vo (ov new vn c)) := by
  simp only [ov, store, hold, hnew]
  exact alias_comm old new f hne vo vn c

theorem pair_comm_mem (old new : String) (f : Val → Val) (hne : old ≠ new)
    (hold : ∀ c, dispatch overrideValueDispatch old c = setAlias old new f c)
    (hnew : ∀ c, dispatch overrideValueDispatch new c = c)
    (k1 k2 : String) (hk1 : k1 ∈ [old, new]) (hk2 : k2 ∈ [old, new]) (hne12 : k1 ≠ k2)
    (v1 v2 : Val) (c : Config) : Equiv (ov k2 v2 (ov k1 v1 c)) (ov k1 v1 (ov k2 v2 c)) := by
  simp only [List.mem_cons, List.not_mem_nil, or_false] at hk1 hk2
  rcases hk1 with rfl | rfl <;> rcases hk2 with rfl | rfl
  · exact absurd rfl hne12
  · exact pair_comm _ _ f hne hold hnew v1 v2 c
  · exact (pair_comm _ _ f hne hold hnew v2 v1 c).symm
  · exact absurd rfl hne12

/-- Two `override_value` calls on different keys, neither of them `max_width`, commute. -/
theorem ov_comm (k1 k2 : String) (v1 v2 : Val) (hne : k1 ≠ k2) (h1 : k1 ≠ "max_width")
    (h2 : k2 ≠ "max_width") (hv1 : checkVal k1 v1 = true) (hv2 : checkVal k2 v2 = true)
    (c : Config) (hc : HeurOK c) : Equiv (ov k2 v2 (ov k1 v1 c)) (ov k1 v1 (ov k2 v2 c)) := by
  rcases block_eq_or_disjoint k1 k2 with he | hd
  · have m2 : k2 ∈ block k1 := he ▸ mem_block k2
    by_cases a1 : k1 ∈ heurKeys
    · have : block k1 = heurKeys := by simp [block, a1]
      exact heur_comm k1 k2 v1 v2 hne h1 h2 a1 (this ▸ m2) hv1 hv2 c hc
    by_cases a2 : k1 ∈ pairMI
    · have : block k1 = pairMI := by simp [block, a1, a2]
      exact pair_comm_mem _ _ mergeImportsMap (by decide +kernel)
        (fun c => by rw [dispatch_merge_imports, setMergeImports_eq])
        (dispatch_other _ (by decide +kernel)) k1 k2 a2 (show k2 ∈ pairMI from this ▸ m2) hne v1 v2 c
    by_cases a3 : k1 ∈ pairFA
    · have : block k1 = pairFA := by simp [block, a1, a2, a3]
      exact pair_comm_mem _ _ id (by decide +kernel)
        (fun c => by rw [dispatch_fn_args_layout, setFnArgsLayout_eq])
        (dispatch_other _ (by decide +kernel)) k1 k2 a3 (show k2 ∈ pairFA from this ▸ m2) hne v1 v2 c
    by_cases a4 : k1 ∈ pairHP
    · have : block k1 = pairHP := by simp [block, a1, a2, a3, a4]
      exact pair_comm_mem _ _ negBool (by decide +kernel)
        (fun c => by rw [dispatch_hide_parse_errors, setHideParseErrors_eq])
        (dispatch_other _ (by decide +kernel)) k1 k2 a4 (show k2 ∈ pairHP from this ▸ m2) hne v1 v2 c
    · have : block k1 = [k1] := by simp [block, a1, a2, a3, a4]
      rw [this] at m2
      exact absurd (List.mem_singleton.1 m2).symm hne
  · exact Local.comm (local_store _ _ k1 v1) (local_store _ _ k2 v2) hd c

/-- `apply_to`'s loop over the `--config` pairs, as a run of `override_value` calls. -/
def ovs (l : List (String × Val)) (c : Config) : Config :=
  run (l.map fun kv => (true, false, kv.1, kv.2)) c

theorem applyInline_spec (l : List (String × Val)) (c c' : Config)
    (h : applyInline l c = some c') :
    (∀ x ∈ l.map fun kv => (true, false, kv.1, kv.2), checkVal x.2.2.1 x.2.2.2 = true) ∧
      Equiv c' (ovs l c) := by
  induction l generalizing c with
  | nil => exact ⟨nofun, Option.some.inj h ▸ Equiv.refl _⟩
  | cons p r ih =>
    obtain ⟨k, v⟩ := p
    simp only [applyInline] at h
    cases h1 : overrideValue c k v with
    | none => simp [h1] at h
    | some c1 =>
      simp only [h1] at h
      obtain ⟨hv, e⟩ := overrideValue_some h1
      obtain ⟨hr, er⟩ := ih c1 h
      exact ⟨List.forall_mem_cons.2 ⟨hv, hr⟩, er.trans (run_congr _ e)⟩

theorem applyInline_equiv_ovs (l : List (String × Val)) (c c' : Config)
    (h : applyInline l c = some c') : Equiv c' (ovs l c) := (applyInline_spec l c c' h).2

/-- The flags part of `apply_to` likewise. -/
theorem applyFlagCalls_spec (calls : List (Bool × String × Val)) (c c' : Config)
    (h : applyFlagCalls calls c = some c') :
    (∀ x ∈ calls.map fun x => (false, x.1, x.2.1, x.2.2), checkVal x.2.2.1 x.2.2.2 = true) ∧
      Equiv c' (run (calls.map fun x => (false, x.1, x.2.1, x.2.2)) c) := by
  induction calls generalizing c with
  | nil => exact ⟨nofun, Option.some.inj h ▸ Equiv.refl _⟩
  | cons p r ih =>
    obtain ⟨cli, k, v⟩ := p
    simp only [applyFlagCalls] at h
    cases h1 : (if cli then configSetCli c k v else configSet c k v) with
    | none => simp [h1] at h
    | some c1 =>
      simp only [h1] at h
      obtain ⟨hv, e⟩ := flagCall_some h1
      obtain ⟨hr, er⟩ := ih c1 h
      exact ⟨List.forall_mem_cons.2 ⟨hv, hr⟩, er.trans (run_congr _ e)⟩

theorem ovs_perm (l1 l2 : List (String × Val)) (hp : l1.Perm l2) :
    (l1.map (·.1)).Nodup → "max_width" ∉ l1.map (·.1) →
    (∀ kv ∈ l1, checkVal kv.1 kv.2 = true) → ∀ c, HeurOK c → Equiv (ovs l1 c) (ovs l2 c) := by
  induction hp with
  | nil => intro _ _ _ c _; exact Equiv.refl _
  | cons x _ ih =>
    intro hnd hmw hv c hc
    simp only [List.map_cons, List.nodup_cons, List.mem_cons, not_or] at hnd hmw
    exact ih hnd.2 hmw.2 (fun kv hkv => hv kv (List.mem_cons_of_mem _ hkv)) _
      (store_heurOK _ _ x.1 x.2 c (hv x List.mem_cons_self) hc)
  | swap x y l =>
    intro hnd hmw hv c hc
    simp only [List.map_cons, List.nodup_cons, List.mem_cons, not_or] at hnd hmw
    have hvx := hv x (List.mem_cons_of_mem _ List.mem_cons_self)
    have hvy := hv y List.mem_cons_self
    exact run_congr _ (ov_comm y.1 x.1 y.2 x.2 hnd.1.1 (Ne.symm hmw.1) (Ne.symm hmw.2.1) hvy hvx c hc)
  | trans p12 _ ih1 ih2 =>
    intro hnd hmw hv c hc
    refine (ih1 hnd hmw hv c hc).trans (ih2 ?_ ?_ ?_ c hc)
    · exact (p12.map _).nodup_iff.1 hnd
    · exact fun h => hmw ((p12.map _).mem_iff.2 h)
    · exact fun kv hkv => hv kv (p12.mem_iff.2 hkv)

theorem heurOK_applyFlagCalls (calls : List (Bool × String × Val)) (c c' : Config)
    (h : applyFlagCalls calls c = some c') (hi : HeurOK c) : HeurOK c' := by
  obtain ⟨hv, e⟩ := applyFlagCalls_spec calls c c' h
  exact (run_heurOK _ c hv hi).congr e

/-- Among pairs with distinct keys at most one has the key `max_width`. -/
theorem filter_max_width_cases (l : List (String × Val)) (hnd : (l.map (·.1)).Nodup) :
    l.filter (fun kv => kv.1 == "max_width") = [] ∨
    ∃ m, l.filter (fun kv => kv.1 == "max_width") = [("max_width", m)] := by
  have hn : ((l.filter (fun kv => kv.1 == "max_width")).map (·.1)).Nodup :=
    (List.filter_sublist.map _).nodup hnd
  have hall : ∀ kv ∈ l.filter (fun kv => kv.1 == "max_width"), kv.1 = "max_width" :=
    fun kv hkv => by simpa using (List.mem_filter.1 hkv).2
  cases hm : l.filter (fun kv => kv.1 == "max_width") with
  | nil => exact .inl rfl
  | cons a r =>
    rw [hm] at hn hall
    cases r with
    | nil =>
      obtain ⟨ka, m⟩ := a
      exact .inr ⟨m, by rw [show ka = "max_width" from hall (ka, m) (by simp)]⟩
    | cons b r' =>
      simp only [List.map_cons, List.nodup_cons, List.mem_cons, not_or] at hn
      exact absurd ((hall a (by simp)).trans (hall b (by simp)).symm) hn.1.1

/-- … so two orders of the same pairs have the same `max_width` part. -/
theorem filter_max_width_eq (l1 l2 : List (String × Val)) (hp : l1.Perm l2)
    (hnd : (l1.map (·.1)).Nodup) :
    l1.filter (fun kv => kv.1 == "max_width") = l2.filter (fun kv => kv.1 == "max_width") := by
  have hpf := hp.filter (fun kv => kv.1 == "max_width")
  rcases filter_max_width_cases l1 hnd with h | ⟨m, h⟩ <;> rw [h] at hpf ⊢
  · exact (List.nil_perm.1 hpf).symm
  · exact (List.singleton_perm.1 hpf).symm ▸ rfl

/-! ## `apply_to` -/

theorem applyInline_some (l : List (String × Val)) (c : Config)
    (hv : ∀ kv ∈ l, checkVal kv.1 kv.2 = true) : ∃ c', applyInline l c = some c' := by
  induction l generalizing c with
  | nil => exact ⟨c, rfl⟩
  | cons p r ih =>
    obtain ⟨k, v⟩ := p
    have h1 : checkVal k v = true := hv (k, v) List.mem_cons_self
    simp only [applyInline, overrideValue, h1, if_true]
    exact ih _ (fun kv hkv => hv kv (List.mem_cons_of_mem _ hkv))

def flagKeys : List String :=
  ["verbose", "file_lines", "unstable_features", "skip_children", "error_on_unformatted",
   "edition", "style_edition", "emit_mode", "make_backup", "color",
   "print_misformatted_file_names"]

theorem flagKeys_free : ∀ k ∈ flagKeys, k ∉ widthKeys ∧ k ∉ successorKeys := by decide +kernel

theorem flagKeys_nodup : flagKeys.Nodup := by decide +kernel

theorem tagOf_flagKeys :
    tagOf "verbose" = some .str ∧ tagOf "file_lines" = some .str ∧
    tagOf "unstable_features" = some .bool ∧ tagOf "skip_children" = some .bool ∧
    tagOf "error_on_unformatted" = some .bool ∧ tagOf "edition" = some .str ∧
    tagOf "style_edition" = some .str ∧ tagOf "emit_mode" = some .str ∧
    tagOf "make_backup" = some .bool ∧ tagOf "color" = some .str ∧
    tagOf "print_misformatted_file_names" = some .bool := by decide +kernel

theorem checkVal_str (k s : String) (ht : tagOf k = some .str) (he : enumOk k s = true) :
    checkVal k (.str s) = true := by simp [checkVal, ht, he]

theorem checkVal_bool (k : String) (b : Bool) (ht : tagOf k = some .bool) :
    checkVal k (.bool b) = true := by simp [checkVal, ht]

theorem enumOk_free (k s : String) (h1 : k ≠ "use_small_heuristics") (h2 : k ≠ "style_edition")
    (h3 : k ≠ "edition") (h4 : k ≠ "version") : enumOk k s = true := by
  simp [enumOk, h1, h2, h3, h4]

section Flags
variable {α : Type}

/-- Every dedicated-flag call is well-typed, so the flags part of `apply_to` never fails. -/
theorem flagCalls_valid (o : CliOptions α) :
    ∀ call ∈ flagCalls o, checkVal call.2.1 call.2.2 = true := by
  obtain ⟨t1, t2, t3, t4, t5, t6, t7, t8, t9, t10, t11⟩ := tagOf_flagKeys
  have he : ∀ e : Edition, enumOk "edition" e.toStr = true := fun e => by cases e <;> decide +kernel
  have hs : ∀ e : StyleEdition, enumOk "style_edition" e.toStr = true :=
    fun e => by cases e <;> decide +kernel
  simp only [flagCalls, List.forall_mem_append, List.forall_mem_singleton]
  refine ⟨⟨⟨⟨⟨⟨⟨⟨⟨⟨?_, ?_⟩, ?_⟩, ?_⟩, ?_⟩, ?_⟩, ?_⟩, ?_⟩, ?_⟩, ?_⟩, ?_⟩
  -- each of the eleven segments is one call (or none) whose value has the tag of its key
  all_goals repeat' split
  all_goals simp [checkVal_bool, checkVal_str, enumOk_free, *]

theorem applyFlagCalls_some (calls : List (Bool × String × Val)) (c : Config)
    (hv : ∀ call ∈ calls, checkVal call.2.1 call.2.2 = true) :
    ∃ c', applyFlagCalls calls c = some c' := by
  induction calls generalizing c with
  | nil => exact ⟨c, rfl⟩
  | cons p r ih =>
    obtain ⟨cli, k, v⟩ := p
    have h1 : checkVal k v = true := hv (cli, k, v) List.mem_cons_self
    simp only [applyFlagCalls]
    cases cli <;> simp only [configSet, configSetCli, h1, if_true, Bool.false_eq_true, if_false] <;>
      exact ih _ (fun call hc => hv call (List.mem_cons_of_mem _ hc))

theorem flagCalls_keys_sublist (o : CliOptions α) :
    ((flagCalls o).map (·.2.1)).Sublist flagKeys := by
  simp only [flagCalls, List.map_append]
  have e : flagKeys = ["verbose"] ++ ["file_lines"] ++ ["unstable_features"] ++ ["skip_children"] ++
      ["error_on_unformatted"] ++ ["edition"] ++ ["style_edition"] ++ ["emit_mode"] ++
      ["make_backup"] ++ ["color"] ++ ["print_misformatted_file_names"] := rfl
  rw [e]
  refine List.Sublist.append (List.Sublist.append (List.Sublist.append (List.Sublist.append
    (List.Sublist.append (List.Sublist.append (List.Sublist.append (List.Sublist.append
    (List.Sublist.append (List.Sublist.append ?_ ?_) ?_) ?_) ?_) ?_) ?_) ?_) ?_) ?_) ?_
  -- each of the eleven segments is the singleton of its key, or empty
  all_goals repeat' split
  all_goals first | exact List.Sublist.refl _ | exact List.nil_sublist _

theorem flagCalls_keys_nodup (o : CliOptions α) : ((flagCalls o).map (·.2.1)).Nodup :=
  (flagCalls_keys_sublist o).nodup flagKeys_nodup

theorem flagCalls_key_mem (o : CliOptions α) (call : Bool × String × Val)
    (h : call ∈ flagCalls o) : call.2.1 ∈ flagKeys :=
  (flagCalls_keys_sublist o).subset (List.mem_map.2 ⟨call, h, rfl⟩)

/-- The generated flag says `max_width` first (fails if the generated flag is false). -/
theorem orderInline_eq (l : List (String × Val)) : orderInline l = maxWidthFirst l := by
  unfold orderInline
  have h : inlineMaxWidthFirst = true := by decide +kernel
  simp only [h, if_true]

theorem maxWidthFirst_perm (l : List (String × Val)) : (maxWidthFirst l).Perm l :=
  List.filter_append_perm _ l

theorem orderInline_perm (l : List (String × Val)) : (orderInline l).Perm l := by
  rw [orderInline_eq]; exact maxWidthFirst_perm l

theorem mem_orderInline (l : List (String × Val)) (kv : String × Val) :
    kv ∈ orderInline l ↔ kv ∈ l := (orderInline_perm l).mem_iff

theorem orderInline_keys_perm (l : List (String × Val)) :
    ((orderInline l).map (·.1)).Perm (l.map (·.1)) := (orderInline_perm l).map _

theorem orderInline_single (k : String) (v : Val) : orderInline [(k, v)] = [(k, v)] := by
  rw [orderInline_eq]
  unfold maxWidthFirst
  by_cases h : (k == "max_width") = true <;> simp [List.filter, h]

/-- `apply_to` never panics when every `--config` pair is well-typed. -/
theorem applyTo_some (o : CliOptions α) (c : Config)
    (hv : ∀ kv ∈ o.inlineConfig, checkVal kv.1 kv.2 = true) : ∃ c', applyTo o c = some c' := by
  obtain ⟨c1, h1⟩ := applyFlagCalls_some (flagCalls o) c (flagCalls_valid o)
  obtain ⟨c2, h2⟩ := applyInline_some (orderInline o.inlineConfig) c1
    (fun kv hkv => hv kv ((mem_orderInline _ kv).1 hkv))
  exact ⟨c2, by simp [applyTo, h1, bindO, h2]⟩

theorem applyTo_split (o : CliOptions α) (c c' : Config) (h : applyTo o c = some c') :
    ∃ c1, applyFlagCalls (flagCalls o) c = some c1 ∧
      applyInline (orderInline o.inlineConfig) c1 = some c' := by
  unfold applyTo at h
  cases h1 : applyFlagCalls (flagCalls o) c with
  | none => simp [h1, bindO] at h
  | some c1 => exact ⟨c1, rfl, by simpa only [h1, bindO] using h⟩

theorem applyTo_inline_wins (o : CliOptions α) (c c' : Config) (h : applyTo o c = some c')
    (k : String) (v : Val) (hm : (k, v) ∈ o.inlineConfig)
    (hnd : (o.inlineConfig.map (·.1)).Nodup) (hw : k ∉ widthKeys) :
    (getE c' k).val = v ∧ (getE c' k).wasSet = true := by
  obtain ⟨c1, _, h⟩ := applyTo_split o c c' h
  obtain ⟨_, e⟩ := applyInline_spec _ c1 c' h
  have := run_mem ((orderInline o.inlineConfig).map fun kv => (true, false, kv.1, kv.2)) c1
    true false k v (List.mem_map.2 ⟨(k, v), (mem_orderInline _ _).2 hm, rfl⟩)
    (by rw [List.map_map]; exact (orderInline_keys_perm _).nodup_iff.2 hnd) hw (fun _ => rfl)
  rw [e k]
  exact ⟨this.1, this.2.1 rfl⟩

theorem applyTo_flag_wins (o : CliOptions α) (c c' : Config) (h : applyTo o c = some c')
    (cli : Bool) (k : String) (v : Val) (hm : (cli, k, v) ∈ flagCalls o)
    (hk : k ∉ o.inlineConfig.map (·.1)) :
    (getE c' k).val = v ∧ (cli = true → (getE c' k).wasSetCli = true) := by
  obtain ⟨c1, h1, h⟩ := applyTo_split o c c' h
  obtain ⟨_, e1⟩ := applyFlagCalls_spec _ c c1 h1
  obtain ⟨_, e⟩ := applyInline_spec _ c1 c' h
  have hfree := flagKeys_free k (flagCalls_key_mem o _ hm)
  -- the pairs leave `k` alone; among the flags the call for `k` wins
  have hfr : getE (ovs (orderInline o.inlineConfig) c1) k = getE c1 k :=
    run_frame _ c1 k (fun x hx e => by
      obtain ⟨kv, hkv, rfl⟩ := List.mem_map.1 hx
      exact hk (List.mem_map.2 ⟨kv, (mem_orderInline _ _).1 hkv, e.symm⟩))
      ⟨hfree.1, fun hh => absurd hh hfree.2⟩
  have hw := run_mem ((flagCalls o).map fun x => (false, x.1, x.2.1, x.2.2)) c false cli k v
    (List.mem_map.2 ⟨_, hm, rfl⟩) (by rw [List.map_map]; exact flagCalls_keys_nodup o)
    hfree.1 (fun hh => absurd hh hfree.2)
  rw [e k, hfr, e1 k]
  exact ⟨hw.1, hw.2.2⟩

/-! ## One option from a file vs. from `--config` -/

theorem setAlias_of_not_set (old new : String) (f : Val → Val) (c : Config)
    (h : wasSet c old = false) : setAlias old new f c = c := by
  simp [setAlias, h]

theorem wasSet_setAlias (old new : String) (f : Val → Val) (c : Config) (k : String) :
    wasSet (setAlias old new f c) k = wasSet c k := by
  unfold wasSet
  rw [getE_setAlias]
  split
  · next h => rw [h.1]
  · rfl

theorem setHeuristics_default (se : StyleEdition) :
    Equiv (setHeuristics (defaultWithStyleEdition se)) (defaultWithStyleEdition se) := by
  intro k
  by_cases hk : k ∈ widthKeys
  · -- the default widths are the heuristics of the default `max_width`
    have : ∀ w ∈ widthKeys, getE (setHeuristics (defaultWithStyleEdition se)) w =
        getE (defaultWithStyleEdition se) w := by
      rcases default_class se with h | h <;> rw [h] <;> decide +kernel
    exact this k hk
  · exact getE_setHeuristics_of_not_width _ k hk

/-- The tail of `fill_from_parsed_config` (one `set_heuristics`, then the alias setters) applied to a
fresh default with the single option `k` stored does what `override_value`'s dispatch for `k` does. -/
theorem fill_chain (D : Config) (k : String) (v : Val) (hD : ∀ k', wasSet D k' = false)
    (hH : Equiv (setHeuristics D) D) :
    Equiv (setHideParseErrors (setFnArgsLayout (setMergeImports
      (setHeuristics (upd D k (storeFn true false v)))))) (ov k v D) := by
  have wsX : ∀ k', k' ≠ k → wasSet (upd D k (storeFn true false v)) k' = false := by
    intro k' hk'; simp [wasSet, getE_upd, hk']; exact hD k'
  -- every method keeps `was_set`, and in the stored configuration only `k` is set: an alias
  -- setter whose alias is not `k` is the identity wherever it stands in the chain
  have skip : ∀ (old new : String) (f : Val → Val) (Y : Config), old ≠ k →
      (∀ k', wasSet Y k' = wasSet (upd D k (storeFn true false v)) k') → setAlias old new f Y = Y :=
    fun old new f Y hne hY => setAlias_of_not_set _ _ _ _ (by rw [hY]; exact wsX old hne)
  have kH := wasSet_setHeuristics (upd D k (storeFn true false v))
  unfold ov store
  by_cases a1 : k ∈ heurKeys
  · rw [dispatch_heur k a1, setMergeImports_eq,
      skip _ _ _ _ (fun e => absurd (e ▸ a1) (by decide +kernel)) kH, setFnArgsLayout_eq,
      skip _ _ _ _ (fun e => absurd (e ▸ a1) (by decide +kernel)) kH, setHideParseErrors_eq,
      skip _ _ _ _ (fun e => absurd (e ▸ a1) (by decide +kernel)) kH]
    exact Equiv.refl _
  · have hHX : Equiv (setHeuristics (upd D k (storeFn true false v))) (upd D k (storeFn true false v)) :=
      (Local.comm (local_upd k (storeFn true false v)) local_setHeuristics
        (fun x hx hx2 => a1 (List.mem_singleton.1 hx ▸ hx2)) D).trans (equiv_upd _ _ hH)
    by_cases a2 : k = "merge_imports"
    · subst a2
      have kM : ∀ k', wasSet (setMergeImports (setHeuristics
          (upd D "merge_imports" (storeFn true false v)))) k' = _ :=
        fun k' => by rw [setMergeImports_eq, wasSet_setAlias, kH]
      rw [dispatch_merge_imports, setFnArgsLayout_eq, skip _ _ _ _ (by decide +kernel) kM,
        setHideParseErrors_eq, skip _ _ _ _ (by decide +kernel) kM]
      exact local_setMergeImports.congr hHX
    by_cases a3 : k = "fn_args_layout"
    · subst a3
      have kF : ∀ k', wasSet (setFnArgsLayout (setHeuristics
          (upd D "fn_args_layout" (storeFn true false v)))) k' = _ :=
        fun k' => by rw [setFnArgsLayout_eq, wasSet_setAlias, kH]
      rw [dispatch_fn_args_layout, setMergeImports_eq, skip _ _ _ _ (by decide +kernel) kH,
        setHideParseErrors_eq, skip _ _ _ _ (by decide +kernel) kF]
      exact local_setFnArgsLayout.congr hHX
    by_cases a4 : k = "hide_parse_errors"
    · subst a4
      rw [dispatch_hide_parse_errors, setMergeImports_eq, skip _ _ _ _ (by decide +kernel) kH,
        setFnArgsLayout_eq, skip _ _ _ _ (by decide +kernel) kH]
      exact local_setHideParseErrors.congr hHX
    · rw [setMergeImports_eq, skip _ _ _ _ (Ne.symm a2) kH,
        setFnArgsLayout_eq, skip _ _ _ _ (Ne.symm a3) kH,
        setHideParseErrors_eq, skip _ _ _ _ (Ne.symm a4) kH]
      by_cases a5 : k = "version"
      · subst a5; rw [dispatch_version]; exact hHX
      · have : k ∉ allDispatchKeys := by
          simp only [allDispatchKeys, aliasKeys, List.mem_append, List.mem_cons, List.not_mem_nil,
            or_false, not_or]
          exact ⟨⟨a1, a2, a3, a4⟩, a5⟩
        rw [dispatch_other k this]; exact hHX

theorem mem_optionNames_of_checkVal (k : String) (v : Val) (h : checkVal k v = true) :
    k ∈ optionNames := by
  unfold checkVal tagOf cfgTypeOf at h
  cases hl : options.lookup k with
  | none => simp [hl] at h
  | some o =>
    have := mem_of_lookup options k o hl
    exact List.mem_map.2 ⟨(k, o), this, rfl⟩

/-- The store loop of `fill_from_parsed_config` for a file holding the single pair `k = v`. -/
theorem fillFold_single (env : Env) (D : Config) (k : String) (v : Val)
    (hv : checkVal k v = true) (hs : isStableOptionAndValue env k v = true) :
    Equiv (optionNames.foldl (fillStore env [(k, v)]) D) (upd D k (storeFn true false v)) := by
  intro k'
  rw [getE_fillFold, getE_upd]
  by_cases h : k' = k
  · subst h
    simp [mem_optionNames_of_checkVal k' v hv, fillEntry, hs]
  · have : (k' == k) = false := by simpa using h
    simp [h, fillEntry, List.lookup_cons, this]

theorem fill_single (env : Env) (se : StyleEdition) (k : String) (v : Val)
    (hv : checkVal k v = true) (hs : isStableOptionAndValue env k v = true) :
    Equiv (fillFromParsedConfig env (defaultWithStyleEdition se) [(k, v)])
      (ov k v (defaultWithStyleEdition se)) := by
  rw [fillFromParsedConfig_eq]
  have h1 := fillFold_single env (defaultWithStyleEdition se) k v hv hs
  exact (local_setHideParseErrors.congr (local_setFnArgsLayout.congr
    (local_setMergeImports.congr (local_setHeuristics.congr h1)))).trans
    (fill_chain _ k v (wasSet_default se) (setHeuristics_default se))

/-- The dedicated flags of `apply_to` when no flag is given on the command line. -/
def fl0 (c : Config) : Config :=
  setVal (setVal (setVal c "verbose" (.str "Normal")) "file_lines" (.str "all()"))
    "unstable_features" (.bool false)

def clobberKeys : List String := ["verbose", "file_lines", "unstable_features"]

theorem configSet_plain (c : Config) (k : String) (v : Val) (hv : checkVal k v = true)
    (hk : k ∉ allDispatchKeys) : configSet c k v = some (setVal c k v) := by
  simp only [configSet, hv, if_true, tables_agree.1, dispatch_other k hk]

theorem local_setVal (k : String) (v : Val) : Local [k] (fun c => setVal c k v) := local_upd k _

theorem local_fl0 : Local clobberKeys fl0 := by
  have h1 : Local clobberKeys (fun c => setVal c "verbose" (.str "Normal")) :=
    (local_setVal _ _).mono (by decide +kernel)
  have h2 : Local clobberKeys (fun c => setVal c "file_lines" (.str "all()")) :=
    (local_setVal _ _).mono (by decide +kernel)
  have h3 : Local clobberKeys (fun c => setVal c "unstable_features" (.bool false)) :=
    (local_setVal _ _).mono (by decide +kernel)
  exact Local.comp (F := fun c => setVal (setVal c "verbose" (.str "Normal")) "file_lines" (.str "all()"))
    (G := fun c => setVal c "unstable_features" (.bool false))
    (Local.comp (F := fun c => setVal c "verbose" (.str "Normal"))
      (G := fun c => setVal c "file_lines" (.str "all()")) h1 h2) h3

theorem block_disjoint_clobber (k : String) (hk : k ∉ clobberKeys) :
    ∀ x ∈ block k, x ∉ clobberKeys := by
  have d : ∀ x ∈ heurKeys ++ pairMI ++ pairFA ++ pairHP, x ∉ clobberKeys := by decide +kernel
  unfold block
  split
  · exact fun x hx => d x (by simp [hx])
  split
  · exact fun x hx => d x (by simp [hx])
  split
  · exact fun x hx => d x (by simp [hx])
  split
  · exact fun x hx => d x (by simp [hx])
  · intro x hx; rw [List.mem_singleton.1 hx]; exact hk

theorem flagCalls_default :
    flagCalls ({} : CliOptions α) =
      [(false, "verbose", .str "Normal"), (false, "file_lines", .str "all()"),
       (false, "unstable_features", .bool false)] := rfl

theorem applyFlagCalls_default (c : Config) :
    applyFlagCalls (flagCalls ({} : CliOptions α)) c = some (fl0 c) := by
  have hv := flagCalls_valid ({} : CliOptions α)
  rw [flagCalls_default] at hv ⊢
  simp only [List.mem_cons, List.not_mem_nil, or_false, forall_eq_or_imp, forall_eq] at hv
  simp only [applyFlagCalls, Bool.false_eq_true, if_false,
    configSet_plain _ _ _ hv.1 (by decide +kernel), configSet_plain _ _ _ hv.2.1 (by decide +kernel),
    configSet_plain _ _ _ hv.2.2 (by decide +kernel)]
  rfl

theorem applyTo_default (c : Config) : applyTo ({} : CliOptions α) c = some (fl0 c) := by
  unfold applyTo
  rw [applyFlagCalls_default]
  rfl

theorem applyTo_single (c : Config) (k : String) (v : Val) (hv : checkVal k v = true) :
    ∃ c', applyTo ({ inlineConfig := [(k, v)] } : CliOptions α) c = some c' ∧
      Equiv c' (ov k v (fl0 c)) := by
  have hf : flagCalls ({ inlineConfig := [(k, v)] } : CliOptions α) =
      flagCalls ({} : CliOptions α) := rfl
  unfold applyTo
  rw [hf, applyFlagCalls_default]
  simp only [orderInline_single, bindO, applyInline]
  cases h1 : overrideValue (fl0 c) k v with
  | none => simp [overrideValue, hv] at h1
  | some c1 => exact ⟨c1, rfl, (overrideValue_some h1).2⟩

/-- One option `k = v`, once through a config file and once through `--config`, no other flag:
the same effective configuration (for every option the same value, `was_set`, `was_set_cli`). -/
theorem same_value_core (env : Env) (se : StyleEdition) (k : String) (v : Val)
    (hv : checkVal k v = true) (hs : isStableOptionAndValue env k v = true)
    (hk : k ∉ clobberKeys) :
    ∃ c1 c2,
      applyTo ({} : CliOptions α) (fillFromParsedConfig env (defaultWithStyleEdition se) [(k, v)])
        = some c1 ∧
      applyTo ({ inlineConfig := [(k, v)] } : CliOptions α) (defaultWithStyleEdition se) = some c2 ∧
      Equiv c1 c2 := by
  obtain ⟨c2, h2, e2⟩ := applyTo_single (α := α) (defaultWithStyleEdition se) k v hv
  refine ⟨_, c2, applyTo_default _, h2, ?_⟩
  refine ((local_fl0.congr (fill_single env se k v hv hs)).trans ?_).trans e2.symm
  exact Local.comm (local_store _ _ k v) local_fl0 (block_disjoint_clobber k hk) _

end Flags

/-! ## `load_config` -/

section Load
variable {α : Type} [DecidableEq α]

theorem loadConfig_config_path (env : Env) (fs : FS α) (fp : Option (List α)) (o : CliOptions α)
    (f : ConfigFile α) (h : configPath fs.tree o = .ok (some f)) :
    loadConfig env fs fp (some o) =
      match fromTomlPath env fs f o.editionOv o.styleEditionOv o.versionOv with
      | .error e => .error e
      | .ok c =>
        match applyTo o c with
        | some c' => .ok (c', some f)
        | none => .error .panic := by
  simp only [loadConfig, loadPre, h, loadResult]
  -- `rfl` must not be left to compare the two `match`es on `applyTo o c`: it would unfold `applyTo`
  cases fromTomlPath env fs f o.editionOv o.styleEditionOv o.versionOv with
  | error e => rfl
  | ok c =>
    dsimp only
    cases applyTo o c <;> rfl

theorem loadConfig_no_config_path (env : Env) (fs : FS α) (dir : List α) (o : CliOptions α)
    (h : o.configPath = none) :
    loadConfig env fs (some dir) (some o) =
      match fromResolvedTomlPath env fs dir o.editionOv o.styleEditionOv o.versionOv with
      | .error e => .error e
      | .ok (c, p) =>
        match applyTo o c with
        | some c' => .ok (c', p)
        | none => .error .panic := by
  simp only [loadConfig, loadPre, configPath, h, loadResult]
  cases fromResolvedTomlPath env fs dir o.editionOv o.styleEditionOv o.versionOv with
  | error e => rfl
  | ok r =>
    dsimp only
    cases applyTo o r.1 <;> rfl

omit [DecidableEq α] in
theorem fromTomlPath_read (env : Env) (fs fs' : FS α) (hr : fs.read = fs'.read) (f : ConfigFile α)
    (ed : Option Edition) (se : Option StyleEdition) (ver : Option Version) :
    fromTomlPath env fs f ed se ver = fromTomlPath env fs' f ed se ver := by
  unfold fromTomlPath; rw [hr]

end Load

theorem inv_applyTo {α} (o : CliOptions α) (c c' : Config) (h : applyTo o c = some c')
    (hi : Inv c) : Inv c' := by
  obtain ⟨c1, h1, h⟩ := applyTo_split o c c' h
  obtain ⟨hv1, e1⟩ := applyFlagCalls_spec _ c c1 h1
  obtain ⟨hv, e⟩ := applyInline_spec _ c1 c' h
  exact (run_inv _ c1 hv ((run_inv _ c hv1 hi).congr e1)).congr e

theorem inv_fromTomlPath {α} (env : Env) (fs : FS α) (f : ConfigFile α) (ed se ver) (c : Config)
    (h : fromTomlPath env fs f ed se ver = .ok c) : Inv c := by
  unfold fromTomlPath at h
  cases hr : fs.read f with
  | none => simp [hr] at h
  | some parsed =>
    simp only [hr] at h
    cases ht : fromToml env parsed ed se ver with
    | none => simp [ht] at h
    | some c0 =>
      simp only [ht, Except.ok.injEq] at h
      exact h ▸ inv_fromToml env parsed ed se ver c0 ht

theorem inv_loadResult {α} [DecidableEq α] (env : Env) (fs : FS α) (fp : Option (List α))
    (ovr : Option (ConfigFile α)) (ed se ver) (c0 : Config) (p0 : Option (ConfigFile α))
    (h0 : loadResult env fs fp ovr ed se ver = .ok (c0, p0)) : Inv c0 := by
  unfold loadResult at h0
  cases ovr with
  | some f =>
    simp only at h0
    cases h1 : fromTomlPath env fs f ed se ver with
    | error e => simp [h1] at h0
    | ok c1 =>
      simp only [h1, Except.ok.injEq, Prod.mk.injEq] at h0
      exact h0.1 ▸ inv_fromTomlPath env fs f ed se ver c1 h1
  | none =>
    simp only at h0
    cases fp with
    | none =>
      simp only [Except.ok.injEq, Prod.mk.injEq] at h0
      rw [← h0.1, defaultForPossible_eq]; exact inv_default _
    | some d =>
      simp only [fromResolvedTomlPath] at h0
      cases h2 : resolveProjectFile fs d with
      | error e => simp [h2] at h0
      | ok r =>
        cases r with
        | none =>
          simp only [h2, Except.ok.injEq, Prod.mk.injEq] at h0
          rw [← h0.1, defaultForPossible_eq]; exact inv_default _
        | some f =>
          simp only [h2] at h0
          cases h1 : fromTomlPath env fs f ed se ver with
          | error e => simp [h1] at h0
          | ok c1 =>
            simp only [h1, Except.ok.injEq, Prod.mk.injEq] at h0
            exact h0.1 ▸ inv_fromTomlPath env fs f ed se ver c1 h1

/-- Every configuration `load_config` returns has its explicitly set widths clamped. -/
theorem inv_loadConfig {α} [DecidableEq α] (env : Env) (fs : FS α) (fp : Option (List α))
    (opts : Option (CliOptions α)) (c : Config) (p : Option (ConfigFile α))
    (h : loadConfig env fs fp opts = .ok (c, p)) : Inv c := by
  unfold loadConfig at h
  cases hpre : loadPre fs opts with
  | error e => simp [hpre] at h
  | ok pre =>
    obtain ⟨ovr, ed, se, ver⟩ := pre
    simp only [hpre] at h
    cases hres : loadResult env fs fp ovr ed se ver with
    | error e => simp [hres] at h
    | ok cp =>
      obtain ⟨c0, p0⟩ := cp
      have hi0 := inv_loadResult env fs fp ovr ed se ver c0 p0 hres
      simp only [hres] at h
      cases opts with
      | none =>
        simp only [Except.ok.injEq, Prod.mk.injEq] at h
        exact h.1 ▸ hi0
      | some o =>
        simp only at h
        cases ha : applyTo o c0 with
        | none => simp [ha] at h
        | some c' =>
          simp only [ha, Except.ok.injEq, Prod.mk.injEq] at h
          exact h.1 ▸ inv_applyTo o c0 c' ha hi0

/-- A file system with one directory `/` holding `rustfmt.toml` with the given content. -/
def oneFile (content : List (String × Val)) : FS Unit :=
  ⟨[([], false, true)], none, none, (), fun _ => some content⟩

/-- A file system with one directory `/` and no config file anywhere. -/
def noFile : FS Unit := ⟨[([], false, false)], none, none, (), fun _ => none⟩

theorem load_oneFile (env : Env) (content : List (String × Val)) (o : CliOptions Unit)
    (ho : o.configPath = none) (hvp : validParsed content = true) :
    loadConfig env (oneFile content) (some []) (some o) =
      match applyTo o (toParsedConfig env content o.styleEditionOv o.editionOv o.versionOv) with
      | some c' => .ok (c', some ⟨[], false⟩)
      | none => .error .panic := by
  rw [loadConfig_no_config_path _ _ _ _ ho]
  have hr : resolveProjectFile (oneFile content) [] = .ok (some ⟨[], false⟩) := rfl
  have hread : (oneFile content).read ⟨[], false⟩ = some content := rfl
  simp only [fromResolvedTomlPath, hr, fromTomlPath, hread, fromToml, hvp, if_true]

theorem load_noFile (env : Env) (o : CliOptions Unit) (ho : o.configPath = none) :
    loadConfig env noFile (some []) (some o) =
      match applyTo o (defaultForPossibleStyleEdition o.styleEditionOv o.editionOv o.versionOv) with
      | some c' => .ok (c', none)
      | none => .error .panic := by
  rw [loadConfig_no_config_path _ _ _ _ ho]
  have hr : resolveProjectFile noFile [] = .ok none := rfl
  simp only [fromResolvedTomlPath, hr]

/-! ## Aliases in a file -/

/-- The entry of an option after the store loop of `fill_from_parsed_config` on the nightly
channel, from a fresh default. -/
theorem getE_fillFold_nightly (D : Config) (parsed : List (String × Val)) (k : String)
    (hk : k ∈ optionNames) :
    getE (optionNames.foldl (fillStore ⟨true⟩ parsed) D) k =
      match parsed.lookup k with
      | some v => storeFn true false v (getE D k)
      | none => getE D k := by
  rw [getE_fillFold]
  simp only [hk, if_true, fillEntry]
  cases parsed.lookup k with
  | none => rfl
  | some v => rfl

/-- What the setter of the alias `old`, run on the nightly channel after the store loop and
`set_heuristics`, leaves in the successor `new`. -/
theorem fill_alias (D : Config) (parsed : List (String × Val)) (hD : ∀ k, wasSet D k = false)
    (old new : String) (f : Val → Val) (vo : Val)
    (ho : old ∈ optionNames) (hn : new ∈ optionNames) (how : old ∉ widthKeys)
    (hnw : new ∉ widthKeys) (hlo : parsed.lookup old = some vo) :
    (getE (setAlias old new f
      (setHeuristics (optionNames.foldl (fillStore ⟨true⟩ parsed) D))) new).val =
      match parsed.lookup new with
      | some g => g
      | none => f vo := by
  rw [getE_setAlias]
  simp only [getE_setHeuristics_of_not_width _ _ how,
    getE_setHeuristics_of_not_width _ _ hnw, wasSet, getE_fillFold_nightly D parsed _ ho,
    getE_fillFold_nightly D parsed _ hn, hlo, true_and]
  cases parsed.lookup new with
  | none =>
    have : (getE D new).wasSet = false := hD new
    simp [storeFn, this]
  | some g => simp [storeFn]

/-- In the chain of the three alias setters each successor is written by its own setter only. -/
theorem alias_chain (Y : Config) :
    getE (setHideParseErrors (setFnArgsLayout (setMergeImports Y))) "imports_granularity" =
      getE (setAlias "merge_imports" "imports_granularity" mergeImportsMap Y)
        "imports_granularity" ∧
    getE (setHideParseErrors (setFnArgsLayout (setMergeImports Y))) "fn_params_layout" =
      getE (setAlias "fn_args_layout" "fn_params_layout" id Y) "fn_params_layout" ∧
    getE (setHideParseErrors (setFnArgsLayout (setMergeImports Y))) "show_parse_errors" =
      getE (setAlias "hide_parse_errors" "show_parse_errors" negBool Y) "show_parse_errors" := by
  refine ⟨?_, ?_, ?_⟩
  · rw [local_setHideParseErrors.1 _ _ (by decide +kernel),
      local_setFnArgsLayout.1 _ _ (by decide +kernel)]
    rfl
  · rw [local_setHideParseErrors.1 _ _ (by decide +kernel)]
    exact local_setFnArgsLayout.skip local_setMergeImports (by decide +kernel) Y _
      (by decide +kernel)
  · exact (local_setHideParseErrors.skip local_setFnArgsLayout (by decide +kernel) _ _
      (by decide +kernel)).trans
      (local_setHideParseErrors.skip local_setMergeImports (by decide +kernel) Y _
        (by decide +kernel))

theorem alias_file (parsed : List (String × Val)) (se : StyleEdition) :
    let c := fillFromParsedConfig ⟨true⟩ (defaultWithStyleEdition se) parsed
    (∀ b, parsed.lookup "merge_imports" = some (.bool b) →
      (getE c "imports_granularity").val =
        match parsed.lookup "imports_granularity" with
        | some g => g
        | none => .str (if b then "Crate" else "Preserve")) ∧
    (∀ v, parsed.lookup "fn_args_layout" = some v →
      (getE c "fn_params_layout").val =
        match parsed.lookup "fn_params_layout" with
        | some g => g
        | none => v) ∧
    (∀ v, parsed.lookup "hide_parse_errors" = some v →
      (getE c "show_parse_errors").val =
        match parsed.lookup "show_parse_errors" with
        | some g => g
        | none => negBool v) := by
  have m : "merge_imports" ∈ optionNames ∧ "imports_granularity" ∈ optionNames ∧
      "fn_args_layout" ∈ optionNames ∧ "fn_params_layout" ∈ optionNames ∧
      "hide_parse_errors" ∈ optionNames ∧ "show_parse_errors" ∈ optionNames := by decide +kernel
  have n : "merge_imports" ∉ widthKeys ∧ "imports_granularity" ∉ widthKeys ∧
      "fn_args_layout" ∉ widthKeys ∧ "fn_params_layout" ∉ widthKeys ∧
      "hide_parse_errors" ∉ widthKeys ∧ "show_parse_errors" ∉ widthKeys := by decide +kernel
  simp only [fillFromParsedConfig_eq]
  obtain ⟨h1, h2, h3⟩ := alias_chain
    (setHeuristics (optionNames.foldl (fillStore ⟨true⟩ parsed) (defaultWithStyleEdition se)))
  refine ⟨fun b hb => ?_, fun v hv => ?_, fun v hv => ?_⟩
  · rw [h1, fill_alias _ parsed (wasSet_default se) _ _ _ _ m.1 m.2.1 n.1 n.2.1 hb]
    cases parsed.lookup "imports_granularity" <;> cases b <;> rfl
  · rw [h2, fill_alias _ parsed (wasSet_default se) _ _ _ _ m.2.2.1 m.2.2.2.1 n.2.2.1 n.2.2.2.1 hv]
    rfl
  · rw [h3, fill_alias _ parsed (wasSet_default se) _ _ _ _ m.2.2.2.2.1 m.2.2.2.2.2 n.2.2.2.2.1
      n.2.2.2.2.2 hv]

/-! ## The API setter against `override_value` -/

theorem heurEntry_congr (m m' u u' e : Entry) (k : String) (hm : m.val = m'.val)
    (hu : u.val = u'.val) : heurEntry m u e k = heurEntry m' u' e k := by
  unfold heurEntry heurOf
  rw [hm, hu]

/-! ## Printing and loading the printed text -/

theorem lookup_some_of_mem_keys (c : Config) (k : String) (h : k ∈ c.map (·.1)) :
    c.lookup k = some (getE c k) := by
  induction c with
  | nil => cases h
  | cons a r ih =>
    obtain ⟨k0, e⟩ := a
    rw [getE_cons]
    simp only [List.lookup_cons]
    by_cases hk : k = k0
    · subst hk; simp
    · have hb : (k == k0) = false := by simpa using hk
      simp only [hb, hk, if_false]
      simp only [List.map_cons, List.mem_cons, hk, false_or] at h
      exact ih h

/-- What `to_toml` prints for an option: its value, unless it is on the hidden list. -/
theorem lookup_printed (c : Config) (hkeys : c.map (·.1) = optionNames) (k : String)
    (hk : k ∈ optionNames) :
    ((allOptions c).filter fun kv => !tomlHidden.contains kv.1).lookup k =
      if tomlHidden.contains k then none else some (getE c k).val := by
  rw [lookup_filter_key (allOptions c) (fun k => !tomlHidden.contains k) k]
  unfold allOptions
  rw [lookup_map_snd c (fun o => o.2.val) k, lookup_some_of_mem_keys c k (hkeys ▸ hk)]
  cases tomlHidden.contains k <;> rfl

theorem optionNames_nodup : optionNames.Nodup := by decide +kernel

/-- The tag of a listed option, read off its own table row: the names are distinct, so `tagOf` need not search for it. -/
theorem tagOf_of_mem (o : String × String × Bool) (ho : o ∈ options) :
    tagOf o.1 = ((defaults.lookup o.2.1).map (·.1)).map tagOfCfgType := by
  have hl : options.lookup o.1 = some o.2 := lookup_of_mem_nodup options o.1 o.2 ho optionNames_nodup
  simp only [tagOf, cfgTypeOf, hl]
  cases defaults.lookup o.2.1 <;> rfl

theorem printed_keys (c : Config) :
    ((allOptions c).filter fun kv => !tomlHidden.contains kv.1).map (·.1) =
      (c.map (·.1)).filter fun k => !tomlHidden.contains k := by
  simp only [allOptions, List.filter_map, List.map_map]
  rfl

/-- The pairs `to_toml` prints: the visible options, each once, with its value. -/
theorem mem_printed (c : Config) (hkeys : c.map (·.1) = optionNames) (k : String) (v : Val) :
    (k, v) ∈ (allOptions c).filter (fun kv => !tomlHidden.contains kv.1) ↔
      k ∈ optionNames ∧ tomlHidden.contains k = false ∧ (getE c k).val = v := by
  constructor
  · intro h
    have hm : k ∈ optionNames.filter fun k => !tomlHidden.contains k := by
      rw [← hkeys, ← printed_keys]
      exact List.mem_map.2 ⟨_, h, rfl⟩
    have hk := (List.mem_filter.1 hm).1
    have hh : tomlHidden.contains k = false := by simpa using (List.mem_filter.1 hm).2
    -- the printed list has distinct keys, so the member `(k, v)` is what `lookup` finds
    have hl := lookup_of_mem_nodup _ k v h
      (by rw [printed_keys, hkeys]; exact List.filter_sublist.nodup optionNames_nodup)
    rw [lookup_printed c hkeys k hk, hh] at hl
    exact ⟨hk, hh, Option.some.inj hl⟩
  · rintro ⟨hk, hh, rfl⟩
    exact mem_of_lookup _ k _ (by rw [lookup_printed c hkeys k hk, hh]; rfl)

theorem toToml_some (c : Config) (l : List (String × Val)) (h : toToml c = some l) :
    l = (allOptions c).filter fun kv => !tomlHidden.contains kv.1 := by
  unfold toToml at h
  simp only at h
  split at h
  · cases h; rfl
  · cases h

theorem valueDiff_eq_nil (a b : Config)
    (h : ∀ k ∈ optionNames, tomlHidden.contains k = false → (getE b k).val = (getE a k).val) :
    valueDiff a b = [] := by
  unfold valueDiff
  rw [List.filter_eq_nil_iff]
  intro k hk
  cases hh : tomlHidden.contains k with
  | true => simp
  | false => simp [h k hk hh]

theorem isStable_nightly (k : String) (v : Val) : isStableOptionAndValue ⟨true⟩ k v = true := by
  unfold isStableOptionAndValue
  cases stableOf k <;> cases variantStable k v <;> rfl

theorem nat_of_checkVal_width (w : String) (v : Val) (hw : w ∈ widthKeys)
    (h : checkVal w v = true) : ∃ n, v = .nat n := by
  have : ∀ w ∈ widthKeys, tagOf w = some .nat := by decide +kernel
  unfold checkVal at h
  rw [this w hw] at h
  cases v with
  | nat n => exact ⟨n, rfl⟩
  | bool b => simp at h
  | str s => simp at h

/-- Print, then load: every printed option comes back with its value, provided every width is at most
`max_width` (no F8b) and the printed values are well-typed. -/
theorem roundTrip_values (c : Config) (l : List (String × Val))
    (hkeys : c.map (·.1) = optionNames) (hprint : toToml c = some l)
    (htyped : validParsed l = true)
    (hwidth : ∀ w ∈ widthKeys, natOf c w ≤ natOf c "max_width") :
    ∃ c2, roundTrip ⟨true⟩ c = some c2 ∧
      ∀ k ∈ optionNames, tomlHidden.contains k = false → (getE c2 k).val = (getE c k).val := by
  have hl := toToml_some c l hprint
  have hlook : ∀ k ∈ optionNames, l.lookup k =
      if tomlHidden.contains k then none else some (getE c k).val := by
    intro k hk; rw [hl]; exact lookup_printed c hkeys k hk
  refine ⟨toParsedConfig ⟨true⟩ l none none none, by simp [roundTrip, hprint, fromToml, htyped], ?_⟩
  intro k hk hnh
  unfold toParsedConfig
  rw [defaultForPossible_eq]
  generalize chosenStyleEdition _ _ _ = se
  rw [fillFromParsedConfig_eq]
  -- the hidden aliases are not in the text, so the alias setters do nothing
  have hws : ∀ a, a ∈ optionNames → tomlHidden.contains a = true →
      wasSet (setHeuristics (optionNames.foldl (fillStore ⟨true⟩ l) (defaultWithStyleEdition se))) a
        = false := by
    intro a ha hh
    rw [wasSet_setHeuristics]
    unfold wasSet
    rw [getE_fillFold_nightly _ l a ha, hlook a ha, hh]
    simp only [if_true]
    exact wasSet_default se a
  have m1 : "merge_imports" ∈ optionNames ∧ "fn_args_layout" ∈ optionNames ∧
      "hide_parse_errors" ∈ optionNames := by decide +kernel
  have h1 : tomlHidden.contains "merge_imports" = true ∧ tomlHidden.contains "fn_args_layout" = true ∧
      tomlHidden.contains "hide_parse_errors" = true := by decide +kernel
  rw [setMergeImports_eq, setAlias_of_not_set _ _ _ _ (hws _ m1.1 h1.1),
    setFnArgsLayout_eq, setAlias_of_not_set _ _ _ _ (hws _ m1.2.1 h1.2.1),
    setHideParseErrors_eq, setAlias_of_not_set _ _ _ _ (hws _ m1.2.2 h1.2.2)]
  -- the store loop puts the printed value back, `set_heuristics` keeps it
  have hfill : ∀ k' ∈ optionNames, tomlHidden.contains k' = false →
      getE (optionNames.foldl (fillStore ⟨true⟩ l) (defaultWithStyleEdition se)) k' =
        storeFn true false (getE c k').val (getE (defaultWithStyleEdition se) k') := by
    intro k' hk' hh
    rw [getE_fillFold_nightly _ l k' hk', hlook k' hk', hh]
    simp
  rw [getE_setHeuristics]
  by_cases hw : k ∈ widthKeys
  · -- a width: it was set, so it is clamped against max_width, which it does not exceed
    have hmwm : "max_width" ∈ optionNames ∧ tomlHidden.contains "max_width" = false := by
      decide +kernel
    obtain ⟨n, hn⟩ := nat_of_checkVal_width k (getE c k).val hw
      (checkVal_of_validParsed l htyped k _ (by rw [hlook k hk, hnh]; simp) hk)
    have hle : n ≤ (getE c "max_width").val.toNat := by
      have h0 := hwidth k hw
      rwa [natOf, hn] at h0
    rw [hfill k hk hnh, hfill "max_width" hmwm.1 hmwm.2]
    unfold heurEntry
    cases heurOf _ _ with
    | none => simp [storeFn]
    | some h =>
      obtain ⟨hv, hlk⟩ := lookup_toList_some h k hw
      simp only [hlk, widthEntry, storeFn, Bool.or_true, hn]
      exact congrArg Val.nat (getWidthValue_of_le _ _ _ hle)
  · rw [heurEntry_of_not_width _ _ _ _ hw, hfill k hk hnh]
    simp [storeFn]

/-- What `checkVal` still asks of a value that has its declared tag: the `usize` bound and the
spelling of the four enums. -/
def valuesOk (c : Config) : Bool :=
  c.all fun p => match p.2.val with
    | .nat n => decide (n ≤ usizeMax)
    | .str s => enumOk p.1 s
    | .bool _ => true

/-- Names and tags of a configuration, the part of it that `WF` speaks of. -/
abbrev tags (c : Config) : List (String × Tag) := c.map fun p => (p.1, p.2.val.tag)

/-- For a test vector `c`, well-formedness is read off a configuration known to be well-formed
(a default) by comparing tags, which does not search the option table. -/
theorem wf_of_tags_eq (c d : Config) (hd : WF d) (h : tags c = tags d) : WF c := by
  have := congrArg (List.map fun q : String × Tag => (q.1, some q.2)) h
  rw [List.map_map, List.map_map] at this
  exact this.trans hd

/-- The printed text of a well-formed configuration is accepted by the loader: every printed value
has the tag that `tagOf` declares for its name. -/
theorem validParsed_printed (c : Config) (l : List (String × Val)) (hwf : WF c)
    (hv : valuesOk c = true) (hl : toToml c = some l) : validParsed l = true := by
  rw [toToml_some c l hl, validParsed, List.all_eq_true]
  intro kv hkv
  obtain ⟨p, hp, rfl⟩ := List.mem_map.1 (List.mem_filter.1 hkv).1
  have ht : tagOf p.1 = some p.2.val.tag := by
    have : (p.1, some p.2.val.tag) ∈ schema := hwf ▸ List.mem_map.2 ⟨p, hp, rfl⟩
    obtain ⟨k, -, hk⟩ := List.mem_map.1 this
    rw [← (Prod.mk.inj hk).2, (Prod.mk.inj hk).1]
  have := List.all_eq_true.1 hv p hp
  rw [Bool.or_eq_true]; right
  unfold checkVal
  rw [ht]
  cases hval : p.2.val <;> simp_all [Val.tag]

/-- `roundTrip_values` for a test vector with the tags of a well-formed `d`: from the hypotheses in
the Boolean form in which a concrete configuration is evaluated (one evaluation, so that the
kernel computes the values of `c` once), the round trip changes no printed value. -/
theorem roundTrip_vector (c d : Config) (hd : WF d)
    (h : (decide (tags c = tags d) && valuesOk c && (toToml c).isSome &&
      widthKeys.all fun w => natOf c w ≤ natOf c "max_width") = true) :
    (c.map (·.1) == optionNames, (toToml c).map validParsed,
      widthKeys.all (fun w => natOf c w ≤ natOf c "max_width"),
      (roundTrip ⟨true⟩ c).map (valueDiff c)) = (true, some true, true, some []) := by
  simp only [Bool.and_eq_true, decide_eq_true_eq] at h
  obtain ⟨⟨⟨ht, hv⟩, hs⟩, h4⟩ := h
  have hwf := wf_of_tags_eq c d hd ht
  have h1 : c.map (·.1) = optionNames := by
    have := congrArg (List.map (·.1)) hwf
    simpa only [schema, List.map_map, Function.comp_def, List.map_id'] using this
  obtain ⟨l, hl⟩ := Option.isSome_iff_exists.1 hs
  have h3 := validParsed_printed c l hwf hv hl
  obtain ⟨c2, hr, hval⟩ := roundTrip_values c l h1 hl h3
    fun w hw => of_decide_eq_true (List.all_eq_true.1 h4 w hw)
  rw [h1, hl, h4, hr, Option.map_some, Option.map_some, h3, valueDiff_eq_nil c c2 hval,
    beq_self_eq_true]

end RF.Lemmas.Config

import RF.Model.Diff
/-!
Proofs for C12 (`RF/Props/C12.lean`) about the model `RF/Model/Diff.lean`.

`make_diff`: the loop `go` keeps the invariant `Inv` (the consumed parts of both texts end with the
current mismatch and the queued common lines); consistency and order of the hunks are read off it by
functional induction on `go`.  The dummy initial mismatch is dealt with once, by `go_emits_cur`: the
report does not depend on it, so the loop lemmas are applied with a stand-in that satisfies the
invariant.  Then `ModifiedLines` print/parse, the json and checkstyle numbering in closed form, and
`XmlEscaped` through one case principle.
-/
namespace RF.Diff

/-- Hunk `m` is consistent with both texts at the line numbers it states. -/
def Consistent {α} (m : Mismatch α) (orig new : List α) : Prop :=
  (∃ A T, orig = A ++ origSide m.lines ++ T ∧ A.length + 1 = m.lineNumberOrig) ∧
  (∃ A T, new = A ++ newSide m.lines ++ T ∧ A.length + 1 = m.lineNumber)

end RF.Diff

namespace RF.Lemmas.Diff
open RF.Diff

/-- Each half of `Consistent`, in the form the oracle `consistentB` computes. -/
theorem occurs_at_iff {α} (l S : List α) (n : Nat) :
    (∃ A T, l = A ++ S ++ T ∧ A.length + 1 = n) ↔
      1 ≤ n ∧ n - 1 + S.length ≤ l.length ∧ (l.drop (n - 1)).take S.length = S := by
  constructor
  · rintro ⟨A, T, rfl, rfl⟩
    refine ⟨by omega, by simp only [List.length_append]; omega, ?_⟩
    simp [List.append_assoc]
  · rintro ⟨h1, h2, h3⟩
    refine ⟨l.take (n - 1), l.drop (n - 1 + S.length), ?_, ?_⟩
    · conv => lhs; rw [← List.take_append_drop (n - 1) l]
      rw [List.append_assoc]
      congr 1
      conv => lhs; rw [← List.take_append_drop S.length (l.drop (n - 1))]
      rw [h3, List.drop_drop]
    · rw [List.length_take]; omega

section sides
variable {α : Type}

@[simp] theorem numRemoved_append (a b : List (DiffLine α)) :
    numRemoved (a ++ b) = numRemoved a + numRemoved b := by
  induction a with
  | nil => simp [numRemoved]
  | cons x a ih => cases x <;> simp [numRemoved, ih] <;> omega

@[simp] theorem newLines_append (a b : List (DiffLine α)) :
    newLines (a ++ b) = newLines a ++ newLines b := by
  induction a with
  | nil => simp [newLines]
  | cons x a ih => cases x <;> simp [newLines, ih]

@[simp] theorem oldLines_append (a b : List (DiffLine α)) :
    oldLines (a ++ b) = oldLines a ++ oldLines b := by
  induction a with
  | nil => simp [oldLines]
  | cons x a ih => cases x <;> simp [oldLines, ih]

@[simp] theorem origSide_append (a b : List (DiffLine α)) :
    origSide (a ++ b) = origSide a ++ origSide b := by
  induction a with
  | nil => simp [origSide]
  | cons x a ih => cases x <;> simp [origSide, ih]

@[simp] theorem newSide_append (a b : List (DiffLine α)) :
    newSide (a ++ b) = newSide a ++ newSide b := by
  induction a with
  | nil => simp [newSide]
  | cons x a ih => cases x <;> simp [newSide, ih]

@[simp] theorem origSide_context (q : List α) : origSide (q.map DiffLine.context) = q := by
  induction q with
  | nil => rfl
  | cons x q ih => simp [origSide, ih]

@[simp] theorem newSide_context (q : List α) : newSide (q.map DiffLine.context) = q := by
  induction q with
  | nil => rfl
  | cons x q ih => simp [newSide, ih]

@[simp] theorem numRemoved_context (q : List α) : numRemoved (q.map DiffLine.context) = 0 := by
  induction q with
  | nil => rfl
  | cons x q ih => simp [numRemoved, ih]

@[simp] theorem newLines_context (q : List α) : newLines (q.map DiffLine.context) = [] := by
  induction q with
  | nil => rfl
  | cons x q ih => simp [newLines, ih]

@[simp] theorem oldLines_context (q : List α) : oldLines (q.map DiffLine.context) = [] := by
  induction q with
  | nil => rfl
  | cons x q ih => simp [oldLines, ih]

theorem oldLines_length (l : List (DiffLine α)) : (oldLines l).length = numRemoved l := by
  induction l with
  | nil => rfl
  | cons x l ih => cases x <;> simp [oldLines, numRemoved, ih]

end sides

theorem go_head {α} (ctx : Nat) (ds : List (Edit α)) ln lno q since (cur : Mismatch α) :
    ∃ m ms, go ctx ln lno q since cur ds = m :: ms ∧
      m.lineNumberOrig = cur.lineNumberOrig ∧ m.lineNumber = cur.lineNumber := by
  fun_induction go ctx ln lno q since cur ds
  case case1 | case2 | case4 => exact ⟨_, _, rfl, rfl, rfl⟩
  all_goals assumption

/-- Once `ctx` common lines have gone by since the last change, the current mismatch is complete:
it comes out unchanged, ahead of a list that does not depend on it.  This is the situation of the
dummy initial mismatch of `make_diff`. -/
theorem go_emits_cur {α} (ctx : Nat) (ds : List (Edit α)) :
    ∀ ln lno q since, since ≥ ctx → since > 0 →
      ∃ t, ∀ cur : Mismatch α, go ctx ln lno q since cur ds = cur :: t := by
  induction ds with
  | nil => intro _ _ _ _ _ _; exact ⟨[], fun _ => rfl⟩
  | cons d ds ih =>
    intro ln lno q since h1 h2
    cases d with
    | left s => exact ⟨_, fun cur => by rw [go, if_pos ⟨h1, h2⟩]⟩
    | right s => exact ⟨_, fun cur => by rw [go, if_pos ⟨h1, h2⟩]⟩
    | both s =>
      have hn : ¬ since < ctx := by omega
      by_cases h0 : ctx > 0
      · simp only [go, hn, h0, if_false, if_true]
        exact ih _ _ _ _ (by omega) (by omega)
      · simp only [go, hn, h0, if_false]
        exact ih _ _ _ _ (by omega) (by omega)

theorem go_eq_cons_makeDiff {α} (ds : List (Edit α)) (ctx : Nat) (cur : Mismatch α) :
    go ctx 1 1 [] (ctx + 1) cur ds = cur :: makeDiff ds ctx := by
  obtain ⟨t, ht⟩ := go_emits_cur ctx ds 1 1 [] (ctx + 1) (by omega) (by omega)
  rw [makeDiff, ht, ht, List.tail_cons]

theorem applyFrom_skip {α} (pos : Nat) (c : Chunk α) (cs : List (Chunk α)) (B X : List α)
    (h : pos + B.length ≤ c.lineNumberOrig) :
    applyFrom pos (c :: cs) (B ++ X) = B ++ applyFrom (pos + B.length) (c :: cs) X := by
  simp only [applyFrom]
  have e : c.lineNumberOrig - pos = B.length + (c.lineNumberOrig - (pos + B.length)) := by omega
  rw [e, List.take_length_add_append, Nat.add_assoc, List.drop_length_add_append]
  simp [List.append_assoc]

theorem applyFrom_emit {α} (cur m : Mismatch α) (ms : List (Mismatch α)) (B X Y : List α)
    (lno : Nat) (hm : m.lineNumberOrig = lno)
    (hl : cur.lineNumberOrig + numRemoved cur.lines + B.length = lno)
    (hrec : applyFrom lno (ofMismatches (m :: ms)) X = Y) :
    applyFrom cur.lineNumberOrig (ofMismatches (cur :: m :: ms)) (oldLines cur.lines ++ B ++ X) =
      newLines cur.lines ++ B ++ Y := by
  have hc : (toChunk m).lineNumberOrig = lno := hm
  simp only [ofMismatches, List.map_cons] at hrec ⊢
  rw [applyFrom]
  simp only [toChunk, Nat.sub_self, List.take_zero, List.nil_append, Nat.zero_add]
  rw [List.append_assoc (oldLines cur.lines), ← oldLines_length, List.drop_left, oldLines_length]
  have := applyFrom_skip (cur.lineNumberOrig + numRemoved cur.lines) (toChunk m)
    (ms.map toChunk) B X (by rw [hc]; omega)
  simp only [toChunk] at this hrec
  rw [this, hl, hrec, List.append_assoc]

/-- `applyFrom` over the hunks that `go 0` still has to emit, started inside `cur`; `B` are the common
lines seen since `cur` was last extended.  `q` stays a variable (with `hq`) because `fun_induction`
needs the arguments of `go` to be variables; at context 0 it is always `[]`. -/
theorem apply_go {α} (ds : List (Edit α)) ln lno q since (cur : Mismatch α) (B : List α)
    (hq : q = []) (hB : since = 0 → B = [])
    (hl : cur.lineNumberOrig + numRemoved cur.lines + B.length = lno) :
    applyFrom cur.lineNumberOrig (ofMismatches (go 0 ln lno q since cur ds))
      (oldLines cur.lines ++ B ++ lefts ds) = newLines cur.lines ++ B ++ rights ds := by
  fun_induction go 0 ln lno q since cur ds generalizing B with
  | case1 => simp [ofMismatches, toChunk, applyFrom, lefts, rights, ← oldLines_length]
  | case2 ln lno q since cur s ds _ ih | case4 ln lno q since cur s ds _ ih =>
    subst hq
    have ih' := ih [] rfl (fun _ => rfl) (by simp [numRemoved])
    simp only [List.length_nil, Nat.sub_zero, List.map_nil, List.nil_append] at ih' ⊢
    obtain ⟨m, ms, hgo, hm, _⟩ := go_head 0 ds _ _ [] 0 _
    rw [hgo] at ih' ⊢
    exact applyFrom_emit cur m ms B _ _ lno hm hl
      (by simpa [oldLines, newLines, lefts, rights] using ih')
  | case3 ln lno q since cur s ds hc ih | case5 ln lno q since cur s ds hc ih =>
    subst hq
    obtain rfl := hB (by omega)
    have ih' := ih [] rfl (fun _ => rfl) (by simp [numRemoved] at hl ⊢; omega)
    simpa [oldLines, newLines, lefts, rights] using ih'
  -- at context 0 the arms `since < ctx` and `ctx > 0` of `go` cannot be taken
  | case6 _ _ _ _ _ _ _ _ hc => omega
  | case7 _ _ _ _ _ _ _ _ _ h0 => omega
  | case8 ln lno q since cur s ds q1 _ _ ih =>
    have ih' := ih (B ++ [s]) (by subst hq; rfl) (by omega) (by simp; omega)
    simpa [lefts, rights] using ih'

theorem apply_modified_lines {α} (ds : List (Edit α)) :
    apply (ofMismatches (makeDiff ds 0)) (lefts ds) = rights ds := by
  -- run `make_diff` from an empty hunk at line 1 instead of the dummy: its chunk changes nothing
  have := apply_go ds 1 1 [] 1 ⟨1, 1, []⟩ [] rfl (fun _ => rfl) rfl
  rw [go_eq_cons_makeDiff ds 0] at this
  simpa [apply, ofMismatches, applyFrom, toChunk, oldLines, newLines, numRemoved] using this

theorem consistent_append {α} {m : Mismatch α} {L R : List α} (h : Consistent m L R)
    (X Y : List α) : Consistent m (L ++ X) (R ++ Y) := by
  obtain ⟨⟨A, T, rfl, hA⟩, ⟨A', T', rfl, hA'⟩⟩ := h
  exact ⟨⟨A, T ++ X, by simp, hA⟩, ⟨A', T' ++ Y, by simp, hA'⟩⟩

/-- Loop invariant of `make_diff` once a real mismatch is current.  `L0`/`R0` are the consumed
parts of the original / formatted text; `Z` the common lines after the last line of `cur`. -/
def Inv {α} (ctx ln lno : Nat) (q : List α) (since : Nat) (cur : Mismatch α) (L0 R0 : List α) :
    Prop :=
  lno = L0.length + 1 ∧ ln = R0.length + 1 ∧ q.length ≤ ctx ∧
  ∃ A A' Z, L0 = A ++ origSide cur.lines ++ Z ∧ R0 = A' ++ newSide cur.lines ++ Z ∧
    A.length + 1 = cur.lineNumberOrig ∧ A'.length + 1 = cur.lineNumber ∧
    q <:+ Z ∧ (since ≤ ctx → Z = [])

section inv
variable {α : Type} {ctx ln lno : Nat} {q : List α} {since : Nat} {cur : Mismatch α} {L0 R0 : List α}

theorem Inv.cur_consistent (h : Inv ctx ln lno q since cur L0 R0) : Consistent cur L0 R0 := by
  obtain ⟨_, _, _, A, A', Z, rfl, rfl, hA, hA', _, _⟩ := h
  exact ⟨⟨A, Z, rfl, hA⟩, ⟨A', Z, rfl, hA'⟩⟩

/-- While `since ≤ ctx` no common line is pending: the consumed texts end with `cur`. -/
theorem Inv.no_pending (h : Inv ctx ln lno q since cur L0 R0) (hs : since ≤ ctx) :
    q = [] ∧ ∃ A A', L0 = A ++ origSide cur.lines ∧ R0 = A' ++ newSide cur.lines ∧
      A.length + 1 = cur.lineNumberOrig ∧ A'.length + 1 = cur.lineNumber := by
  obtain ⟨_, _, _, A, A', Z, hL, hR, hA, hA', hq, hZ⟩ := h
  obtain rfl := hZ hs
  exact ⟨List.suffix_nil.1 hq, A, A', by simpa using hL, by simpa using hR, hA, hA'⟩

/-- `d` is the removed or added line that starts the new mismatch; `origSide [d]`, `newSide [d]` say
which text it belongs to, so that the two cases of `make_diff` are one statement. -/
theorem Inv.start (h : Inv ctx ln lno q since cur L0 R0) (d : DiffLine α) :
    Inv ctx (ln + (newSide [d]).length) (lno + (origSide [d]).length) [] 0
      ⟨ln - q.length, lno - q.length, q.map .context ++ [d]⟩
      (L0 ++ origSide [d]) (R0 ++ newSide [d]) := by
  obtain ⟨rfl, rfl, _, A, A', Z, rfl, rfl, _, _, ⟨P, rfl⟩, _⟩ := h
  refine ⟨by simp; omega, by simp; omega, by simp, A ++ origSide cur.lines ++ P,
    A' ++ newSide cur.lines ++ P, [], by simp, by simp, ?_, ?_, List.nil_suffix, fun _ => rfl⟩ <;>
  (simp only [List.length_append]; omega)

theorem Inv.extend (h : Inv ctx ln lno q since cur L0 R0) (hc : ¬(since ≥ ctx ∧ since > 0))
    (d : DiffLine α) :
    Inv ctx (ln + (newSide [d]).length) (lno + (origSide [d]).length) [] 0
      ⟨cur.lineNumber, cur.lineNumberOrig, cur.lines ++ q.map .context ++ [d]⟩
      (L0 ++ origSide [d]) (R0 ++ newSide [d]) := by
  obtain ⟨rfl, A, A', hL, hR, hA, hA'⟩ := h.no_pending (by omega)
  obtain ⟨rfl, rfl, _⟩ := h
  exact ⟨by simp; omega, by simp; omega, by simp, A, A', [], by simp [hL], by simp [hR],
    hA, hA', List.nil_suffix, fun _ => rfl⟩

theorem Inv.both_context (h : Inv ctx ln lno q since cur L0 R0) (hc : since < ctx) (s : α) :
    Inv ctx (ln + 1) (lno + 1) (if q.length ≥ ctx then q.tail else q) (since + 1)
      ⟨cur.lineNumber, cur.lineNumberOrig, cur.lines ++ [.context s]⟩ (L0 ++ [s]) (R0 ++ [s]) := by
  obtain ⟨rfl, A, A', hL, hR, hA, hA'⟩ := h.no_pending (by omega)
  obtain ⟨rfl, rfl, _⟩ := h
  exact ⟨by simp, by simp, by simp, A, A', [], by simp [hL, origSide],
    by simp [hR, newSide], hA, hA', by simp, fun _ => rfl⟩

theorem Inv.both_push (h : Inv ctx ln lno q since cur L0 R0) (hc : ¬ since < ctx) (h0 : ctx > 0)
    (s : α) :
    Inv ctx (ln + 1) (lno + 1) ((if q.length ≥ ctx then q.tail else q) ++ [s]) (since + 1) cur
      (L0 ++ [s]) (R0 ++ [s]) := by
  obtain ⟨rfl, rfl, h3, A, A', Z, hL, hR, hA, hA', hq, hZ⟩ := h
  refine ⟨by simp, by simp, ?_, A, A', Z ++ [s], by simp [hL], by simp [hR], hA, hA',
    ?_, fun h => by omega⟩
  · split <;> simp <;> omega
  · have hq1 : (if q.length ≥ ctx then q.tail else q) <:+ Z := by
      split
      · exact (List.tail_suffix q).trans hq
      · exact hq
    obtain ⟨t, ht⟩ := hq1
    exact ⟨t, by rw [← ht]; simp⟩

theorem Inv.both_drop (h : Inv ctx ln lno q since cur L0 R0) (hc : ¬ since < ctx) (h0 : ¬ ctx > 0)
    (s : α) :
    Inv ctx (ln + 1) (lno + 1) (if q.length ≥ ctx then q.tail else q) (since + 1) cur
      (L0 ++ [s]) (R0 ++ [s]) := by
  obtain ⟨rfl, rfl, h3, A, A', Z, hL, hR, hA, hA', hq, hZ⟩ := h
  have hq' : q = [] := List.length_eq_zero_iff.1 (by omega)
  subst hq'
  exact ⟨by simp, by simp, by simp, A, A', Z ++ [s], by simp [hL], by simp [hR], hA, hA',
    by simp, fun h => by omega⟩

theorem Inv.end_le (h : Inv ctx ln lno q since cur L0 R0) :
    cur.lineNumberOrig + (origSide cur.lines).length ≤ lno - q.length ∧
      cur.lineNumber + (newSide cur.lines).length ≤ ln - q.length := by
  obtain ⟨rfl, rfl, _, A, A', Z, rfl, rfl, hA, hA', ⟨P, rfl⟩, _⟩ := h
  simp only [List.length_append]
  omega

/-- An empty hunk at line 1 satisfies the invariant at the start, where the dummy initial mismatch
`⟨0, 0, []⟩` of `make_diff` does not. -/
theorem inv_init (α : Type) (ctx : Nat) : Inv (α := α) ctx 1 1 [] (ctx + 1) ⟨1, 1, []⟩ [] [] :=
  ⟨rfl, rfl, Nat.zero_le _, [], [], [], rfl, rfl, rfl, rfl, List.suffix_refl _, fun h => by omega⟩

end inv

/-- Hunk `a` ends before hunk `b` starts, in both texts. -/
def Before {α} (a b : Mismatch α) : Prop :=
  a.lineNumberOrig + (origSide a.lines).length ≤ b.lineNumberOrig ∧
  a.lineNumber + (newSide a.lines).length ≤ b.lineNumber

theorem pairwise_before_cons {α} {cur : Mismatch α} {a b : Nat} {l : List (Mismatch α)}
    (hb : cur.lineNumberOrig + (origSide cur.lines).length ≤ b)
    (ha : cur.lineNumber + (newSide cur.lines).length ≤ a)
    (h : l.Pairwise Before ∧ ∀ m ∈ l, b ≤ m.lineNumberOrig ∧ a ≤ m.lineNumber) :
    (cur :: l).Pairwise Before ∧
      ∀ m ∈ cur :: l, cur.lineNumberOrig ≤ m.lineNumberOrig ∧ cur.lineNumber ≤ m.lineNumber := by
  have hc : ∀ m ∈ l, Before cur m := fun m hm =>
    ⟨Nat.le_trans hb (h.2 m hm).1, Nat.le_trans ha (h.2 m hm).2⟩
  refine ⟨List.pairwise_cons.2 ⟨hc, h.1⟩, fun m hm => ?_⟩
  rcases List.mem_cons.1 hm with rfl | hm
  · exact ⟨Nat.le_refl _, Nat.le_refl _⟩
  · exact ⟨Nat.le_trans (Nat.le_add_right _ _) (hc m hm).1,
      Nat.le_trans (Nat.le_add_right _ _) (hc m hm).2⟩

/-- What the loop guarantees from a state satisfying `Inv`: every hunk matches both texts at its
line numbers, and the hunks come in order, none starting before `cur`. -/
theorem go_spec {α} (ctx : Nat) (ds : List (Edit α)) ln lno q since (cur : Mismatch α)
    (L0 R0 : List α) (hI : Inv ctx ln lno q since cur L0 R0) :
    (∀ m ∈ go ctx ln lno q since cur ds, Consistent m (L0 ++ lefts ds) (R0 ++ rights ds)) ∧
      (go ctx ln lno q since cur ds).Pairwise Before ∧
      ∀ m ∈ go ctx ln lno q since cur ds,
        cur.lineNumberOrig ≤ m.lineNumberOrig ∧ cur.lineNumber ≤ m.lineNumber := by
  fun_induction go ctx ln lno q since cur ds generalizing L0 R0
  case case1 => simpa using consistent_append hI.cur_consistent _ _
  -- a new hunk starts at `lno - q.length`, where `cur` and its queued context have ended
  case case2 s _ _ ih =>
    obtain ⟨ihc, iho⟩ := ih _ _ (hI.start (.resulting s))
    refine ⟨fun m hm => ?_, pairwise_before_cons hI.end_le.1 hI.end_le.2 iho⟩
    rcases List.mem_cons.1 hm with rfl | hm
    · exact consistent_append hI.cur_consistent _ _
    · simpa [lefts, rights, origSide, newSide] using ihc m hm
  case case4 s _ _ ih =>
    obtain ⟨ihc, iho⟩ := ih _ _ (hI.start (.expected s))
    refine ⟨fun m hm => ?_, pairwise_before_cons hI.end_le.1 hI.end_le.2 iho⟩
    rcases List.mem_cons.1 hm with rfl | hm
    · exact consistent_append hI.cur_consistent _ _
    · simpa [lefts, rights, origSide, newSide] using ihc m hm
  case case3 s _ hc ih =>
    simpa [lefts, rights, origSide, newSide] using ih _ _ (hI.extend hc (.resulting s))
  case case5 s _ hc ih =>
    simpa [lefts, rights, origSide, newSide] using ih _ _ (hI.extend hc (.expected s))
  case case6 s _ _ hc ih => simpa [lefts, rights] using ih _ _ (hI.both_context hc s)
  case case7 s _ _ hc h0 ih => simpa [lefts, rights] using ih _ _ (hI.both_push hc h0 s)
  case case8 s _ _ hc h0 ih => simpa [lefts, rights] using ih _ _ (hI.both_drop hc h0 s)

theorem hunks_consistent {α} (ds : List (Edit α)) (ctx : Nat) :
    ∀ m ∈ makeDiff ds ctx, Consistent m (lefts ds) (rights ds) := by
  intro m hm
  have := (go_spec ctx ds 1 1 [] (ctx + 1) _ [] [] (inv_init α ctx)).1 m
    (by rw [go_eq_cons_makeDiff]; exact List.mem_cons_of_mem _ hm)
  simpa using this

/-- The hunk removes or adds at least one line. -/
def NonEmpty {α} (m : Mismatch α) : Prop := numRemoved m.lines + (newLines m.lines).length > 0

theorem nonEmpty_resulting {α} (a b : Nat) (l : List (DiffLine α)) (s : α) :
    NonEmpty ⟨a, b, l ++ [.resulting s]⟩ := by
  simp only [NonEmpty, numRemoved_append, numRemoved]; omega

theorem nonEmpty_expected {α} (a b : Nat) (l : List (DiffLine α)) (s : α) :
    NonEmpty ⟨a, b, l ++ [.expected s]⟩ := by
  simp only [NonEmpty, newLines_append, newLines, List.length_append, List.length_singleton]; omega

theorem nonEmpty_go {α} (ctx : Nat) (ds : List (Edit α)) ln lno q since (cur : Mismatch α)
    (hc : NonEmpty cur) : ∀ m ∈ go ctx ln lno q since cur ds, NonEmpty m := by
  fun_induction go ctx ln lno q since cur ds
  case case1 => intro m hm; rw [List.mem_singleton.mp hm]; exact hc
  case case2 ih =>
    intro m hm
    rcases List.mem_cons.1 hm with rfl | hm
    · exact hc
    · exact ih (nonEmpty_resulting ..) m hm
  case case3 ih => exact ih (nonEmpty_resulting ..)
  case case4 ih =>
    intro m hm
    rcases List.mem_cons.1 hm with rfl | hm
    · exact hc
    · exact ih (nonEmpty_expected ..) m hm
  case case5 ih => exact ih (nonEmpty_expected ..)
  case case6 ih => exact ih (by simpa [NonEmpty, newLines, numRemoved] using hc)
  case case7 ih | case8 ih => exact ih hc

theorem makeDiff_nonEmpty {α} (ds : List (Edit α)) (ctx : Nat) :
    ∀ m ∈ makeDiff ds ctx, NonEmpty m := by
  intro m hm
  cases ds with
  | nil => simp [makeDiff, go] at hm
  | cons d ds =>
    -- any line of the script makes a non-empty stand-in for the dummy initial mismatch
    have s : α := match d with | .left s | .right s | .both s => s
    exact nonEmpty_go ctx _ 1 1 [] (ctx + 1) _ (nonEmpty_resulting 0 0 [] s) m
      (by rw [go_eq_cons_makeDiff]; exact List.mem_cons_of_mem _ hm)

theorem go_ne_nil {α} (ctx : Nat) (ds : List (Edit α)) ln lno q since (cur : Mismatch α) :
    go ctx ln lno q since cur ds ≠ [] := by
  obtain ⟨m, ms, h, _⟩ := go_head ctx ds ln lno q since cur
  simp [h]

theorem go_tail_nil_iff {α} (ctx : Nat) (ds : List (Edit α)) ln lno q since (cur : Mismatch α)
    (hs : since ≥ ctx ∧ since > 0) :
    (go ctx ln lno q since cur ds).tail = [] ↔ hasChange ds = false := by
  fun_induction go ctx ln lno q since cur ds
  case case1 => simp [hasChange]
  case case2 | case4 => simp [hasChange, go_ne_nil]
  case case3 h _ | case5 h _ => exact absurd hs h
  case case6 h _ => omega
  case case7 ih | case8 ih => exact ih (by omega)

theorem empty_iff_no_change {α} (ds : List (Edit α)) (ctx : Nat) :
    makeDiff ds ctx = [] ↔ hasChange ds = false :=
  go_tail_nil_iff ctx ds _ _ _ _ _ (by omega)

theorem no_change_same_lines {α} (ds : List (Edit α)) (h : hasChange ds = false) :
    lefts ds = rights ds := by
  induction ds with
  | nil => rfl
  | cons d ds ih =>
    cases d with
    | left s => simp [hasChange] at h
    | right s => simp [hasChange] at h
    | both s => simp only [hasChange] at h; simp [lefts, rights, ih h]

theorem hunks_ordered_disjoint {α} (ds : List (Edit α)) (ctx : Nat) :
    (makeDiff ds ctx).Pairwise
      (fun a b => a.lineNumberOrig + (origSide a.lines).length ≤ b.lineNumberOrig ∧
                  a.lineNumber + (newSide a.lines).length ≤ b.lineNumber) := by
  have := (go_spec ctx ds 1 1 [] (ctx + 1) _ [] [] (inv_init α ctx)).2.1
  rw [go_eq_cons_makeDiff] at this
  exact (List.pairwise_cons.1 this).2

theorem takeLines_print {α} (asText : Sum (Nat × Nat × Nat) α → α)
    (ht : ∀ s, asText (Sum.inr s) = s) (ls : List α) (rest : List (Sum (Nat × Nat × Nat) α)) :
    takeLines asText ls.length (ls.map Sum.inr ++ rest) = some (ls, rest) := by
  induction ls with
  | nil => simp [takeLines]
  | cons x ls ih => simp [takeLines, ih, ht]

theorem print_parse {α} (header : Sum (Nat × Nat × Nat) α → Option (Nat × Nat × Nat))
    (asText : Sum (Nat × Nat × Nat) α → α)
    (hh : ∀ h, header (Sum.inl h) = some h) (ht : ∀ s, asText (Sum.inr s) = s)
    (cs : List (Chunk α)) :
    parseChunks header asText (printChunks cs) = some cs := by
  induction cs with
  | nil => simp [printChunks, parseChunks]
  | cons c cs ih =>
    rw [printChunks, parseChunks]
    simp only [hh]
    split
    · next h => rw [takeLines_print asText ht] at h; simp at h
    · next ls rest' h =>
      rw [takeLines_print asText ht] at h
      simp only [Option.some.injEq, Prod.mk.injEq] at h
      obtain ⟨rfl, rfl⟩ := h
      simp [ih]

/-- `jsonLoop` in closed form: the end lines move only when a line of their kind is seen, and then
point at the last such line. -/
theorem jsonLoop_eq {α} (ob eb : Nat) (ls : List (DiffLine α)) :
    ∀ oe ee oc ec (o e : List α),
      jsonLoop ob eb oe ee oc ec o e ls =
        (if numRemoved ls = 0 then oe else ob + oc + numRemoved ls - 1,
         if (newLines ls).length = 0 then ee else eb + ec + (newLines ls).length - 1,
         o ++ oldLines ls, e ++ newLines ls) := by
  induction ls with
  | nil => intro oe ee oc ec o e; simp [jsonLoop, numRemoved, newLines, oldLines]
  | cons x ls ih =>
    intro oe ee oc ec o e
    cases x with
    | context s => exact ih oe ee oc ec o e
    | expected s =>
      rw [jsonLoop, ih]
      simp only [numRemoved, newLines, oldLines, List.length_cons, List.append_assoc,
        List.singleton_append, Nat.add_one_ne_zero, if_false]
      congr 2
      split <;> omega
    | resulting s =>
      rw [jsonLoop, ih]
      simp only [numRemoved, newLines, oldLines, List.append_assoc,
        List.singleton_append, Nat.add_one_ne_zero, if_false]
      congr 1
      split <;> omega

theorem json_lines_agree {α} (m : Mismatch α) :
    let b := jsonBlock m
    let c := toChunk m
    b.originalBeginLine = c.lineNumberOrig ∧ b.expected = c.lines ∧
    b.original = oldLines m.lines ∧ b.original.length = c.linesRemoved ∧ b.expectedBeginLine = m.lineNumber ∧
    (c.linesRemoved > 0 → b.originalEndLine + 1 = b.originalBeginLine + c.linesRemoved) ∧
    (c.lines.length > 0 → b.expectedEndLine + 1 = b.expectedBeginLine + c.lines.length) := by
  simp only [jsonBlock, jsonLoop_eq, toChunk, List.nil_append, Nat.add_zero, oldLines_length]
  refine ⟨trivial, trivial, trivial, trivial, trivial, fun h => ?_, fun h => ?_⟩
  · rw [if_neg (by omega)]; omega
  · rw [if_neg (by omega)]; omega

theorem checkstyleLoop_spec {α} (b : Nat) (ls : List (DiffLine α)) :
    ∀ c, checkstyleLoop b c ls =
      List.zipWith (fun i s => (b + i, s)) (List.range' c (newLines ls).length) (newLines ls) := by
  induction ls with
  | nil => intro c; simp [checkstyleLoop, newLines]
  | cons x ls ih =>
    intro c
    cases x <;> simp [checkstyleLoop, newLines, ih, List.range'_succ]

theorem checkstyle_lines_agree {α} (m : Mismatch α) :
    checkstyleLoop m.lineNumber 0 m.lines =
      (List.range (toChunk m).lines.length).zipWith (fun i s => (m.lineNumber + i, s))
        (toChunk m).lines := by
  rw [checkstyleLoop_spec, List.range_eq_range']; rfl

theorem xmlEscapeChar_eq (c : Char) :
    xmlEscapeChar c =
      if c = '<' then ['&', 'l', 't', ';']
      else if c = '>' then ['&', 'g', 't', ';']
      else if c = '"' then ['&', 'q', 'u', 'o', 't', ';']
      else if c = '\'' then ['&', 'a', 'p', 'o', 's', ';']
      else if c = '&' then ['&', 'a', 'm', 'p', ';']
      else [c] := by
  -- `String.toList_ofList` unifies against a string literal: one rewrite per entity
  rw [xmlEscapeChar, String.toList_ofList, String.toList_ofList, String.toList_ofList,
    String.toList_ofList, String.toList_ofList]

theorem xmlEscapeChar_cases {P : Char → List Char → Prop}
    (lt : P '<' ['&', 'l', 't', ';']) (gt : P '>' ['&', 'g', 't', ';'])
    (quot : P '"' ['&', 'q', 'u', 'o', 't', ';']) (apos : P '\'' ['&', 'a', 'p', 'o', 's', ';'])
    (amp : P '&' ['&', 'a', 'm', 'p', ';'])
    (plain : ∀ c, c ≠ '<' → c ≠ '>' → c ≠ '"' → c ≠ '\'' → c ≠ '&' → P c [c]) (c : Char) :
    P c (xmlEscapeChar c) := by
  rw [xmlEscapeChar_eq]
  by_cases h1 : c = '<'; · rw [if_pos h1, h1]; exact lt
  by_cases h2 : c = '>'; · rw [if_neg h1, if_pos h2, h2]; exact gt
  by_cases h3 : c = '"'; · rw [if_neg h1, if_neg h2, if_pos h3, h3]; exact quot
  by_cases h4 : c = '\''; · rw [if_neg h1, if_neg h2, if_neg h3, if_pos h4, h4]; exact apos
  by_cases h5 : c = '&'; · rw [if_neg h1, if_neg h2, if_neg h3, if_neg h4, if_pos h5, h5]; exact amp
  rw [if_neg h1, if_neg h2, if_neg h3, if_neg h4, if_neg h5]
  exact plain c h1 h2 h3 h4 h5

theorem xmlEscapeChar_safe (d : Char) :
    ∀ c ∈ xmlEscapeChar d, c ≠ '<' ∧ c ≠ '>' ∧ c ≠ '"' ∧ c ≠ '\'' := by
  refine xmlEscapeChar_cases (P := fun _ l => ∀ c ∈ l, c ≠ '<' ∧ c ≠ '>' ∧ c ≠ '"' ∧ c ≠ '\'')
    (by decide +kernel) (by decide +kernel) (by decide +kernel) (by decide +kernel)
    (by decide +kernel) (fun d h1 h2 h3 h4 _ c hc => ?_) d
  rw [List.mem_singleton.mp hc]
  exact ⟨h1, h2, h3, h4⟩

theorem xmlEscape_safe (s : List Char) :
    ∀ c ∈ xmlEscape s, c ≠ '<' ∧ c ≠ '>' ∧ c ≠ '"' ∧ c ≠ '\'' := by
  intro c hc
  obtain ⟨d, _, hd⟩ := List.mem_flatMap.mp hc
  exact xmlEscapeChar_safe d c hd

theorem xmlUnescape_plain (c : Char) (r : List Char) (h1 : c ≠ '&') (h2 : c ≠ '<') :
    xmlUnescape (c :: r) = (xmlUnescape r).map (c :: ·) := by
  rw [xmlUnescape] <;> intros <;> contradiction

theorem xmlUnescape_escapeChar (c : Char) (r : List Char) :
    xmlUnescape (xmlEscapeChar c ++ r) = (xmlUnescape r).map (c :: ·) := by
  refine xmlEscapeChar_cases (P := fun c l => xmlUnescape (l ++ r) = (xmlUnescape r).map (c :: ·))
    ?_ ?_ ?_ ?_ ?_ (fun c h1 _ _ _ h5 => xmlUnescape_plain c r h5 h1) c
  all_goals simp only [List.cons_append, List.nil_append]; rw [xmlUnescape]

theorem xmlUnescape_escape (s : List Char) : xmlUnescape (xmlEscape s) = some s := by
  induction s with
  | nil => simp [xmlEscape, xmlUnescape]
  | cons c s ih =>
    have : xmlEscape (c :: s) = xmlEscapeChar c ++ xmlEscape s := by simp [xmlEscape]
    rw [this, xmlUnescape_escapeChar, ih]; rfl

end RF.Lemmas.Diff

import RF.Model.ParseErrors
/-! The specifications C05 states its theorems about the tables of `RF.ParseErrors` with — `blockSpec` / `emitProgOk`
(the emitter's two blocks), `Poisoned`, `NeverAccepts`, `ExistingIsParseError`, `modProgOk`, collected in `Safe` —
and what follows from them for any tables that meet them: the emitter and `emit_diagnostic` in closed form, the
accept / reset / fail decision, and the lift `annotateRoot_faulty` into the project model. -/
namespace RF.Lemmas.ParseErrors
open RF.ParseErrors RF.Gen.ParseErrs RF.Project RF.Gen.ModArms

/-- What the two blocks of an emitter program are required to do, as a finite check: the block for a
diagnostic that cannot be ignored raises `has_non_ignorable_parser_errors`, clears `can_reset` and shows the
diagnostic once; the block for an ignored file leaves the private flag alone, shows nothing, and may raise
`can_reset` only if no non-ignorable diagnostic has been seen. -/
def blockSpec (p : EmitProg) (hn cr : Bool) : Bool :=
  let s : Sess := ⟨hn, cr, 0, 0, []⟩
  let h := runStmts p.handle s
  let i := runStmts p.ignored s
  h.hasNonIgn && !h.canReset && h.shown == 1 && h.errCount == 0 &&
  (i.hasNonIgn == hn) && (i.canReset == (if hn then cr else true)) && i.shown == 0 && i.errCount == 0

def emitProgOk (p : EmitProg) : Bool :=
  blockSpec p false false && blockSpec p false true && blockSpec p true false && blockSpec p true true

/-- the state a hard error leaves: the private flag up, `can_reset` down, a non-zero count -/
def Poisoned (s : Sess) : Prop := s.hasNonIgn = true ∧ s.canReset = false ∧ s.errCount ≠ 0

/-- what the lift needs of the parser tables: a file with a fault is never accepted, in whatever state the
session is; and a call on a path that exists ends in `Ok` or in `ParseError` -/
def NeverAccepts (pp : ParseProg) : Prop :=
  (∀ (s : Sess) (fp : FileParse), fp.fault = true → (parseFile pp s fp).2 ≠ some .ok) ∧
  (∀ (s : Sess) (fp : FileParse), fp.fault = true → (parseCrate pp s fp).2 ≠ some .ok)

def ExistingIsParseError (pp : ParseProg) : Prop :=
  ∀ (s : Sess) (fp : FileParse), fp.pathExists = true →
    (parseFile pp s fp).2 = some .ok ∨ (parseFile pp s fp).2 = some .parseError

/-- what the lift needs of the resolver tables (finite check): a `ParseError` on a candidate or on the default
file is an error of module resolution whatever else holds; an accepted file with `#![rustfmt::skip]` is left
out; an accepted file without is taken -/
def modProgOk (mp : ModProg) : Bool :=
  [true, false].all (fun sk =>
    toAltAct (selectM mp.alt (some .parseError) sk true) == .fail &&
    [true, false].all (fun oe => toDfltAct (selectM mp.dflt (some .parseError) sk oe) == .fail)) &&
  toAltAct (selectM mp.alt (some .ok) true true) == .skip &&
  toAltAct (selectM mp.alt (some .ok) false true) == .use &&
  [true, false].all (fun oe =>
    toDfltAct (selectM mp.dflt (some .ok) true oe) == .none &&
    toDfltAct (selectM mp.dflt (some .ok) false oe) == .file)

structure Safe (pp : ParseProg) (mp : ModProg) : Prop where
  never : NeverAccepts pp
  existing : ExistingIsParseError pp
  mods : modProgOk mp = true

/-- A block reads the two flags only: run from any state it does to the flags what it does from zero counters
and an empty stash, adds to the counters what it counts there, and leaves the stash alone. -/
theorem runStmts_frame (l : List Stmt) : ∀ s : Sess,
    runStmts l s =
      let z := runStmts l ⟨s.hasNonIgn, s.canReset, 0, 0, []⟩
      ⟨z.hasNonIgn, z.canReset, s.errCount + z.errCount, s.shown + z.shown, s.stash⟩ := by
  induction l with
  | nil => intro s; rfl
  | cons st r ih =>
    intro s
    rw [runStmts, runStmts, ih (runStmt st s), ih (runStmt st _)]
    cases st with
    | setHasNonIgn v => simp only [runStmt, Nat.zero_add]
    | storeCanReset v => simp only [runStmt, Nat.zero_add]
    | storeCanResetUnlessHasNonIgn v => cases hh : s.hasNonIgn <;> simp [runStmt, hh]
    | forward => simp only [runStmt, Nat.zero_add, Nat.add_assoc]

theorem sess_eq {a b : Sess} (h1 : a.hasNonIgn = b.hasNonIgn) (h2 : a.canReset = b.canReset)
    (h3 : a.errCount = b.errCount) (h4 : a.shown = b.shown) (h5 : a.stash = b.stash) : a = b := by
  cases a; cases b; simp_all

theorem blockSpec_of_ok {p : EmitProg} (hp : emitProgOk p = true) (hn cr : Bool) : blockSpec p hn cr = true := by
  simp only [emitProgOk, Bool.and_eq_true] at hp
  obtain ⟨⟨⟨h1, h2⟩, h3⟩, h4⟩ := hp
  cases hn <;> cases cr <;> assumption

theorem blocks_of_ok (p : EmitProg) (hp : emitProgOk p = true) (s : Sess) :
    runStmts p.handle s = { s with hasNonIgn := true, canReset := false, shown := s.shown + 1 } ∧
    runStmts p.ignored s = { s with canReset := if s.hasNonIgn then s.canReset else true } := by
  have hb := blockSpec_of_ok hp s.hasNonIgn s.canReset
  simp only [blockSpec, Bool.and_eq_true, beq_iff_eq, Bool.not_eq_true'] at hb
  obtain ⟨⟨⟨⟨⟨⟨⟨a1, a2⟩, a3⟩, a4⟩, b1⟩, b2⟩, b3⟩, b4⟩ := hb
  rw [runStmts_frame p.handle, runStmts_frame p.ignored]
  simp only [a1, a2, a3, a4, b1, b2, b3, b4]
  exact ⟨rfl, rfl⟩

theorem emitterStep_of_ok (p : EmitProg) (hp : emitProgOk p = true) (s : Sess) (d : Diag) :
    emitterStep p s d =
      if d.ignorable then { s with canReset := if s.hasNonIgn then s.canReset else true }
      else { s with hasNonIgn := true, canReset := false, shown := s.shown + 1 } := by
  obtain ⟨h1, h2⟩ := blocks_of_ok p hp s
  unfold emitterStep Diag.ignorable bne
  rw [h1, h2]
  cases d.level == .fatal <;> cases d.loc == .localFile true <;> rfl

/-- `DiagCtxtInner::emit_diagnostic` for a program that passes the check -/
theorem dcxEmitNow_of_ok (p : EmitProg) (hp : emitProgOk p = true) (s : Sess) (d : Diag) :
    dcxEmitNow p s d =
      ⟨s.hasNonIgn || !d.ignorable, d.ignorable && (s.canReset || !s.hasNonIgn),
        s.errCount + (if d.isError then 1 else 0), s.shown + (if d.ignorable then 0 else 1), s.stash⟩ := by
  unfold dcxEmitNow
  rw [emitterStep_of_ok p hp]
  cases d.ignorable <;> cases d.isError <;> cases s.hasNonIgn <;> simp

/-- **closed form of a whole sequence of emitted diagnostics**, from any state -/
theorem emitNowAll_eq (p : EmitProg) (hp : emitProgOk p = true) : ∀ (ds : List Diag) (s : Sess),
    emitNowAll p s ds =
      ⟨s.hasNonIgn || ds.any (fun d => !d.ignorable),
        !ds.any (fun d => !d.ignorable) && (s.canReset || (!s.hasNonIgn && !ds.isEmpty)),
        s.errCount + ds.countP Diag.isError, s.shown + ds.countP (fun d => !d.ignorable), s.stash⟩ := by
  intro ds
  induction ds with
  | nil => intro s; simp [emitNowAll]
  | cons d r ih =>
    intro s
    rw [emitNowAll, ih, dcxEmitNow_of_ok p hp]
    simp only [List.any_cons, List.countP_cons, List.isEmpty_cons, Nat.add_assoc, Nat.add_comm (r.countP _),
      Bool.or_assoc]
    congr 1
    · cases d.ignorable <;> cases s.hasNonIgn <;> simp
    · by_cases hi : d.ignorable = true <;> simp [hi]

theorem emitNowAll_of_ok (p : EmitProg) (hp : emitProgOk p = true) : ∀ (ds : List Diag) (s : Sess),
    (emitNowAll p s ds).hasNonIgn = (s.hasNonIgn || ds.any (fun d => !d.ignorable)) ∧
    (emitNowAll p s ds).canReset =
      (if ds.any (fun d => !d.ignorable) then false else (s.canReset || (!s.hasNonIgn && !ds.isEmpty))) ∧
    (emitNowAll p s ds).errCount = s.errCount + ds.countP Diag.isError ∧
    (emitNowAll p s ds).shown = s.shown + ds.countP (fun d => !d.ignorable) ∧
    (emitNowAll p s ds).stash = s.stash := by
  intro ds s
  rw [emitNowAll_eq p hp]
  refine ⟨rfl, ?_, rfl, rfl, rfl⟩
  cases ds.any (fun d => !d.ignorable) <;> rfl

theorem emitNowAll_stash (p : EmitProg) (hp : emitProgOk p = true) (ds : List Diag) (s : Sess) (x : List Diag) :
    emitNowAll p { s with stash := x } ds = { emitNowAll p s ds with stash := x } := by
  rw [emitNowAll_eq p hp, emitNowAll_eq p hp]

/-- **a sequence of diagnostics leaving the parser**: the ones that are emitted act as above, the stashed ones
are appended to the stash -/
theorem emitAll_split (p : EmitProg) (hp : emitProgOk p = true) : ∀ (ds : List Diag) (s : Sess),
    emitAll p s ds =
      { emitNowAll p s (ds.filter fun d => !d.stashed) with stash := s.stash ++ ds.filter fun d => d.stashed } := by
  intro ds
  induction ds with
  | nil => intro s; simp [emitAll, emitNowAll]
  | cons d r ih =>
    intro s
    rw [emitAll, ih, dcxEmit]
    cases hd : d.stashed
    · simp only [Bool.false_eq_true, if_false, List.filter_cons, Bool.not_false, if_true, hd, emitNowAll]
      rw [dcxEmitNow_of_ok p hp]
    · simp only [if_true, List.filter_cons, Bool.not_true, Bool.false_eq_true, if_false, hd]
      rw [emitNowAll_stash p hp, List.append_assoc]
      rfl

/-- when nothing is or gets stashed, emitting the stash after a call's diagnostics changes nothing -/
theorem flushStash_emitAll_of_no_stash (p : EmitProg) (hp : emitProgOk p = true) (s : Sess) (ds : List Diag)
    (hs : s.stash = []) (hd : ∀ d ∈ ds, d.stashed = false) :
    flushStash p (emitAll p s ds) = emitNowAll p s ds := by
  have h1 : (ds.filter fun d => !d.stashed) = ds := List.filter_eq_self.2 (fun d hm => by simp [hd d hm])
  have h2 : (ds.filter fun d => d.stashed) = [] := List.filter_eq_nil_iff.2 (fun d hm => by simp [hd d hm])
  rw [emitAll_split p hp, h1, h2, hs, flushStash]
  simp only [List.append_nil, List.filter_nil, emitNowAll]
  rw [emitNowAll_eq p hp, hs]

theorem poisoned_stable (p : EmitProg) (hp : emitProgOk p = true) (ds : List Diag) (s : Sess) (h : Poisoned s) :
    Poisoned (emitNowAll p s ds) := by
  obtain ⟨a, b, c⟩ := h
  rw [emitNowAll_eq p hp]
  exact ⟨by simp [a], by simp [a, b], by show _ + _ ≠ 0; omega⟩

theorem hard_error_poisons_now (p : EmitProg) (hp : emitProgOk p = true) (ds : List Diag) (s : Sess)
    (h : ds.any Diag.hardError = true) : Poisoned (emitNowAll p s ds) := by
  obtain ⟨d, hd, hh⟩ := List.any_eq_true.1 h
  simp only [Diag.hardError, Bool.and_eq_true, Bool.not_eq_true'] at hh
  have ha : ds.any (fun d => !d.ignorable) = true := List.any_eq_true.2 ⟨d, hd, by simp [hh.2]⟩
  have hc : 0 < ds.countP Diag.isError := List.countP_pos_iff.2 ⟨d, hd, hh.1⟩
  rw [emitNowAll_eq p hp]
  exact ⟨by simp [ha], by simp [ha], by show _ + _ ≠ 0; omega⟩

/-- **a hard error is never lost on the way to the decision**: after the diagnostics of a call have left the
parser (emitted or stashed) and the stash has been emitted, the session is poisoned if any of them was a hard
error -/
theorem flush_poisoned (p : EmitProg) (hp : emitProgOk p = true) (ds : List Diag) (s : Sess)
    (h : ds.any Diag.hardError = true) : Poisoned (flushStash p (emitAll p s ds)) := by
  obtain ⟨d, hd, hh⟩ := List.any_eq_true.1 h
  rw [emitAll_split p hp]
  unfold flushStash
  by_cases hs : d.stashed = true
  · -- `d` is emitted with the stash
    have he : d.isError = true := by
      simp only [Diag.hardError, Bool.and_eq_true] at hh
      exact hh.1
    exact hard_error_poisons_now p hp _ _ (List.any_eq_true.2
      ⟨d, List.mem_filter.2 ⟨List.mem_append_right _ (List.mem_filter.2 ⟨hd, hs⟩), by simp [he]⟩, hh⟩)
  · -- `d` was emitted at once, and emitting the stash afterwards does not undo it
    exact poisoned_stable p hp _ _ (hard_error_poisons_now p hp _ s (List.any_eq_true.2
      ⟨d, List.mem_filter.2 ⟨hd, by simpa using hs⟩, hh⟩))

theorem flushStash_stash (p : EmitProg) (hp : emitProgOk p = true) (s : Sess) : (flushStash p s).stash = [] := by
  rw [flushStash, emitNowAll_eq p hp]

/-- The three arms both result matches start with — accept when `has_errors()` (which emits the stash first)
finds none, accept after `reset_errors()` when `can_reset` is up, `ParseError` otherwise —, run on a value
their patterns match. -/
theorem selectArm_accept (pp : ParseProg) (hf : pp.flush = true) (hp : emitProgOk pp.emit = true)
    (p1 p2 p3 : Pat) (v : Val) (h1 : patMatches p1 v = true) (h2 : patMatches p2 v = true)
    (h3 : patMatches p3 v = true) (rest : List Arm) (s : Sess) (pe : Bool) :
    selectArm pp (⟨p1, .noErrors, [], .ok⟩ :: ⟨p2, .canReset, [.resetErrors], .ok⟩ :: ⟨p3, .always, [], .parseError⟩ :: rest)
        v s pe =
      (let s2 := flushStash pp.emit s
       if s2.errCount = 0 then (s2, some .ok)
       else if s2.canReset = true then (s2.reset, some .ok) else (s2, some .parseError)) := by
  simp only [selectArm, h1, h2, h3, evalGuard, hasErrorsCall, hf, if_true, runPStmts, runPStmt, Sess.hasErrors,
    flushStash_stash pp.emit hp, List.any_nil, Bool.or_false]
  by_cases h0 : (flushStash pp.emit s).errCount = 0
  · simp [h0]
  · by_cases hc : (flushStash pp.emit s).canReset = true <;> simp [h0, hc]

/-- … and when that decision is `Ok` -/
theorem accept_iff (c r : Prop) [Decidable c] [Decidable r] (a b d : Sess) :
    (if c then (a, some Ret.ok) else if r then (b, some Ret.ok) else (d, some Ret.parseError)).2 = some Ret.ok ↔
      c ∨ r := by
  by_cases hc : c <;> by_cases hr : r <;> simp [hc, hr]

/-! ### the lift: a fault that is reached makes the annotated crate faulty -/
theorem retToParse_ok (r : Option Ret) : retToParse r = .ok ↔ r = some .ok := by
  cases r with
  | none => simp [retToParse]
  | some x => cases x <;> simp [retToParse]

section
variable {pp : ParseProg} {mp : ModProg} (h : Safe pp mp) (pi : Nat → FileParse)
include h

/-- `modProgOk` as equations -/
theorem modProgOk_spec (sk oe : Bool) :
    toAltAct (selectM mp.alt (some .parseError) sk true) = .fail ∧
    toDfltAct (selectM mp.dflt (some .parseError) sk oe) = .fail ∧
    toAltAct (selectM mp.alt (some .ok) sk true) = (if sk then .skip else .use) ∧
    toDfltAct (selectM mp.dflt (some .ok) sk oe) = (if sk then .none else .file) := by
  have mem : ∀ b : Bool, b ∈ [true, false] := by decide
  have hm := h.mods
  simp only [modProgOk, Bool.and_eq_true, List.all_eq_true, beq_iff_eq] at hm
  obtain ⟨⟨⟨h1, h2⟩, h3⟩, h4⟩ := hm
  refine ⟨(h1 sk (mem sk)).1, (h1 sk (mem sk)).2 oe (mem oe), ?_, ?_⟩
  · cases sk
    · exact h3
    · exact h2
  · cases sk
    · exact (h4 oe (mem oe)).2
    · exact (h4 oe (mem oe)).1

/-- a call on a path that exists: a `ParseError`, or accepted, and then the file has no fault -/
theorem existing_ret (s : Sess) (fp : FileParse) :
    (parseFile pp s (existing fp)).2 = some .parseError ∨
    ((parseFile pp s (existing fp)).2 = some .ok ∧ fp.fault = false) := by
  rcases h.existing s (existing fp) rfl with hr | hr
  · refine Or.inr ⟨hr, ?_⟩
    cases hf : fp.fault with
    | false => rfl
    | true => exact absurd hr (h.never.1 s _ hf)
  · exact Or.inl hr

/-- the decision for one candidate: a fault fails; otherwise accepted-with-skip is left out, accepted is taken -/
theorem alt_decision (s : Sess) (f : File) :
    let r := parseFile pp s (existing (pi f.path))
    let act := toAltAct (selectM mp.alt r.2 f.skipAttr true)
    ((pi f.path).fault = true → act = .fail) ∧ (act ≠ .fail → act = if f.skipAttr then .skip else .use) := by
  intro r act
  have hspec := modProgOk_spec h f.skipAttr true
  rcases existing_ret h s (pi f.path) with hr | ⟨hr, hnf⟩
  · have : act = .fail := (congrArg (fun x => toAltAct (selectM mp.alt x f.skipAttr true)) hr).trans hspec.1
    exact ⟨fun _ => this, fun hne => absurd this hne⟩
  · have : act = _ := (congrArg (fun x => toAltAct (selectM mp.alt x f.skipAttr true)) hr).trans hspec.2.2.1
    exact ⟨fun hf => absurd (hnf.symm.trans hf) (by decide), fun _ => this⟩

theorem altDecisions_fault : ∀ (a : Alts) (s : Sess), altsFileFault pi a = true →
    decsFail (altDecisions pp mp pi a s).1 = true
  | .nil, s => by simp [altsFileFault]
  | .cons a0 (.node f m) rest, s => by
    intro hf
    simp only [altsFileFault, Bool.or_eq_true] at hf
    obtain ⟨h1, _⟩ := alt_decision h pi s f
    simp only [altDecisions]
    by_cases hact : toAltAct (selectM mp.alt (parseFile pp s (existing (pi f.path))).2 f.skipAttr true) = .fail
    · simp [hact, decsFail]
    · rcases hf with hf | hf
      · exact absurd (h1 hf) hact
      · simp only [hact, if_false]
        have := altDecisions_fault rest (parseFile pp s (existing (pi f.path))).1 hf
        simp only [decsFail, List.any_cons, Bool.or_eq_true] at this ⊢
        right; exact this

theorem altDecisions_allSkip : ∀ (a : Alts) (s : Sess), altsAllSkip a = true →
    decsFail (altDecisions pp mp pi a s).1 = false → decsAnyUse (altDecisions pp mp pi a s).1 = false
  | .nil, s => by simp [altDecisions, decsAnyUse]
  | .cons a0 (.node f m) rest, s => by
    intro hs hnf
    simp only [altsAllSkip, Bool.and_eq_true] at hs
    obtain ⟨_, h2⟩ := alt_decision h pi s f
    simp only [altDecisions] at hnf ⊢
    by_cases hact : toAltAct (selectM mp.alt (parseFile pp s (existing (pi f.path))).2 f.skipAttr true) = .fail
    · simp [hact, decsFail] at hnf
    · have hsk := h2 hact
      have hite : (if f.skipAttr = true then AltAct.skip else AltAct.use) = .skip := by simp [hs.1]
      rw [hite] at hsk
      simp only [hact, if_false, decsFail, List.any_cons, Bool.or_eq_false_iff] at hnf
      simp only [hact, if_false, decsAnyUse, List.any_cons, Bool.or_eq_false_iff]
      refine ⟨by rw [hsk]; rfl, ?_⟩
      exact altDecisions_allSkip rest _ hs.2 hnf.2

omit h in
theorem applyDecs_fail : ∀ (a : Alts) (s : Sess), decsFail (altDecisions pp mp pi a s).1 = true →
    altsFail (applyDecs a (altDecisions pp mp pi a s).1) = true
  | .nil, s => by simp [altDecisions, decsFail]
  | .cons a0 (.node f m) rest, s => by
    intro hf
    simp only [altDecisions] at hf ⊢
    by_cases hact : toAltAct (selectM mp.alt (parseFile pp s (existing (pi f.path))).2 f.skipAttr true) = .fail
    · simp [hact, applyDecs, altsFail]
    · simp only [hact, if_false, decsFail, List.any_cons, Bool.or_eq_true, beq_iff_eq] at hf
      simp only [hact, if_false, applyDecs, altsFail, Bool.or_eq_true, beq_iff_eq]
      rcases hf with hf | hf
      · exact hf.elim
      · right; exact applyDecs_fail rest _ hf

/-- The `cfgAttr` arm of `annM_fault`, given the three facts about its parts.  Each stage result is named
before the case analysis so that no step works on the unfolded arm. -/
theorem annM_cfgAttr_fault (alts : Alts) (dk : DfltKind) (a0 : DfltAct) (df : File) (dm : Mods) (ghost : File)
    (rest : Mods) (s : Sess)
    (ihA : ∀ s1, decsFail (altDecisions pp mp pi alts s).1 = false → faultEA pi alts = true →
      faultA (annA pp mp pi alts (altDecisions pp mp pi alts s).1 s1).1 = true)
    (ihD : ∀ s, faultEM pi dm = true → faultM (annM pp mp pi dm s).1 = true)
    (ihR : ∀ s, faultEM pi rest = true → faultM (annM pp mp pi rest s).1 = true)
    (hf : faultEM pi (.cfgAttr alts dk a0 (.node df dm) ghost rest) = true) :
    faultM (annM pp mp pi (.cfgAttr alts dk a0 (.node df dm) ghost rest) s).1 = true := by
  simp only [faultEM, Bool.or_eq_true] at hf
  have hAf := altDecisions_fault h pi alts s
  have hAs := altDecisions_allSkip h pi alts s
  unfold annM
  generalize altDecisions pp mp pi alts s = A at hAf hAs ihA ⊢
  cases hdf : decsFail A.1 with
  | true => simp [hdf, faultM]
  | false =>
    rcases hf with hx | hf
    · exact absurd ((hAf hx).symm.trans hdf) (by decide)
    simp only [hdf, Bool.false_eq_true, if_false]
    cases dk with
    | found =>
      simp only [if_true, Bool.or_eq_true, Bool.and_eq_true, Bool.not_eq_true'] at hf ⊢
      rcases existing_ret h A.2 (pi df.path) with hex | ⟨hex, hnf⟩
      · rw [hex, (modProgOk_spec h _ _).2.1]; simp [faultM]
      · rw [hex, (modProgOk_spec h _ _).2.2.2]
        generalize (parseFile pp A.2 (existing (pi df.path))).1 = s1
        cases hs : df.skipAttr with
        | true =>
          simp only [hnf, hs, Bool.false_eq_true, Bool.true_eq_false, false_or, false_and, true_and] at hf
          simp [faultM, ihR _ hf]
        | false =>
          simp only [hnf, hs, Bool.false_eq_true, false_or, false_and, true_and, or_false] at hf
          simp only [Bool.false_eq_true, if_false]
          have hc := ihA s1 hdf
          generalize annA pp mp pi alts A.1 s1 = c at hc ⊢
          have hd := ihD c.2
          generalize annM pp mp pi dm c.2 = d at hd ⊢
          have hm := ihR d.2
          generalize annM pp mp pi rest d.2 = m at hm ⊢
          cases hfc : faultA c.1 with
          | true => simp [faultM, hfc]
          | false =>
            cases hfd : faultM d.1 with
            | true => simp [faultM, hfd]
            | false =>
              rcases hf with (hf | hf) | hf
              · exact absurd ((hc hf).symm.trans hfc) (by decide)
              · exact absurd ((hd hf).symm.trans hfd) (by decide)
              · simp [faultM, hm hf]
    | notFound | multiple =>
      simp only [reduceCtorEq, if_false, Bool.or_eq_true] at hf ⊢
      cases hoe : decsAnyUse A.1 with
      | false => simp [faultM]
      | true =>
        simp only [Bool.not_true, Bool.false_eq_true, if_false]
        have hc := ihA A.2 hdf
        generalize annA pp mp pi alts A.1 A.2 = c at hc ⊢
        have hm := ihR c.2
        generalize annM pp mp pi rest c.2 = m at hm ⊢
        cases hfc : faultA c.1 with
        | true => simp [faultM, hfc]
        | false =>
          rcases hf with (hf | hf) | hf
          · exact absurd ((hAs hf hdf).symm.trans hoe) (by decide)
          · exact absurd ((hc hf).symm.trans hfc) (by decide)
          · simp [faultM, hm hf]

mutual
theorem annT_fault : ∀ (t : Tree) (s : Sess), faultET pi t = true → faultT (annT pp mp pi t s).1 = true
  | .node f mods, s => by
    intro hf
    unfold annT
    simp only [faultET, Bool.or_eq_true, Bool.and_eq_true, Bool.not_eq_true'] at hf
    by_cases hc : (parseFile pp s (pi f.path)).2 = some .ok ∧ f.skipAttr = false
    · simp only [hc, and_self, if_true]
      rcases hf with hf | ⟨_, hf⟩
      · exact absurd hc.1 (h.never.1 s _ hf)
      · have := annM_fault mods (parseFile pp s (pi f.path)).1 hf
        simp [faultT, this]
    · simp only [hc, if_false]
      by_cases hr : (parseFile pp s (pi f.path)).2 = some .ok
      · have hs : f.skipAttr = true := by
          cases hsk : f.skipAttr with
          | true => rfl
          | false => exact absurd ⟨hr, hsk⟩ hc
        rcases hf with hf | ⟨hf, _⟩
        · exact absurd hr (h.never.1 s _ hf)
        · rw [hs] at hf; cases hf
      · have : retToParse (parseFile pp s (pi f.path)).2 ≠ .ok := fun e => hr ((retToParse_ok _).1 e)
        simp [faultT, this]
theorem annM_fault : ∀ (m : Mods) (s : Sess), faultEM pi m = true → faultM (annM pp mp pi m s).1 = true
  | .nil, s => by simp [faultEM]
  | .found t rest, s => by
    intro hf
    unfold annM
    simp only [faultEM, Bool.or_eq_true] at hf
    by_cases hc : faultT (annT pp mp pi t s).1 = true
    · simp [hc, faultM]
    · simp only [hc, Bool.false_eq_true, if_false]
      rcases hf with hf | hf
      · exact absurd (annT_fault t s hf) hc
      · simp [faultM, annM_fault rest _ hf]
  | .skipped rest, s => by
    intro hf
    unfold annM
    simp only [faultEM] at hf
    simp [faultM, annM_fault rest s hf]
  | .notFound rest, s => by simp [annM, faultM]
  | .multiple rest, s => by simp [annM, faultM]
  | .cfgAttr alts dk a0 (.node df dm) ghost rest, s =>
    annM_cfgAttr_fault h pi alts dk a0 df dm ghost rest s (annA_fault alts s) (annM_fault dm) (annM_fault rest)
theorem annA_fault : ∀ (a : Alts) (s s1 : Sess), decsFail (altDecisions pp mp pi a s).1 = false →
    faultEA pi a = true → faultA (annA pp mp pi a (altDecisions pp mp pi a s).1 s1).1 = true
  | .nil, s, s1 => by simp [faultEA]
  | .cons a0 (.node f m) rest, s, s1 => by
    intro hnf hf
    simp only [faultEA, Bool.or_eq_true, Bool.and_eq_true, Bool.not_eq_true'] at hf
    obtain ⟨_, h2⟩ := alt_decision h pi s f
    simp only [altDecisions] at hnf ⊢
    by_cases hact : toAltAct (selectM mp.alt (parseFile pp s (existing (pi f.path))).2 f.skipAttr true) = .fail
    · simp [hact, decsFail] at hnf
    · simp only [hact, if_false, decsFail, List.any_cons, Bool.or_eq_false_iff] at hnf
      simp only [hact, if_false]
      have hsk := h2 hact
      generalize toAltAct (selectM mp.alt (parseFile pp s (existing (pi f.path))).2 f.skipAttr true) = act at hsk hact hnf ⊢
      cases act with
      | fail => exact absurd rfl hact
      | use =>
        simp only [annA]
        by_cases hc : faultM (annM pp mp pi m s1).1 = true
        · simp [hc, faultA]
        · simp only [hc, Bool.false_eq_true, if_false]
          rcases hf with ⟨_, hf⟩ | hf
          · exact absurd (annM_fault m s1 hf) hc
          · have := annA_fault rest (parseFile pp s (existing (pi f.path))).1 (annM pp mp pi m s1).2 hnf.2 hf
            simp [faultA, this]
      | skip =>
        simp only [annA]
        rcases hf with ⟨hs, _⟩ | hf
        · rw [hs] at hsk; simp at hsk
        · have := annA_fault rest (parseFile pp s (existing (pi f.path))).1 s1 hnf.2 hf
          simp [faultA, this]
end

end

theorem annotateRoot_node (pp : ParseProg) (mp : ModProg) (pi : Nat → FileParse) (cfg : Cfg) (f : File) (mods : Mods) :
    annotateRoot pp mp pi cfg (.node f mods) =
      if (parseCrate pp Sess.init (pi f.path)).2 = some .ok ∧ cfg.skipChildren = false then
        .node { f with parse := retToParse (parseCrate pp Sess.init (pi f.path)).2 }
          (annM pp mp pi mods (parseCrate pp Sess.init (pi f.path)).1).1
      else .node { f with parse := retToParse (parseCrate pp Sess.init (pi f.path)).2 } mods := rfl

theorem annotateRoot_file (pp : ParseProg) (mp : ModProg) (pi : Nat → FileParse) (cfg : Cfg) (root : Tree) :
    (annotateRoot pp mp pi cfg root).file.ignored = root.file.ignored ∧
    (annotateRoot pp mp pi cfg root).file.path = root.file.path := by
  cases root with
  | node f mods =>
    rw [annotateRoot_node]
    split <;> simp [Tree.file]

/-- **the lift**: if the crate cannot be processed in the sense of `faultyE` (a reachable file with a fault —
also a candidate of a nested `#[cfg_attr(.., path = "..")]`, or anything below one that is taken —, or a `mod`
without a file or with two), the crate annotated by the tables is `faulty` in the sense of `RF.Project`,
whatever the diagnostics of the other files are and in whatever order they are met. -/
theorem annotateRoot_faulty (pp : ParseProg) (mp : ModProg) (h : Safe pp mp) (pi : Nat → FileParse) (cfg : Cfg) (root : Tree)
    (hf : faultyE pi cfg root = true) : faulty cfg (annotateRoot pp mp pi cfg root) = true := by
  cases root with
  | node f mods =>
    simp only [faultyE, Tree.file, Tree.mods, Bool.or_eq_true, Bool.and_eq_true, Bool.not_eq_true'] at hf
    rw [annotateRoot_node]
    by_cases hc : (parseCrate pp Sess.init (pi f.path)).2 = some .ok ∧ cfg.skipChildren = false
    · rw [if_pos hc]
      rcases hf with hf | ⟨_, hf⟩
      · exact absurd hc.1 (h.never.2 _ _ hf)
      · have := annM_fault h pi mods (parseCrate pp Sess.init (pi f.path)).1 hf
        simp [faulty, Tree.file, Tree.mods, this, hc.2]
    · rw [if_neg hc]
      by_cases hr : (parseCrate pp Sess.init (pi f.path)).2 = some .ok
      · have hs : cfg.skipChildren = true := by
          cases hsk : cfg.skipChildren with
          | true => rfl
          | false => exact absurd ⟨hr, hsk⟩ hc
        rcases hf with hf | ⟨hf, _⟩
        · exact absurd hr (h.never.2 _ _ hf)
        · rw [hs] at hf; cases hf
      · have : retToParse (parseCrate pp Sess.init (pi f.path)).2 ≠ .ok := fun e => hr ((retToParse_ok _).1 e)
        simp [faulty, Tree.file, this]

end RF.Lemmas.ParseErrors

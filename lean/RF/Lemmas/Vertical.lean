import RF.Model.Vertical
import RF.Lemmas.Lists
/-!
Helper lemmas for `RF/Props/Vertical.lean`: `str::split('\n')` on the texts the writer puts between two
fields, the loop of `group_aligned_items`, the fold of `struct_field_prefix_max_min_width`, and what the
one-line pass leaves alone.
-/
namespace RF.Lemmas.Vertical
open RF.Lists RF.Vertical RF.Lemmas.Lists

theorem splitNl_no_nl (a : List Char) (h : '\n' ∉ a) : splitNl a = [a] := by
  induction a with
  | nil => rfl
  | cons c a ih =>
    have hc : c ≠ '\n' := fun e => h (by simp [e])
    have ha : '\n' ∉ a := fun e => h (by simp [e])
    simp [splitNl, hc, ih ha]

theorem splitNl_append_nl (a b : List Char) (h : '\n' ∉ a) :
    splitNl (a ++ '\n' :: b) = a :: splitNl b := by
  induction a with
  | nil => simp [splitNl]
  | cons c a ih =>
    have hc : c ≠ '\n' := fun e => h (by simp [e])
    have ha : '\n' ∉ a := fun e => h (by simp [e])
    simp [splitNl, hc, ih ha]

/-- Between two fields on consecutive lines there is no blank line. -/
theorem hasBlankLine_one_break (ind : List Char) (h : '\n' ∉ ind) :
    hasBlankLine (',' :: '\n' :: ind) = false := by
  have : splitNl (',' :: '\n' :: ind) = [[','], ind] := by
    have := splitNl_append_nl [','] ind (by decide)
    simpa [splitNl_no_nl ind h] using this
  simp [hasBlankLine, this]

/-- A blank line between two fields is seen, whatever the indentation of the second one is (also none). -/
theorem hasBlankLine_two_breaks (ind : List Char) (h : '\n' ∉ ind) :
    hasBlankLine (',' :: '\n' :: '\n' :: ind) = true := by
  have : splitNl (',' :: '\n' :: '\n' :: ind) = [[','], [], ind] := by
    have h1 := splitNl_append_nl [','] ('\n' :: ind) (by decide)
    have h2 := splitNl_append_nl [] ind (by simp)
    simp only [List.nil_append] at h2
    simpa [h2, splitNl_no_nl ind h] using h1
  simp [hasBlankLine, this, show (trim ([] : List Char)).isEmpty = true from rfl]

theorem groupGo_skip {f : Field} (idx : Nat) (g : Field) (rest : List Field) (hs : f.skip = true) :
    groupGo idx (f :: g :: rest) = (false, idx) := by
  rw [groupGo, if_pos hs]

theorem groupGo_blank {f : Field} (idx : Nat) (g : Field) (rest : List Field) (hs : f.skip = false)
    (hb : hasBlankLine f.post = true) : groupGo idx (f :: g :: rest) = (true, idx) := by
  rw [groupGo, if_neg (by simp [hs]), if_pos hb]

theorem groupGo_next {f : Field} (idx : Nat) {fields : List Field} (hne : fields ≠ []) (hs : f.skip = false)
    (hb : hasBlankLine f.post = false) : groupGo idx (f :: fields) = groupGo (idx + 1) fields := by
  cases fields with
  | nil => exact absurd rfl hne
  | cons g rest => rw [groupGo, if_neg (by simp [hs]), if_neg (by simp [hb])]

/-- What `group_aligned_items` promises of its result `r` (separator is `"\n"`, index of the last field of
the group) when the loop starts at index `idx` with `fields` left (`groupGo_spec` says it of `groupGo`). -/
def GroupEnd (fields : List Field) (idx : Nat) (r : Bool × Nat) : Prop :=
  idx ≤ r.2 ∧
  (∀ k, k < r.2 - idx → ∃ f, fields[k]? = some f ∧ f.skip = false ∧ hasBlankLine f.post = false) ∧
  (r.2 - idx + 1 < fields.length →
    ∃ f, fields[r.2 - idx]? = some f ∧
      ((f.skip = true ∧ r.1 = false) ∨ (f.skip = false ∧ hasBlankLine f.post = true ∧ r.1 = true))) ∧
  (fields.length ≤ r.2 - idx + 1 → r.1 = false)

/-- The loop stops at the first field. -/
theorem groupEnd_stop {fields : List Field} (idx : Nat) {b : Bool}
    (h3 : 1 < fields.length → ∃ f, fields[0]? = some f ∧
      ((f.skip = true ∧ b = false) ∨ (f.skip = false ∧ hasBlankLine f.post = true ∧ b = true)))
    (h4 : fields.length ≤ 1 → b = false) : GroupEnd fields idx (b, idx) := by
  unfold GroupEnd
  simp only [Nat.sub_self, Nat.zero_add]
  exact ⟨Nat.le_refl _, fun k hk => absurd hk (Nat.not_lt_zero k), h3, h4⟩

/-- The loop goes on behind a field that is not skipped and has no blank line behind it. -/
theorem groupEnd_next {f : Field} {fields : List Field} {idx : Nat} {r : Bool × Nat}
    (hs : f.skip = false) (hb : hasBlankLine f.post = false) (h : GroupEnd fields (idx + 1) r) :
    GroupEnd (f :: fields) idx r := by
  obtain ⟨h1, h2, h3, h4⟩ := h
  have e : r.2 - idx = (r.2 - (idx + 1)) + 1 := by omega
  unfold GroupEnd
  simp only [List.length_cons]
  refine ⟨by omega, fun k hk => ?_, fun hlt => ?_, fun hle => h4 (by omega)⟩
  · cases k with
    | zero => exact ⟨f, rfl, hs, hb⟩
    | succ k => exact h2 k (by omega)
  · rw [e]
    exact h3 (by omega)

/-- No group that `rewrite_with_alignment` visits is empty. -/
theorem groupsGo_ne_nil (c : VConfig) : ∀ (fuel : Nat) (fs : List Field), ∀ g ∈ groupsGo c fuel fs, g.1 ≠ [] := by
  intro fuel
  induction fuel with
  | zero => intro fs g hg; simp [groupsGo] at hg
  | succ n ih =>
    intro fs g hg
    cases fs with
    | nil => simp [groupsGo] at hg
    | cons f rest =>
      simp only [groupsGo, List.mem_cons] at hg
      rcases hg with rfl | hg
      · simp
      · exact ih _ g hg

/-- The fold of `struct_field_prefix_max_min_width` bounds every prefix width. -/
theorem maxMinGo_bounds : ∀ (fields : List Field) (acc r : Nat × Nat), maxMinGo fields acc = some r →
    acc.1 ≤ r.1 ∧ r.2 ≤ acc.2 ∧ ∀ f ∈ fields, ∃ w, f.measW = some w ∧ r.2 ≤ w ∧ w ≤ r.1 := by
  intro fields
  induction fields with
  | nil =>
    intro acc r h
    simp only [maxMinGo, Option.some.injEq] at h
    subst h
    simp
  | cons f rest ih =>
    intro acc r h
    obtain ⟨mx, mn⟩ := acc
    simp only [maxMinGo] at h
    split at h
    · simp at h
    · rename_i len hlen
      obtain ⟨h1, h2, h3⟩ := ih _ _ h
      simp only at h1 h2
      refine ⟨by simp only; omega, by simp only; omega, ?_⟩
      intro g hg
      rcases List.mem_cons.mp hg with rfl | hg
      · exact ⟨len, hlen, by omega, by omega⟩
      · exact h3 g hg

/-- What the one-line pass leaves alone: everything of a `ListItem` but its item string. -/
def SameButItem (a b : ListItem) : Prop :=
  a.preComment = b.preComment ∧ a.preCommentStyle = b.preCommentStyle ∧
    a.postComment = b.postComment ∧ a.newLines = b.newLines

theorem oneLinePass_same : ∀ (fs : List Field) (its : List ListItem),
    Forall2 SameButItem (oneLinePass fs its) its := by
  intro fs its
  induction its generalizing fs with
  | nil => cases fs <;> exact Forall2.nil
  | cons it its ih =>
    cases fs with
    | nil =>
      simp only [oneLinePass]
      refine Forall2.cons ⟨rfl, rfl, rfl, rfl⟩ ?_
      have := ih []
      cases its <;> simpa [oneLinePass] using this
    | cons f fs =>
      simp only [oneLinePass]
      refine Forall2.cons ?_ (ih fs)
      split <;> exact ⟨rfl, rfl, rfl, rfl⟩

theorem alignedItem_isSome (f : Field) (w : Nat) : (alignedItem f w).isSome = f.ok := by
  unfold alignedItem; split <;> simp_all

/-- The item strings after the one-line pass: every field rewritten with `prefix_max_width = 0`. -/
theorem oneLinePass_items (w : Nat) : ∀ (fs : List Field) (its : List ListItem),
    its.map (·.item) = fs.map (alignedItem · w) →
    (oneLinePass fs its).map (·.item) = fs.map (alignedItem · 0) := by
  intro fs
  induction fs with
  | nil => intro its h; cases its <;> simp_all [oneLinePass]
  | cons f fs ih =>
    intro its h
    cases its with
    | nil => simp at h
    | cons it its =>
      simp only [List.map_cons, List.cons.injEq] at h
      obtain ⟨h1, h2⟩ := h
      simp only [oneLinePass, List.map_cons, List.cons.injEq]
      refine ⟨?_, ih its h2⟩
      have e1 := alignedItem_isSome f w
      split
      · rfl
      · rename_i hn
        rw [h1, e1] at hn
        rw [h1]
        cases hok : f.ok
        · simp [alignedItem, hok]
        · simp [hok] at hn

end RF.Lemmas.Vertical

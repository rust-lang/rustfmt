import RF.Model.Modules
/-!
Lemmas about the module resolver model (`RF/Model/Modules.lean`), property C13.

The main proof (`RF.Props.C13.resolver_computes_closure`) goes in three steps:
1. `findExternalModule_plain`: without `cfg_attr(path)` the literal `find_external_module` is
   "locate, then the already-parsed check, then load".
2. `visit_flatten`: the walk over a tree of declarations with directory save/restore equals a
   left fold (`foldOut`) over the flat list of located declarations (`scanItems`); `visitCrate_plain`
   states `visit_crate` through that fold.
3. `foldOut_spec` / `exploreFile_contract`: that fold, with recursion into loaded files, is a
   depth-first search with a visited set; the usual white/grey/black invariant (`Inv`, with `Inv.init`,
   `Inv.push`, `Inv.close`) shows that it computes the closure `Reach` and reports only errors the
   specification has.

Around it: the file map keeps one entry per key and the directory is restored (any declarations);
the fuel bound (`exploreFile_fuel`); `reachFile_contract`, the same closure for the executable
specification; soundness of the decidable side conditions of the model (`hypsB_sound`); two ways
to `KeyedLocs`, the hypothesis of the fuel bound: a check defined here and not run by the driver
(`keyedB`, `keyedLocs_of_B`) and the syntactic condition `fsDotFree` (`keyedLocs_of_dotFree`); the filters of `format_project` and of `specFormatted` as one conjunction
(`mem_formatted_iff`).
-/
namespace RF.Lemmas.Modules
open RF.Modules

theorem eq_error_of_map_eq_error {ε α β : Type} {f : α → β} {x : Except ε α} {e : ε}
    (h : x.map f = .error e) : x = .error e := by
  cases x with
  | error e' => exact congrArg _ (Except.error.inj h)
  | ok a => cases h

theorem decl_ind {P : Decl → Prop} {Q : List Decl → Prop}
    (h1 : ∀ n a, P (.ext n a)) (h2 : ∀ n a is, Q is → P (.inline n a is))
    (h3 : Q []) (h4 : ∀ d ds, P d → Q ds → Q (d :: ds)) : (∀ d, P d) ∧ (∀ ds, Q ds) :=
  ⟨fun d => Decl.rec (motive_1 := P) (motive_2 := Q) h1 h2 h3 h4 d,
   fun ds => Decl.rec_1 (motive_1 := P) (motive_2 := Q) h1 h2 h3 h4 ds⟩

theorem nodeAt_nil (fs : FS) : nodeAt fs [] = none := by simp [nodeAt]

theorem nodeAt_root (fs : FS) : nodeAt fs [rootComp] = some .dir := by
  simp [nodeAt, normAux, nodeNorm, rootComp, dot, dotdot]

/-- A path at which a file sits has a parent: `mod_path.parent().unwrap()` cannot panic. -/
theorem parent_of_file {fs : FS} {p : Path} {s g items}
    (h : nodeAt fs p = some (.file s g items)) : ∃ d, parent p = some d := by
  fun_cases parent p
  · next hp =>
    rcases hp with rfl | rfl
    · simp [nodeAt_nil] at h
    · simp [nodeAt_root] at h
  · exact ⟨_, rfl⟩

theorem keys_cons (e : FileName × Mod) (m : List (FileName × Mod)) : keys (e :: m) = e.1 :: keys m :=
  rfl

/-- `insertIfAbsent` and `insertReplace` differ in the value they leave, not in the keys. -/
theorem keys_insertIfAbsent (m : List (FileName × Mod)) (k : FileName) (v : Mod) :
    keys (insertIfAbsent m k v) = if k ∈ keys m then keys m else keys m ++ [k] := by
  unfold insertIfAbsent
  split <;> simp [keys]

theorem keys_insertReplace (m : List (FileName × Mod)) (k : FileName) (v : Mod) :
    keys (insertReplace m k v) = if k ∈ keys m then keys m else keys m ++ [k] := by
  fun_induction insertReplace m k v with
  | case1 => rfl
  | case2 => simp [keys_cons]
  | case3 k' v' rest k v hk ih =>
    rw [keys_cons, keys_cons, ih]
    by_cases hm : k ∈ keys rest <;> simp [hm, Ne.symm hk]

theorem nodup_addKey {l : List FileName} (k : FileName) (h : l.Nodup) :
    (if k ∈ l then l else l ++ [k]).Nodup := by
  split
  · exact h
  · next hk =>
    refine List.nodup_append.2 ⟨h, by simp, ?_⟩
    simp only [List.mem_singleton, ne_eq, forall_eq]
    exact fun a ha e => hk (e ▸ ha)

theorem mem_addKey {l : List FileName} {k x : FileName} :
    x ∈ (if k ∈ l then l else l ++ [k]) ↔ x = k ∨ x ∈ l := by
  split
  · next hk => exact ⟨Or.inr, fun h => h.elim (· ▸ hk) id⟩
  · simp [or_comm]

theorem mem_insertIfAbsent {m : List (FileName × Mod)} {k : FileName} {v : Mod}
    {e : FileName × Mod} (h : e ∈ insertIfAbsent m k v) : e ∈ m ∨ e = (k, v) := by
  unfold insertIfAbsent at h
  split at h
  · exact Or.inl h
  · simpa using h

theorem mem_insertReplace {m : List (FileName × Mod)} {k : FileName} {v : Mod}
    {e : FileName × Mod} (h : e ∈ insertReplace m k v) : e ∈ m ∨ e = (k, v) := by
  induction m with
  | nil => exact Or.inr (List.mem_singleton.1 h)
  | cons x rest ih =>
    unfold insertReplace at h
    split at h
    · exact (List.mem_cons.1 h).elim Or.inr fun h => Or.inl (List.mem_cons_of_mem _ h)
    · rcases List.mem_cons.1 h with rfl | h
      · exact Or.inl List.mem_cons_self
      · exact (ih h).imp_left (List.mem_cons_of_mem _)

theorem nodup_insertSubMod {m : List (FileName × Mod)} (kind : SubModKind)
    (h : (keys m).Nodup) : (keys (insertSubMod m kind)).Nodup := by
  cases kind with
  | external p own sub => exact keys_insertIfAbsent .. ▸ nodup_addKey _ h
  | internal => exact h
  | multiExternal mods =>
    unfold insertSubMod
    induction mods generalizing m with
    | nil => exact h
    | cons e rest ih => exact ih (keys_insertIfAbsent .. ▸ nodup_addKey _ h)

/-- A property of the file map that every insertion preserves and the recursion into a loaded file
preserves is preserved by the whole walk. -/
theorem visit_preserves (fs : FS) (rec : RecFn) (I : List (FileName × Mod) → Prop)
    (hins : ∀ m kind, I m → I (insertSubMod m kind))
    (hrec : ∀ st p items st', rec st p items = .ok st' → I st.fileMap → I st'.fileMap)
    (cur : FileName) :
    (∀ d : Decl, ∀ st st', visitSubModW fs rec cur st d = .ok st' → I st.fileMap → I st'.fileMap) ∧
    (∀ ds : List Decl, ∀ st st', visitItemsW fs rec cur st ds = .ok st' → I st.fileMap →
      I st'.fileMap) := by
  have hmulti : ∀ mods st st', visitMulti rec st mods = .ok st' → I st.fileMap → I st'.fileMap := by
    intro mods
    induction mods with
    | nil => intro st st' e h; cases e; exact h
    | cons e rest ih =>
      intro st st' hv h
      rw [visitMulti] at hv
      repeat' split at hv
      · cases hv
      · cases hv
      · next hr => exact ih _ _ hv (hrec _ _ _ _ hr h)
  apply decl_ind
  · intro name attrs st st' hv h
    rw [visitSubModW] at hv
    repeat' split at hv
    all_goals cases hv
    -- the arms that return `.ok`: skipped, already parsed, `External`, `MultiExternal`, `Internal`
    · exact h
    · exact h
    · next hr =>
      refine (hrec _ _ _ _ hr ?_ :)
      dsimp only
      exact hins _ _ h
    · next hr =>
      refine (hmulti _ _ _ hr ?_ :)
      dsimp only
      exact hins _ _ h
    · exact hins _ .internal h
  · intro name attrs items ih st st' hv h
    rw [visitSubModW] at hv
    repeat' split at hv
    all_goals cases hv
    · exact h
    · next hr => exact (ih _ _ hr h :)
  · intro st st' hv h
    cases hv
    exact h
  · intro d ds ihd ihds st st' hv h
    rw [visitItemsW] at hv
    split at hv
    · cases hv
    · next hr => exact ihds _ _ hv (ihd _ _ hr h)

theorem visitFile_preserves (fs : FS) (I : List (FileName × Mod) → Prop)
    (hins : ∀ m kind, I m → I (insertSubMod m kind)) :
    ∀ n st p items st', visitFile fs n st p items = .ok st' → I st.fileMap → I st'.fileMap := by
  intro n
  induction n with
  | zero =>
    intro st p items st' hv h
    cases items with
    | nil => cases hv; exact h
    | cons a b => cases hv
  | succ n ih =>
    exact fun st p items => (visit_preserves fs (visitFile fs n) I hins ih (.real p)).2 items st

theorem visitSubModW_dir (fs : FS) (rec : RecFn) (cur : FileName) (st st' : St) (d : Decl)
    (h : visitSubModW fs rec cur st d = .ok st') : st'.dir = st.dir := by
  -- every arm that returns `.ok` ends in `dir := oldDirectory`
  cases d
  all_goals
    rw [visitSubModW] at h
    repeat' split at h
    all_goals cases h
    all_goals rfl

/-- Every file of the tree on disk is free of `cfg_attr(path)`. -/
def fsPlain (fs : FS) : Prop :=
  ∀ p s g items, nodeAt fs p = some (.file s g items) → itemsPlain items = true

theorem pathVisitorPaths_plain {attrs : List Attr} (h : attrsPlain attrs = true)
    (hp : findPathValue attrs = none) : pathVisitorPaths attrs = [] := by
  induction attrs with
  | nil => rfl
  | cons a rest ih =>
    cases a with
    | path s => cases hp
    | skip => exact ih h hp
    | cfgAttrPath s => cases h

/-- `find_external_module` without `cfg_attr(path)`: locate, already-parsed check, load. -/
def extStep (fs : FS) (dir : Directory) (parsed : List Path) (name : Comp) (attrs : List Attr) :
    Except ErrKind (Option SubModKind) × List Path :=
  match locate fs dir name attrs with
  | .failed k => (.error k, parsed)
  | .located p own via =>
    if p ∈ parsed then (.ok none, parsed)
    else match nodeAt fs p with
      | some (.file true _ _) => (.ok none, p :: parsed)
      | some (.file false _ items) =>
        (.ok (some (.external p own (loadedMod p items))), p :: parsed)
      | some .dir => (.error .parse, parsed)
      | none => (.error (if via then .pathattr else .notfound), parsed)

theorem findExternalModule_plain (fs : FS) (dir : Directory) (parsed : List Path) (cur : FileName)
    (name : Comp) (attrs : List Attr) (h : attrsPlain attrs = true) :
    findExternalModule fs dir parsed cur name attrs = extStep fs dir parsed name attrs := by
  unfold findExternalModule extStep locate parseFileAsModule
  cases hp : submodPathFromAttr attrs dir.path with
  | some path =>
    dsimp only
    split
    · rfl
    · rcases nodeAt fs path with _ | ⟨_ | _, _, _⟩ | _ <;> rfl
  | none =>
    have hfp : findPathValue attrs = none := by
      unfold submodPathFromAttr at hp
      split at hp
      · cases hp
      · assumption
    simp only [pathVisitorPaths_plain h hfp, findModsOutsideOfAst]
    cases hd : defaultSubmodPath fs name
        (match dir.ownership with
          | .owned r => r
          | .unownedViaBlock => none) dir.path with
    | error e => cases e <;> rfl
    | ok r =>
      obtain ⟨filePath, own⟩ := r
      simp only [List.isEmpty_nil, List.any_nil, Bool.not_false, if_true, List.nil_append]
      split
      · rfl
      · rcases nodeAt fs filePath with _ | ⟨_ | _, _, _⟩ | _ <;> rfl

/-- `parsed` and `file_map`: the state without the directory. -/
structure Core where
  parsed : List Path
  fileMap : List (FileName × Mod)

def core (st : St) : Core := ⟨st.parsed, st.fileMap⟩

/-- Recursion into a loaded file on `Core`: state, file, ownership, items. -/
abbrev RecC := Core → Path → Ownership → List Decl → Except ErrKind Core

/-- Process located declarations in order: skip what is already parsed, load the rest. -/
def foldOut (fs : FS) (recC : RecC) : Core → List Loc → Except ErrKind Core
  | c, [] => .ok c
  | _, .failed k :: _ => .error k
  | c, .located p own via :: ls =>
    if p ∈ c.parsed then foldOut fs recC c ls
    else match nodeAt fs p with
      | none => .error (if via then .pathattr else .notfound)
      | some .dir => .error .parse
      | some (.file true _ _) => foldOut fs recC ⟨p :: c.parsed, c.fileMap⟩ ls
      | some (.file false _ items) =>
        match recC ⟨p :: c.parsed, insertIfAbsent c.fileMap (.real p) (loadedMod p items)⟩
            p own items with
        | .error e => .error e
        | .ok c' => foldOut fs recC c' ls

/- The cases of `foldOut.induct`, in the order of the definition: 1 end of the list; 2 a failed
declaration; 3 target already parsed; 4 target missing; 5 target a directory; 6 target a skipped file;
7, 8 target a live file, the recursion into it failing / succeeding. -/

theorem foldOut_append (fs : FS) (recC : RecC) (c : Core) (l₁ l₂ : List Loc) :
    foldOut fs recC c (l₁ ++ l₂) =
      match foldOut fs recC c l₁ with
      | .error e => .error e
      | .ok c' => foldOut fs recC c' l₂ := by
  fun_induction foldOut fs recC c l₁ with
  | case3 c p own via ls hmem ih => simpa [foldOut, hmem] using ih
  | case6 c p own via ls hmem g items hn ih => simpa [foldOut, hmem, hn] using ih
  | case8 c p own via ls hmem g items hn c' hr ih => simpa [foldOut, hmem, hn, hr] using ih
  | _ => simp [foldOut, *]

/-- `rec` (on `St`, directory set by the caller) and `recC` (on `Core`) are the same function. -/
def Link (rec : RecFn) (recC : RecC) : Prop :=
  ∀ (c : Core) (p : Path) (own : Ownership) (items : List Decl) (d : Path),
    itemsPlain items = true → parent p = some d →
    (rec ⟨⟨d, own⟩, c.parsed, c.fileMap⟩ p items).map core = recC c p own items

theorem visit_flatten (fs : FS) (hfs : fsPlain fs) (rec : RecFn) (recC : RecC)
    (hlink : Link rec recC) (cur : FileName) :
    (∀ d : Decl, declPlain d = true → ∀ st,
      (visitSubModW fs rec cur st d).map core =
        foldOut fs recC (core st) (scanDecl true fs st.dir d)) ∧
    (∀ ds : List Decl, itemsPlain ds = true → ∀ st,
      (visitItemsW fs rec cur st ds).map core =
        foldOut fs recC (core st) (scanItems true fs st.dir ds)) := by
  apply decl_ind
  · intro name attrs hpl st
    rw [visitSubModW, scanDecl]
    split
    · rfl
    · rw [findExternalModule_plain _ _ _ _ _ _ hpl]
      unfold extStep
      cases hl : locate fs st.dir name attrs with
      | failed k => rfl
      | located p own via =>
        simp only [foldOut, core]
        by_cases hmem : p ∈ st.parsed
        · simp [hmem, Except.map, core]
        · simp only [hmem, if_false]
          cases hn : nodeAt fs p with
          | none => rfl
          | some n =>
            cases n with
            | dir => rfl
            | file s g items =>
              cases s with
              | true => rfl
              | false =>
                obtain ⟨d, hd⟩ := parent_of_file hn
                have hl := hlink ⟨p :: st.parsed,
                  insertIfAbsent st.fileMap (.real p) (loadedMod p items)⟩ p own items d
                  (hfs _ _ _ _ hn) hd
                simp only [hd, insertSubMod, loadedMod] at hl ⊢
                rw [← hl]
                cases rec _ p items <;> rfl
  · intro name attrs items ih hpl st
    rw [visitSubModW, scanDecl]
    split
    · rfl
    · refine .trans ?_ (ih hpl { st with dir := pushInlineModDirectory true fs st.dir name attrs })
      cases visitItemsW fs rec cur _ items <;> rfl
  · intro _ st
    rfl
  · intro d ds ihd ihds hpl st
    have hpl' : declPlain d = true ∧ itemsPlain ds = true := by simpa [itemsPlain] using hpl
    rw [visitItemsW, scanItems, foldOut_append, ← ihd hpl'.1 st]
    cases hv : visitSubModW fs rec cur st d with
    | error e => rfl
    | ok st1 =>
      have h2 := ihds hpl'.2 st1
      rw [visitSubModW_dir _ _ _ _ _ _ hv] at h2
      exact h2

/-- The resolver on `Core`: depth-first search over located declarations. -/
def exploreFile (fs : FS) : Nat → RecC
  | 0 => fun c _ _ items =>
    match items with
    | [] => .ok c
    | _ :: _ => .error .fuel
  | n + 1 => fun c p own items =>
    foldOut fs (exploreFile fs n) c (scanItems true fs (dirOf p own) items)

theorem visitFile_link (fs : FS) (hfs : fsPlain fs) :
    ∀ n, Link (visitFile fs n) (exploreFile fs n) := by
  intro n
  induction n with
  | zero =>
    intro c p own items d _ _
    cases items <;> rfl
  | succ n ih =>
    intro c p own items d hpl hd
    simp only [visitFile, exploreFile, dirOf, hd]
    exact (visit_flatten fs hfs _ _ ih (.real p)).2 items hpl _

/-- `visit_crate` on a tree without `cfg_attr(path)` is the depth-first search from the root. -/
theorem visitCrate_plain (fs : FS) (hfs : fsPlain fs) (fuel : Nat) (root : Path)
    (rootSkip g : Bool) (rootItems : List Decl) (own : Ownership)
    (hroot : nodeAt fs root = some (.file rootSkip g rootItems)) :
    visitCrate fs fuel (.real root) rootSkip rootItems own true =
      (exploreFile fs (fuel + 1) ⟨[root], []⟩ root own rootItems).map fun c =>
        insertReplace c.fileMap (.real root) ⟨rootItems, rootSkip, .real root⟩ := by
  have hflat : _ = foldOut fs (exploreFile fs fuel) ⟨[root], []⟩
      (scanItems true fs (dirOf root own) rootItems) :=
    (visit_flatten fs hfs _ _ (visitFile_link fs hfs fuel) (.real root)).2 rootItems
      (hfs _ _ _ _ hroot) ⟨⟨(parent root).getD [], own⟩, [root], []⟩
  unfold visitCrate
  simp only [if_true, exploreFile]
  rw [← hflat]
  cases visitItemsW fs (visitFile fs fuel) (.real root) _ rootItems <;> rfl

theorem foldOut_mono (fs : FS) {recC : RecC}
    (hrec : ∀ c p own items c', recC c p own items = .ok c' → c.parsed ⊆ c'.parsed)
    (c : Core) (ls : List Loc) : ∀ c', foldOut fs recC c ls = .ok c' → c.parsed ⊆ c'.parsed := by
  fun_induction foldOut fs recC c ls with
  | case1 => intro c' h; cases h; exact fun _ h => h
  | case3 c p own via ls hmem ih => exact ih
  | case6 c p own via ls hmem g items hn ih =>
    exact fun c' h x hx => ih c' h (List.mem_cons_of_mem _ hx)
  | case8 c p own via ls hmem g items hn c2 hr ih =>
    exact fun c' h x hx => ih c' h (hrec _ _ _ _ _ hr (List.mem_cons_of_mem _ hx))
  | _ => nofun

theorem exploreFile_mono (fs : FS) : ∀ n c p own items c',
    exploreFile fs n c p own items = .ok c' → c.parsed ⊆ c'.parsed := by
  intro n
  induction n with
  | zero =>
    intro c p own items c' h
    cases items with
    | nil => cases h; exact fun _ h => h
    | cons => cases h
  | succ n ih => exact fun c p own items => foldOut_mono fs ih c _

theorem ctxLocs_of_node {probe : Bool} {fs : FS} {p : Path} {own : Ownership} {s g items}
    (h : nodeAt fs p = some (.file s g items)) :
    ctxLocs probe fs ⟨p, own⟩ = scanItems probe fs (dirOf p own) items := by
  simp [ctxLocs, itemsAt, h]

theorem reach_live {probe : Bool} {fs : FS} {R c : Ctx} (h : Reach probe fs R c) :
    c = R ∨ LiveFile fs c.path := by
  cases h with
  | root => exact Or.inl rfl
  | step _ _ hl => exact Or.inr hl

section dfs
variable (fs : FS) (R : Ctx)

/-- A located declaration has been taken care of: its target is in the source map. -/
def Handled (c : Core) (l : Loc) : Prop :=
  ∃ p own via, l = .located p own via ∧ p ∈ c.parsed

theorem Handled.mono {c c' : Core} {l : Loc} (h : Handled c l) (hsub : c.parsed ⊆ c'.parsed) :
    Handled c' l := by
  obtain ⟨p, own, via, rfl, hp⟩ := h
  exact ⟨p, own, via, rfl, hsub hp⟩

/-- The invariant of the search. `G` is the set of files whose declarations are still being
processed (grey); everything else in the source map is finished (black). -/
structure Inv (c : Core) (G : List Path) : Prop where
  -- the root was parsed before the walk started
  rootIn : R.path ∈ c.parsed
  -- only files are ever entered into the source map
  files : ∀ p ∈ c.parsed, ∃ s g items, nodeAt fs p = some (.file s g items)
  -- what is parsed is a file of the crate, or a skipped file (parsed, then dropped)
  sound : ∀ p ∈ c.parsed, (∃ own, Reach true fs R ⟨p, own⟩) ∨
    (∃ g items, nodeAt fs p = some (.file true g items))
  -- the file map holds exactly the parsed live files other than the root
  keys : ∀ k, k ∈ keys c.fileMap ↔ ∃ p, k = .real p ∧ p ∈ c.parsed ∧ LiveFile fs p ∧ p ≠ R.path
  -- black files: under every ownership that reaches them, all their declarations are handled
  closed : ∀ p ∈ c.parsed, p ∉ G → ∀ own, Reach true fs R ⟨p, own⟩ →
    ∀ l ∈ ctxLocs true fs ⟨p, own⟩, Handled c l
  -- every entry carries the module loaded from its own file, without inner skip
  modsOk : ∀ e ∈ c.fileMap, e.2.spanFile = e.1 ∧ e.2.innerSkip = false

theorem Inv.init {s g items} (hroot : nodeAt fs R.path = some (.file s g items)) :
    Inv fs R ⟨[R.path], []⟩ [R.path] := by
  refine ⟨List.mem_singleton_self _, ?_, ?_, ?_, ?_, List.forall_mem_nil _⟩
  · intro p hp
    cases List.mem_singleton.1 hp
    exact ⟨_, _, _, hroot⟩
  · intro p hp
    cases List.mem_singleton.1 hp
    exact Or.inl ⟨R.own, Reach.root⟩
  · intro k
    refine ⟨nofun, ?_⟩
    rintro ⟨p, _, hp, _, hne⟩
    exact absurd (List.mem_singleton.1 hp) hne
  · exact fun p hp hpG => absurd hp hpG

/-- A file that is not yet in the source map is loaded: it becomes grey, and enters the file map
unless it is skipped. -/
theorem Inv.push {c : Core} {G : List Path} {p : Path} {s g : Bool} {items : List Decl}
    (hinv : Inv fs R c G) (hmem : p ∉ c.parsed) (hn : nodeAt fs p = some (.file s g items))
    (hreach : s = false → ∃ own, Reach true fs R ⟨p, own⟩) :
    Inv fs R ⟨p :: c.parsed,
      bif s then c.fileMap else insertIfAbsent c.fileMap (.real p) (loadedMod p items)⟩ (p :: G) := by
  have hpR : p ≠ R.path := fun h => hmem (h ▸ hinv.rootIn)
  have hnotkey : FileName.real p ∉ RF.Modules.keys c.fileMap := fun hk => by
    obtain ⟨q, hq, hqm, _⟩ := (hinv.keys _).1 hk
    cases hq
    exact hmem hqm
  refine ⟨List.mem_cons_of_mem _ hinv.rootIn, ?_, ?_, ?_, ?_, ?_⟩
  · intro q hq
    rcases List.mem_cons.1 hq with rfl | hq
    · exact ⟨_, _, _, hn⟩
    · exact hinv.files q hq
  · intro q hq
    rcases List.mem_cons.1 hq with rfl | hq
    · cases s
      · exact Or.inl (hreach rfl)
      · exact Or.inr ⟨_, _, hn⟩
    · exact hinv.sound q hq
  · intro k
    have hlive : LiveFile fs p ↔ s = false :=
      ⟨fun ⟨g', items', h⟩ => by rw [hn] at h; cases h; rfl, fun h => ⟨g, items, h ▸ hn⟩⟩
    have hk : k ∈ RF.Modules.keys
          (bif s then c.fileMap else insertIfAbsent c.fileMap (.real p) (loadedMod p items))
        ↔ k ∈ RF.Modules.keys c.fileMap ∨ (k = .real p ∧ s = false) := by
      cases s
      · simp [keys_insertIfAbsent, hnotkey]
      · simp
    rw [hk, hinv.keys k]
    constructor
    · rintro (⟨q, rfl, hq, hl, hne⟩ | ⟨rfl, hs⟩)
      · exact ⟨q, rfl, List.mem_cons_of_mem _ hq, hl, hne⟩
      · exact ⟨p, rfl, List.mem_cons_self, hlive.2 hs, hpR⟩
    · rintro ⟨q, rfl, hq, hl, hne⟩
      rcases List.mem_cons.1 hq with rfl | hq
      · exact Or.inr ⟨rfl, hlive.1 hl⟩
      · exact Or.inl ⟨q, rfl, hq, hl, hne⟩
  · intro q hq hqG own' hreach' l' hl'
    rcases List.mem_cons.1 hq with rfl | hq
    · exact absurd List.mem_cons_self hqG
    · exact (hinv.closed q hq (fun h => hqG (List.mem_cons_of_mem _ h)) own' hreach' l' hl').mono
        (List.subset_cons_self _ _)
  · intro e he
    cases s
    · rcases mem_insertIfAbsent he with he | rfl
      · exact hinv.modsOk e he
      · exact ⟨rfl, rfl⟩
    · exact hinv.modsOk e he

/-- A grey file all of whose declarations are handled becomes black. -/
theorem Inv.close {c : Core} {G : List Path} {p : Path} (hinv : Inv fs R c (p :: G))
    (h : ∀ own, Reach true fs R ⟨p, own⟩ → ∀ l ∈ ctxLocs true fs ⟨p, own⟩, Handled c l) :
    Inv fs R c G := by
  refine ⟨hinv.rootIn, hinv.files, hinv.sound, hinv.keys, ?_, hinv.modsOk⟩
  intro q hq hqG own hreach l hl
  by_cases hqp : q = p
  · exact h own (hqp ▸ hreach) l (hqp ▸ hl)
  · exact hinv.closed q hq (by simp [hqp, hqG]) own hreach l hl

/-- The outcome of a stretch of the search over the declarations `ls`: the invariant holds again and
`ls` are handled; or the error is one the specification has (or the fuel ran out). -/
def Searched (G : List Path) (ls : List Loc) : Except ErrKind Core → Prop
  | .ok c' => Inv fs R c' G ∧ ∀ l ∈ ls, Handled c' l
  | .error k => k = .fuel ∨ SpecErr true fs R k

/-- What the recursion into a file must deliver: called with `p` grey, it returns with `p` black. -/
def Contract (recC : RecC) : Prop :=
  ∀ (c : Core) (G : List Path) (p : Path) (own : Ownership) (s g : Bool) (items : List Decl),
    Inv fs R c (p :: G) → nodeAt fs p = some (.file s g items) → Reach true fs R ⟨p, own⟩ →
    Searched fs R G [] (recC c p own items)

theorem foldOut_spec (recC : RecC)
    (hmono : ∀ c p own items c', recC c p own items = .ok c' → c.parsed ⊆ c'.parsed)
    (hrec : Contract fs R recC)
    (src : Ctx) (hsrc : Reach true fs R src) (G : List Path) (c : Core) (ls : List Loc) :
    Inv fs R c G → ls ⊆ ctxLocs true fs src →
      Searched fs R G ls (foldOut fs recC c ls) := by
  -- once `p` is in the source map, the declaration that located `p` stays handled to the end
  have hcons : ∀ {c1 : Core} {p own via ls}, p ∈ c1.parsed →
      Searched fs R G ls (foldOut fs recC c1 ls) →
      Searched fs R G (.located p own via :: ls) (foldOut fs recC c1 ls) := by
    intro c1 p own via ls hp h
    generalize heq : foldOut fs recC c1 ls = r at h ⊢
    cases r with
    | error k => exact h
    | ok c' =>
      exact ⟨h.1, List.forall_mem_cons.2
        ⟨⟨p, own, via, rfl, foldOut_mono fs hmono _ _ _ heq hp⟩, h.2⟩⟩
  fun_induction foldOut fs recC c ls with
  | case1 => exact fun hinv _ => ⟨hinv, List.forall_mem_nil _⟩
  | case2 => exact fun _ hls => Or.inr ⟨src, _, hsrc, hls List.mem_cons_self, rfl⟩
  | case3 c p own via ls hmem ih =>
    exact fun hinv hls => hcons hmem (ih hinv (List.cons_subset.1 hls).2)
  | case4 c p own via ls hmem hn =>
    exact fun _ hls => Or.inr ⟨src, _, hsrc, hls List.mem_cons_self, by simp [locErr, hn]⟩
  | case5 c p own via ls hmem hn =>
    exact fun _ hls => Or.inr ⟨src, _, hsrc, hls List.mem_cons_self, by simp [locErr, hn]⟩
  | case6 c p own via ls hmem g items hn ih =>
    intro hinv hls
    -- a skipped file is no file of the crate: it goes straight from white to black
    have hinv1 := (hinv.push fs R hmem hn nofun).close fs R fun own' hr => by
      rcases reach_live hr with h | ⟨g', items', h⟩
      · rw [show p = R.path from congrArg Ctx.path h] at hmem
        exact absurd hinv.rootIn hmem
      · rw [hn] at h
        cases h
    exact hcons List.mem_cons_self (ih hinv1 (List.cons_subset.1 hls).2)
  | case7 c p own via ls hmem g items hn e hr =>
    intro hinv hls
    have hreach := Reach.step hsrc (hls List.mem_cons_self) ⟨g, items, hn⟩
    have := hrec _ G p own false g items (hinv.push fs R hmem hn fun _ => ⟨own, hreach⟩) hn hreach
    rw [cond_false, hr] at this
    exact this
  | case8 c p own via ls hmem g items hn c2 hr ih =>
    intro hinv hls
    have hreach := Reach.step hsrc (hls List.mem_cons_self) ⟨g, items, hn⟩
    have hinv2 := hrec _ G p own false g items (hinv.push fs R hmem hn fun _ => ⟨own, hreach⟩) hn
      hreach
    rw [cond_false, hr] at hinv2
    exact hcons (hmono _ _ _ _ _ hr List.mem_cons_self)
      (ih hinv2.1 (List.cons_subset.1 hls).2)

theorem exploreFile_contract (huniq : UniqueOwnership true fs R) :
    ∀ n, Contract fs R (exploreFile fs n) := by
  intro n
  induction n with
  | zero =>
    intro c G p own s g items hinv hn _
    cases items with
    | nil =>
      refine ⟨hinv.close fs R fun own' _ l hl => ?_, List.forall_mem_nil _⟩
      rw [ctxLocs_of_node hn] at hl
      cases hl
    | cons a b => exact Or.inl rfl
  | succ n ih =>
    intro c G p own s g items hinv hn hreach
    have := foldOut_spec fs R _ (exploreFile_mono fs n) ih ⟨p, own⟩ hreach (p :: G) c
      (scanItems true fs (dirOf p own) items) hinv (ctxLocs_of_node hn ▸ List.Subset.refl _)
    simp only [exploreFile]
    generalize foldOut fs (exploreFile fs n) c _ = r at this ⊢
    cases r with
    | error k => exact this
    | ok c' =>
      refine ⟨this.1.close fs R fun own' hr l hl => ?_, List.forall_mem_nil _⟩
      -- `p` is reached under one ownership only, so its declarations are the ones just processed
      cases huniq ⟨p, own'⟩ ⟨p, own⟩ hr hreach rfl
      exact this.2 l (ctxLocs_of_node hn ▸ hl)

theorem reach_in_parsed {c : Core} (hinv : Inv fs R c []) :
    ∀ x, Reach true fs R x → x.path ∈ c.parsed := by
  intro x hx
  induction hx with
  | root => exact hinv.rootIn
  | @step c0 p own via hc hl _ ih =>
    obtain ⟨p', own', via', heq, hp⟩ := hinv.closed c0.path ih (by simp) c0.own hc _ hl
    cases heq
    exact hp

theorem no_specErr_of_closed {c : Core} (hinv : Inv fs R c []) (k : ErrKind) :
    ¬ SpecErr true fs R k := by
  rintro ⟨x, l, hx, hl, herr⟩
  obtain ⟨p', own', via', heq, hp⟩ :=
    hinv.closed x.path (reach_in_parsed fs R hinv x hx) (by simp) x.own hx l hl
  subst heq
  obtain ⟨s, g, items, hn⟩ := hinv.files p' hp
  simp [locErr, hn] at herr

theorem Inv.mem_keys_iff {c : Core} (hinv : Inv fs R c []) (k : FileName) :
    k ∈ RF.Modules.keys c.fileMap ↔
      ∃ p own, k = .real p ∧ p ≠ R.path ∧ Reach true fs R ⟨p, own⟩ := by
  rw [hinv.keys k]
  constructor
  · rintro ⟨p, rfl, hp, ⟨g, items, hlive⟩, hne⟩
    rcases hinv.sound p hp with ⟨own, hr⟩ | ⟨g', items', hsk⟩
    · exact ⟨p, own, rfl, hne, hr⟩
    · rw [hsk] at hlive
      cases hlive
  · rintro ⟨p, own, rfl, hne, hr⟩
    refine ⟨p, rfl, reach_in_parsed fs R hinv _ hr, ?_, hne⟩
    exact (reach_live hr).resolve_left fun h => hne (congrArg Ctx.path h)

end dfs

theorem locate_failed {fs : FS} {dir : Directory} {name : Comp} {attrs : List Attr} {k : ErrKind} :
    locate fs dir name attrs = .failed k → k = .notfound ∨ k = .ambiguous := by
  fun_cases locate fs dir name attrs
  · nofun
  · nofun
  · rintro ⟨⟩
    exact Or.inl rfl
  · rintro ⟨⟩
    exact Or.inr rfl

theorem scan_failed (probe : Bool) (fs : FS) (k : ErrKind) :
    (∀ d : Decl, ∀ dir, Loc.failed k ∈ scanDecl probe fs dir d → k = .notfound ∨ k = .ambiguous) ∧
    (∀ ds : List Decl, ∀ dir, Loc.failed k ∈ scanItems probe fs dir ds →
      k = .notfound ∨ k = .ambiguous) := by
  apply decl_ind
  · intro name attrs dir h
    rw [scanDecl] at h
    split at h
    · cases h
    · exact locate_failed (List.mem_singleton.1 h).symm
  · intro name attrs items ih dir h
    rw [scanDecl] at h
    split at h
    · cases h
    · exact ih _ h
  · exact fun dir h => nomatch h
  · intro d ds ihd ihds dir h
    rw [scanItems] at h
    exact (List.mem_append.1 h).elim (ihd _) (ihds _)

/-- How many of the candidate paths `L` are not in `ps`. -/
def countOut (ps : List Path) : List Path → Nat
  | [] => 0
  | q :: rest => (if q ∈ ps then 0 else 1) + countOut ps rest

theorem countOut_le_length (ps L : List Path) : countOut ps L ≤ L.length := by
  induction L with
  | nil => exact Nat.le_refl 0
  | cons q rest ih => simp only [countOut, List.length_cons]; split <;> omega

theorem countOut_mono {ps ps' : List Path} (h : ps ⊆ ps') (L : List Path) :
    countOut ps' L ≤ countOut ps L := by
  induction L with
  | nil => exact Nat.le_refl 0
  | cons q rest ih =>
    simp only [countOut]
    by_cases hq : q ∈ ps
    · simp only [hq, h hq, if_true]; omega
    · simp only [hq, if_false]; split <;> omega

theorem countOut_cons_lt {p : Path} {ps L : List Path} (hp : p ∈ L) (hnp : p ∉ ps) :
    countOut (p :: ps) L < countOut ps L := by
  induction L with
  | nil => cases hp
  | cons q rest ih =>
    simp only [countOut]
    by_cases hqp : q = p
    · subst hqp
      have := countOut_mono (List.subset_cons_self q ps) rest
      simp only [List.mem_cons, true_or, if_true, hnp, if_false]
      omega
    · have := ih ((List.mem_cons.1 hp).resolve_left (Ne.symm hqp))
      by_cases hq : q ∈ ps
      · simp only [List.mem_cons, hq, or_true, if_true]; omega
      · simp only [List.mem_cons, hqp, hq, or_self, if_false]; omega

/-- The number of candidate paths not yet in the source map. -/
def unparsed (keysL : List Path) (c : Core) : Nat := countOut c.parsed keysL

theorem unparsed_mono (keysL : List Path) {c c' : Core} (h : c.parsed ⊆ c'.parsed) :
    unparsed keysL c' ≤ unparsed keysL c := countOut_mono h keysL

theorem unparsed_cons_lt (keysL : List Path) (p : Path) (ps : List Path) (fm fm')
    (hp : p ∈ keysL) (hnp : p ∉ ps) :
    unparsed keysL ⟨p :: ps, fm⟩ < unparsed keysL ⟨ps, fm'⟩ := countOut_cons_lt hp hnp

section fuel
variable (fs : FS) (R : Ctx) (keysL : List Path)

/-- Every file the resolver loads is one of the candidate paths `keysL`. -/
def KeyedLocs : Prop :=
  ∀ c, Reach true fs R c → ∀ p own via, Loc.located p own via ∈ ctxLocs true fs c →
    (∃ s g items, nodeAt fs p = some (.file s g items)) → p ∈ keysL

/-- Running out of fuel `n` levels down takes `n` candidates that are not yet parsed. -/
def FuelContract (n : Nat) (recC : RecC) : Prop :=
  ∀ (c : Core) (p : Path) (own : Ownership) (s g : Bool) (items : List Decl),
    nodeAt fs p = some (.file s g items) → Reach true fs R ⟨p, own⟩ →
    recC c p own items = .error .fuel → n ≤ unparsed keysL c

theorem foldOut_fuel (hk : KeyedLocs fs R keysL) (n : Nat) (recC : RecC)
    (hmono : ∀ c p own items c', recC c p own items = .ok c' → c.parsed ⊆ c'.parsed)
    (hrec : FuelContract fs R keysL n recC) (src : Ctx) (hsrc : Reach true fs R src)
    (c : Core) (ls : List Loc) : ls ⊆ ctxLocs true fs src →
      foldOut fs recC c ls = .error .fuel → n + 1 ≤ unparsed keysL c := by
  fun_induction foldOut fs recC c ls with
  | case1 => nofun
  | case2 c k =>
    intro hls hk'
    cases hk'
    rcases (scan_failed true fs .fuel).2 _ _ (hls List.mem_cons_self) with h | h <;> cases h
  | case3 c p own via ls hmem ih => exact fun hls => ih (List.cons_subset.1 hls).2
  | case4 c p own via => cases via <;> nofun
  | case5 => nofun
  | case6 c p own via ls hmem g items hn ih =>
    intro hls hf
    have := ih (List.cons_subset.1 hls).2 hf
    have := unparsed_mono keysL (c := c) (c' := ⟨p :: c.parsed, c.fileMap⟩) (List.subset_cons_self _ _)
    omega
  | case7 c p own via ls hmem g items hn e hr =>
    intro hls hf
    cases hf
    have hl := hls List.mem_cons_self
    -- loading `p` uses up a candidate
    exact Nat.lt_of_le_of_lt (hrec _ p own false g items hn (Reach.step hsrc hl ⟨g, items, hn⟩) hr)
      (unparsed_cons_lt keysL p c.parsed _ c.fileMap (hk src hsrc p own via hl ⟨_, _, _, hn⟩) hmem)
  | case8 c p own via ls hmem g items hn c2 hr ih =>
    intro hls hf
    have := ih (List.cons_subset.1 hls).2 hf
    have := unparsed_mono keysL (c := c) (c' := c2) fun x hx =>
      hmono _ _ _ _ _ hr (List.mem_cons_of_mem _ hx)
    omega

theorem exploreFile_fuel (hk : KeyedLocs fs R keysL) :
    ∀ n, FuelContract fs R keysL n (exploreFile fs n) := by
  intro n
  induction n with
  | zero => exact fun _ _ _ _ _ _ _ _ _ => Nat.zero_le _
  | succ n ih =>
    intro c p own s g items hn hreach
    exact foldOut_fuel fs R keysL hk n _ (exploreFile_mono fs n) ih ⟨p, own⟩ hreach c _
      (ctxLocs_of_node hn ▸ List.Subset.refl _)

end fuel

theorem reach_probe_iff {fs : FS} {R : Ctx} (h : ProbeAgrees fs R) (c : Ctx) :
    Reach true fs R c ↔ Reach false fs R c := by
  constructor
  · intro hc
    induction hc with
    | root => exact Reach.root
    | @step c0 p own via _ hl hlive ih => exact Reach.step ih (h c0 ih ▸ hl) hlive
  · intro hc
    induction hc with
    | root => exact Reach.root
    | @step c0 p own via hc0 hl hlive ih => exact Reach.step ih (h c0 hc0 ▸ hl) hlive

theorem specErr_probe_iff {fs : FS} {R : Ctx} (h : ProbeAgrees fs R) (k : ErrKind) :
    SpecErr true fs R k ↔ SpecErr false fs R k := by
  constructor
  · rintro ⟨c, l, hc, hl, he⟩
    have hc' := (reach_probe_iff h c).1 hc
    exact ⟨c, l, hc', h c hc' ▸ hl, he⟩
  · rintro ⟨c, l, hc, hl, he⟩
    exact ⟨c, l, (reach_probe_iff h c).2 hc, h c hc ▸ hl, he⟩

theorem unique_probe {fs : FS} {R : Ctx} (h : ProbeAgrees fs R) (hu : UniqueOwnership false fs R) :
    UniqueOwnership true fs R :=
  fun c₁ c₂ h₁ h₂ => hu c₁ c₂ ((reach_probe_iff h c₁).1 h₁) ((reach_probe_iff h c₂).1 h₂)

section treeSpec
variable (probe : Bool) (fs : FS) (R : Ctx)

/-- The declarations `ls` resolve, and their live targets are in `cs`. -/
def LocsIn (ls : List Loc) (cs : List Ctx) : Prop :=
  ∀ l ∈ ls, locErr fs l = none ∧
    ∀ p own via, l = .located p own via → LiveFile fs p → (⟨p, own⟩ : Ctx) ∈ cs

/-- `cs` is a closed set of files of the crate that holds the live targets of `ls`: its members are
reached, `ls` and the declarations of every member resolve, and their live targets are members. -/
def ClosedFor (ls : List Loc) (cs : List Ctx) : Prop :=
  (∀ c ∈ cs, Reach probe fs R c) ∧ LocsIn fs ls cs ∧ ∀ c ∈ cs, LocsIn fs (ctxLocs probe fs c) cs

/-- Recursion of the executable specification into a loaded file: stack, file, ownership, items. -/
abbrev RecF := List Path → Path → Ownership → List Decl → Except ErrKind (List Ctx)

/-- What the recursion of the executable specification into a file of the crate must deliver: a set
closed for the declarations of that file, or an error the declarative specification has (or
`fuel`/`circular`). -/
def ContractF (recF : RecF) : Prop :=
  ∀ stack p own s g items, nodeAt fs p = some (.file s g items) → Reach probe fs R ⟨p, own⟩ →
    match recF stack p own items with
    | .ok cs => ClosedFor probe fs R (ctxLocs probe fs ⟨p, own⟩) cs
    | .error k => k = .fuel ∨ k = .circular ∨ SpecErr probe fs R k

theorem LocsIn.mono {ls : List Loc} {cs cs' : List Ctx} (h : LocsIn fs ls cs) (hsub : cs ⊆ cs') :
    LocsIn fs ls cs' :=
  fun l hl => ⟨(h l hl).1, fun p own via e hlive => hsub ((h l hl).2 p own via e hlive)⟩

theorem reachLocsW_spec (recF) (hrec : ContractF probe fs R recF) (src : Ctx)
    (hsrc : Reach probe fs R src) (stack : List Path) (ls : List Loc) :
    ls ⊆ ctxLocs probe fs src →
      match reachLocsW fs recF stack ls with
      | .ok cs => ClosedFor probe fs R ls cs
      | .error k => k = .fuel ∨ k = .circular ∨ SpecErr probe fs R k := by
  -- cases: 1 end of the list; 2 failed; 3 missing; 4 directory; 5 skipped file; 6 `p` on the stack;
  -- 7 the recursion into `p` fails; 8 the rest fails; 9 both succeed
  fun_induction reachLocsW fs recF stack ls with
  | case1 => exact fun _ => ⟨List.forall_mem_nil _, List.forall_mem_nil _, List.forall_mem_nil _⟩
  | case2 k => exact fun hls => .inr (.inr ⟨src, _, hsrc, hls List.mem_cons_self, rfl⟩)
  | case3 p own via ls hn =>
    exact fun hls => .inr (.inr ⟨src, _, hsrc, hls List.mem_cons_self, by simp [locErr, hn]⟩)
  | case4 p own via ls hn =>
    exact fun hls => .inr (.inr ⟨src, _, hsrc, hls List.mem_cons_self, by simp [locErr, hn]⟩)
  | case5 p own via ls g items hn ih =>
    intro hls
    have ih := ih (List.cons_subset.1 hls).2
    split at ih
    · refine ⟨ih.1, List.forall_mem_cons.2 ⟨⟨by simp [locErr, hn], ?_⟩, ih.2.1⟩, ih.2.2⟩
      rintro _ _ _ ⟨⟩ ⟨g', items', hlive⟩
      rw [hn] at hlive
      cases hlive
    · exact ih
  | case6 => exact fun _ => .inr (.inl rfl)
  | case7 p own via ls g items hn hst e hr =>
    intro hls
    have := hrec stack p own false g items hn
      (Reach.step hsrc (hls List.mem_cons_self) ⟨g, items, hn⟩)
    rw [hr] at this
    exact this
  | case8 p own via ls g items hn hst ps hr e he ih =>
    intro hls
    have ih := ih (List.cons_subset.1 hls).2
    rw [he] at ih
    exact ih
  | case9 p own via ls g items hn hst ps hr qs hq ih =>
    intro hls
    have ih := ih (List.cons_subset.1 hls).2
    have hreach := Reach.step hsrc (hls List.mem_cons_self) ⟨g, items, hn⟩
    have hc := hrec stack p own false g items hn hreach
    rw [hr] at hc
    rw [hq] at ih
    have hps : ps ⊆ ⟨p, own⟩ :: ps ++ qs := fun y hy => by simp [hy]
    have hqs : qs ⊆ ⟨p, own⟩ :: ps ++ qs := fun y hy => by simp [hy]
    refine ⟨List.forall_mem_cons.2 ⟨hreach, List.forall_mem_append.2 ⟨hc.1, ih.1⟩⟩,
      List.forall_mem_cons.2 ⟨⟨by simp [locErr, hn], ?_⟩, ih.2.1.mono fs hqs⟩,
      List.forall_mem_cons.2 ⟨hc.2.1.mono fs hps, List.forall_mem_append.2
        ⟨fun c h => (hc.2.2 c h).mono fs hps, fun c h => (ih.2.2 c h).mono fs hqs⟩⟩⟩
    rintro _ _ _ ⟨⟩ _
    exact List.mem_cons_self

theorem reachFile_contract : ∀ n, ContractF probe fs R (reachFile probe fs n) := by
  intro n
  induction n with
  | zero =>
    intro stack p own s g items hn _
    cases items with
    | nil =>
      rw [ctxLocs_of_node hn]
      exact ⟨List.forall_mem_nil _, List.forall_mem_nil _, List.forall_mem_nil _⟩
    | cons a b => exact Or.inl rfl
  | succ n ih =>
    intro stack p own s g items hn hreach
    rw [ctxLocs_of_node hn]
    exact reachLocsW_spec probe fs R _ ih ⟨p, own⟩ hreach (p :: stack) _
      (ctxLocs_of_node hn ▸ List.Subset.refl _)

theorem closedFor_complete {cs : List Ctx} (h : ClosedFor probe fs R (ctxLocs probe fs R) cs) :
    ∀ c, Reach probe fs R c → (c = R ∨ c ∈ cs) ∧ LocsIn fs (ctxLocs probe fs c) cs := by
  intro c hc
  induction hc with
  | root => exact ⟨Or.inl rfl, h.2.1⟩
  | @step c0 p own via _ hl hlive ih =>
    have hin : (⟨p, own⟩ : Ctx) ∈ cs := (ih.2 _ hl).2 p own via rfl hlive
    exact ⟨Or.inr hin, h.2.2 _ hin⟩

end treeSpec

theorem lookupNode_mem {fs : FS} {p : Path} {n : Node} : lookupNode fs p = some n → (p, n) ∈ fs := by
  fun_induction lookupNode fs p with
  | case1 => nofun
  | case2 => rintro ⟨⟩; exact List.mem_cons_self
  | case3 k n' rest p hk ih => exact fun h => List.mem_cons_of_mem _ (ih h)

theorem nodeAt_file_mem {fs : FS} {p : Path} {s g items} :
    nodeAt fs p = some (.file s g items) →
    ∃ np, normAux fs [] p = some np ∧ (np, Node.file s g items) ∈ fs := by
  fun_cases nodeAt fs p
  · nofun
  · next np hnp =>
    refine fun h => ⟨np, hnp, ?_⟩
    revert h
    fun_cases nodeNorm fs np
    · nofun
    · next hl =>
      rintro ⟨⟩
      exact lookupNode_mem hl
    · nofun
    · nofun
  · nofun

theorem fsPlain_of_fsPlainB {fs : FS} (h : fsPlainB fs = true) : fsPlain fs := by
  intro p s g items hn
  obtain ⟨k, _, hk⟩ := nodeAt_file_mem hn
  exact List.all_eq_true.1 h _ hk

theorem liveB_of_live {fs : FS} {p : Path} (h : LiveFile fs p) : liveB fs p = true := by
  obtain ⟨g, items, h⟩ := h
  simp [liveB, h]

theorem reach_subset {probe : Bool} {fs : FS} {R : Ctx} {S : List Ctx} (hR : R ∈ S)
    (hclosed : closedB probe fs S = true) : ∀ c, Reach probe fs R c → c ∈ S := by
  intro c hc
  induction hc with
  | root => exact hR
  | @step c0 p own via _ hl hlive ih =>
    have h1 := List.all_eq_true.1 (List.all_eq_true.1 hclosed c0 ih) _ hl
    simpa [liveB_of_live hlive] using h1

theorem unique_of_uniqueB {probe : Bool} {fs : FS} {R : Ctx} {S : List Ctx} (hR : R ∈ S)
    (hclosed : closedB probe fs S = true) (hu : uniqueB S = true) :
    UniqueOwnership probe fs R := by
  intro c₁ c₂ h₁ h₂ hp
  have := List.all_eq_true.1 (List.all_eq_true.1 hu c₁ (reach_subset hR hclosed _ h₁)) c₂
    (reach_subset hR hclosed _ h₂)
  simpa [hp] using this

theorem probeAgrees_of_B {fs : FS} {R : Ctx} {S : List Ctx} (hR : R ∈ S)
    (hclosed : closedB false fs S = true) (hp : probeAgreesB fs S = true) : ProbeAgrees fs R := by
  intro c hc
  simpa using List.all_eq_true.1 hp c (reach_subset hR hclosed _ hc)

theorem hypsB_sound {fs : FS} {rounds : Nat} {root : Path} {own : Ownership}
    (h : hypsB fs rounds root own = true) :
    fsPlain fs ∧ UniqueOwnership false fs ⟨root, own⟩ ∧ ProbeAgrees fs ⟨root, own⟩ := by
  simp only [hypsB, Bool.and_eq_true, decide_eq_true_eq] at h
  obtain ⟨⟨⟨⟨h1, h2⟩, h3⟩, h4⟩, h5⟩ := h
  exact ⟨fsPlain_of_fsPlainB h1, unique_of_uniqueB h2 h3 h4, probeAgrees_of_B h2 h3 h5⟩

def isFileB (fs : FS) (p : Path) : Bool :=
  match nodeAt fs p with
  | some (.file _ _ _) => true
  | _ => false

/-- Every file located from a member of `S` is one of `keysL`. -/
def keyedB (fs : FS) (S : List Ctx) (keysL : List Path) : Bool :=
  S.all fun c => (ctxLocs true fs c).all fun l => match l with
    | .located p _ _ => !isFileB fs p || decide (p ∈ keysL)
    | .failed _ => true

theorem keyedLocs_of_B {fs : FS} {R : Ctx} {S : List Ctx} {keysL : List Path} (hR : R ∈ S)
    (hclosed : closedB true fs S = true) (hk : keyedB fs S keysL = true) :
    KeyedLocs fs R keysL := by
  intro c hc p own via hl hfile
  have h1 := List.all_eq_true.1 (List.all_eq_true.1 hk c (reach_subset hR hclosed _ hc)) _ hl
  obtain ⟨s, g, items, hn⟩ := hfile
  simpa [isFileB, hn] using h1

def compPlain (c : Comp) : Bool := decide (c ≠ dot) && decide (c ≠ dotdot)
def pathPlain (p : Path) : Bool := p.all compPlain
def ownPlain : Ownership → Bool
  | .owned (some r) => compPlain r
  | _ => true
def attrsDotFree (attrs : List Attr) : Bool :=
  attrs.all fun a => match a with
    | .path s => pathPlain (splitSlash s)
    | _ => true

mutual
/-- Module names are not `.`/`..` and no `#[path]` string has a `.` or `..` component. -/
def itemsDotFree : List Decl → Bool
  | [] => true
  | d :: ds => declDotFree d && itemsDotFree ds
def declDotFree : Decl → Bool
  | .ext name attrs => compPlain name && attrsDotFree attrs
  | .inline name attrs items => compPlain name && attrsDotFree attrs && itemsDotFree items
end

def fsDotFree (fs : FS) : Bool :=
  fs.all fun e => match e.2 with
    | .file _ _ items => itemsDotFree items
    | .dir => true

theorem pathPlain_cons {c : Comp} {p : Path} :
    pathPlain (c :: p) = true ↔ compPlain c = true ∧ pathPlain p = true := by
  simp [pathPlain]

theorem pathPlain_append {p q : Path} (hp : pathPlain p = true) (hq : pathPlain q = true) :
    pathPlain (p ++ q) = true := by
  simp only [pathPlain, List.all_append, Bool.and_eq_true] at *
  exact ⟨hp, hq⟩

theorem pathPlain_snoc {p : Path} {c : Comp} (hp : pathPlain p = true) (hc : compPlain c = true) :
    pathPlain (p ++ [c]) = true := pathPlain_append hp (pathPlain_cons.2 ⟨hc, rfl⟩)

theorem normAux_dotFree (fs : FS) : ∀ (p st : Path), pathPlain p = true →
    normAux fs st p = some (st ++ p) := by
  intro p
  induction p with
  | nil => intro st _; simp [normAux]
  | cons c cs ih =>
    intro st h
    obtain ⟨hc, hcs⟩ := pathPlain_cons.1 h
    simp only [compPlain, Bool.and_eq_true, decide_eq_true_eq] at hc
    simp only [normAux, hc.1, hc.2, if_false]
    rw [ih _ hcs, List.append_assoc, List.singleton_append]

theorem nodeAt_dotFree_mem {fs : FS} {p : Path} {s g items} (hp : pathPlain p = true)
    (h : nodeAt fs p = some (.file s g items)) : p ∈ fs.map (·.1) := by
  obtain ⟨np, hnp, hmem⟩ := nodeAt_file_mem h
  rw [normAux_dotFree fs p [] hp] at hnp
  cases hnp
  exact List.mem_map.2 ⟨_, hmem, rfl⟩

theorem pathPlain_join {dir : Path} {s : List Char} (hd : pathPlain dir = true)
    (hs : pathPlain (splitSlash s) = true) : pathPlain (join dir s) = true := by
  have hdrop : ∀ p, pathPlain p = true → pathPlain (dropInnerDots p) = true := by
    intro p hp
    cases p with
    | nil => rfl
    | cons c cs =>
      simp only [pathPlain, dropInnerDots, List.all_cons, Bool.and_eq_true, List.all_eq_true,
        List.mem_filter] at *
      exact ⟨hp.1, fun x hx => hp.2 x hx.1⟩
  unfold join
  apply hdrop
  split
  · exact pathPlain_cons.2 ⟨by decide, hs⟩
  · exact pathPlain_append hd hs

theorem compPlain_rs (name : Comp) : compPlain (name ++ rsExt) = true := by
  simp only [compPlain, Bool.and_eq_true, decide_eq_true_eq]
  constructor <;> intro h <;> have := congrArg List.length h <;>
    simp [rsExt, dot, dotdot] at this <;> omega

theorem findPathValue_dotFree {attrs : List Attr} {s : List Char} (h : attrsDotFree attrs = true)
    (hf : findPathValue attrs = some s) : pathPlain (splitSlash s) = true := by
  induction attrs with
  | nil => cases hf
  | cons a rest ih =>
    simp only [attrsDotFree, List.all_cons, Bool.and_eq_true] at h
    cases a with
    | path s' =>
      cases hf
      exact h.1
    | skip => exact ih h.2 hf
    | cfgAttrPath s' => exact ih h.2 hf

/-- Neither the path nor the relative offset of a directory has a `.`/`..` component. -/
def DirDotFree (d : Directory) : Prop := pathPlain d.path = true ∧ ownPlain d.ownership = true

theorem rustcDefault_dotFree {fs : FS} {name : Comp} {rel : Option Comp} {dirPath : Path}
    {r : Path × Ownership} (hd : DirDotFree ⟨dirPath, .owned rel⟩) (hn : compPlain name = true) :
    rustcDefaultSubmodPath fs name rel dirPath = .ok r → DirDotFree ⟨r.1, r.2⟩ := by
  have hpre : pathPlain (dirPath ++ match (generalizing := false) rel with
      | some r => [r]
      | none => []) = true := by
    cases rel with
    | none => simpa using hd.1
    | some r => exact pathPlain_snoc hd.1 hd.2
  fun_cases rustcDefaultSubmodPath fs name rel dirPath
  · rintro ⟨⟩
    exact ⟨pathPlain_snoc hpre (compPlain_rs name), hn⟩
  · rintro ⟨⟩
    exact ⟨pathPlain_append hpre (pathPlain_cons.2 ⟨hn, by decide⟩), rfl⟩
  · nofun
  · nofun

theorem defaultSubmodPath_dotFree {fs : FS} {name : Comp} {rel : Option Comp} {dirPath : Path}
    {r : Path × Ownership} (hd : DirDotFree ⟨dirPath, .owned rel⟩) (hn : compPlain name = true) :
    defaultSubmodPath fs name rel dirPath = .ok r → DirDotFree ⟨r.1, r.2⟩ := by
  fun_cases defaultSubmodPath fs name rel dirPath
  · next h1 =>
    rintro ⟨⟩
    exact rustcDefault_dotFree hd hn h1
  · next h2 =>
    rintro ⟨⟩
    exact rustcDefault_dotFree (rel := none) ⟨hd.1, rfl⟩ hn h2
  · nofun
  · nofun

theorem locate_dotFree {fs : FS} {dir : Directory} {name : Comp} {attrs : List Attr} {p : Path}
    {own : Ownership} {via : Bool} (hd : DirDotFree dir) (hn : compPlain name = true)
    (ha : attrsDotFree attrs = true) :
    locate fs dir name attrs = .located p own via → DirDotFree ⟨p, own⟩ := by
  have hrel : ownPlain (.owned (match (generalizing := false) dir.ownership with
      | .owned r => r
      | .unownedViaBlock => none)) = true := by
    cases hdo : dir.ownership with
    | unownedViaBlock => rfl
    | owned rel => exact hdo ▸ hd.2
  fun_cases locate fs dir name attrs
  · next hs =>
    rintro ⟨⟩
    unfold submodPathFromAttr at hs
    split at hs
    · next s hf =>
      cases hs
      exact ⟨pathPlain_join hd.1 (findPathValue_dotFree ha hf), rfl⟩
    · cases hs
  · next hdp =>
    rintro ⟨⟩
    exact defaultSubmodPath_dotFree ⟨hd.1, hrel⟩ hn hdp
  · nofun
  · nofun

theorem pushInline_dotFree {probe : Bool} {fs : FS} {dir : Directory} {name : Comp}
    {attrs : List Attr} (hd : DirDotFree dir) (hn : compPlain name = true)
    (ha : attrsDotFree attrs = true) : DirDotFree (pushInlineModDirectory probe fs dir name attrs) := by
  fun_cases pushInlineModDirectory probe fs dir name attrs
  · next s hf => exact ⟨pathPlain_join hd.1 (findPathValue_dotFree ha hf), rfl⟩
  · next ident hown _ _ =>
    have hid : ownPlain (.owned (some ident)) = true := hown ▸ hd.2
    exact ⟨pathPlain_snoc hd.1 hid, rfl⟩
  · next ident hown _ _ =>
    have hid : ownPlain (.owned (some ident)) = true := hown ▸ hd.2
    exact ⟨pathPlain_snoc (pathPlain_snoc hd.1 hid) hn, rfl⟩
  · exact ⟨pathPlain_snoc hd.1 hn, rfl⟩
  · exact ⟨pathPlain_snoc hd.1 hn, rfl⟩

theorem scan_dotFree (probe : Bool) (fs : FS) :
    (∀ d : Decl, declDotFree d = true → ∀ dir, DirDotFree dir →
      ∀ p own via, Loc.located p own via ∈ scanDecl probe fs dir d → DirDotFree ⟨p, own⟩) ∧
    (∀ ds : List Decl, itemsDotFree ds = true → ∀ dir, DirDotFree dir →
      ∀ p own via, Loc.located p own via ∈ scanItems probe fs dir ds → DirDotFree ⟨p, own⟩) := by
  apply decl_ind
  · intro name attrs hdf dir hd p own via h
    simp only [declDotFree, Bool.and_eq_true] at hdf
    rw [scanDecl] at h
    split at h
    · cases h
    · exact locate_dotFree hd hdf.1 hdf.2 (List.mem_singleton.1 h).symm
  · intro name attrs items ih hdf dir hd p own via h
    simp only [declDotFree, Bool.and_eq_true] at hdf
    rw [scanDecl] at h
    split at h
    · cases h
    · exact ih hdf.2 _ (pushInline_dotFree hd hdf.1.1 hdf.1.2) p own via h
  · exact fun _ dir _ p own via h => nomatch h
  · intro d ds ihd ihds hdf dir hd p own via h
    simp only [itemsDotFree, Bool.and_eq_true] at hdf
    rw [scanItems] at h
    exact (List.mem_append.1 h).elim (ihd hdf.1 dir hd p own via) (ihds hdf.2 dir hd p own via)

theorem ctxLocs_dotFree {probe : Bool} {fs : FS} (hfs : fsDotFree fs = true) {c : Ctx}
    (hc : DirDotFree ⟨c.path, c.own⟩) {p own via}
    (hl : Loc.located p own via ∈ ctxLocs probe fs c) : DirDotFree ⟨p, own⟩ := by
  have hitems : itemsDotFree (itemsAt fs c.path) = true := by
    unfold itemsAt
    split
    · next hn =>
      obtain ⟨k, _, hk⟩ := nodeAt_file_mem hn
      exact List.all_eq_true.1 hfs _ hk
    · rfl
  have hdir : pathPlain (dirOf c.path c.own).path = true := by
    unfold dirOf parent
    split
    · rfl
    · exact List.all_eq_true.2 fun x hx => List.all_eq_true.1 hc.1 x (List.dropLast_subset _ hx)
  exact (scan_dotFree probe fs).2 _ hitems _ ⟨hdir, hc.2⟩ p own via hl

theorem reach_dotFree {probe : Bool} {fs : FS} {R : Ctx} (hfs : fsDotFree fs = true)
    (hR : DirDotFree ⟨R.path, R.own⟩) : ∀ c, Reach probe fs R c → DirDotFree ⟨c.path, c.own⟩ := by
  intro c hc
  induction hc with
  | root => exact hR
  | step _ hl _ ih => exact ctxLocs_dotFree hfs ih hl

theorem keyedLocs_of_dotFree {fs : FS} {R : Ctx} (hfs : fsDotFree fs = true)
    (hR : DirDotFree ⟨R.path, R.own⟩) : KeyedLocs fs R (fs.map (·.1)) := by
  intro c hc p own via hl ⟨s, g, items, hn⟩
  exact nodeAt_dotFree_mem (ctxLocs_dotFree hfs (reach_dotFree hfs hR c hc) hl).1 hn

theorem formatProject_file (fs : FS) (fuel : Nat) (p : Path) (cfg : Config) (skip g : Bool)
    (items : List Decl) (hroot : nodeAt fs p = some (.file skip g items))
    (hnot : (cfg.skipChildren && cfg.ignored p) = false) :
    formatProject fs fuel (.file p) cfg =
      match visitCrate fs fuel (.real p) skip items
          ((toDirectoryOwnership fs p).getD .unownedViaBlock) (!cfg.skipChildren) with
      | .error e => .error e
      | .ok files =>
        .ok (keys (files.filter fun e => !shouldSkipModule fs cfg false (.real p) e.1 e.2)) := by
  simp only [formatProject, ignoreFile, hnot, parseFileAsModule, hroot]
  cases visitCrate fs fuel (.real p) skip items
    ((toDirectoryOwnership fs p).getD .unownedViaBlock) (!cfg.skipChildren) <;> simp

/-- What a successful `format_project` on a file input returns: nothing (an ignored input under
`skip_children`), or what the filter leaves of the map of `visit_crate`. -/
theorem formatProject_ok {fs : FS} {fuel : Nat} {p : Path} {cfg : Config} {names : List FileName}
    (h : formatProject fs fuel (.file p) cfg = .ok names) :
    names = [] ∨ ∃ skip items files,
      visitCrate fs fuel (.real p) skip items ((toDirectoryOwnership fs p).getD .unownedViaBlock)
        (!cfg.skipChildren) = .ok files ∧
      names = keys (files.filter fun e => !shouldSkipModule fs cfg false (.real p) e.1 e.2) := by
  unfold formatProject at h
  dsimp only at h
  repeat' split at h
  all_goals cases h
  · exact Or.inl rfl
  · next hv => exact Or.inr ⟨_, _, _, hv, rfl⟩

theorem mem_keys_filter (m : List (FileName × Mod)) (f : FileName × Mod → Bool) (k : FileName) :
    k ∈ keys (m.filter f) ↔ ∃ v, (k, v) ∈ m ∧ f (k, v) = true := by
  simp only [keys, List.mem_map, List.mem_filter]
  constructor
  · rintro ⟨⟨k', v⟩, ⟨hm, hf⟩, rfl⟩
    exact ⟨v, hm, hf⟩
  · rintro ⟨v, hm, hf⟩
    exact ⟨(k, v), ⟨hm, hf⟩, rfl⟩

theorem skipDecision_table (a b c d e f g : Bool) :
    skipDecision a b c d e f g = (a || (b && !c) || (!d && e) || (!d && !f && g)) := by
  simp only [skipDecision, Bool.if_true_left, Bool.or_assoc]
  cases d <;> simp

/-- An entry survives `should_skip_module` (file input) iff none of the four exclusions applies. -/
theorem shouldSkipModule_eq_false (fs : FS) (cfg : Config) (main k : FileName) (v : Mod) :
    shouldSkipModule fs cfg false main k v = false ↔
      v.innerSkip = false ∧ (cfg.skipChildren = true → k = main) ∧ ignoreFile cfg k = false ∧
        (cfg.formatGeneratedFiles = true ∨ generatedAt fs v.spanFile = false) := by
  simp only [shouldSkipModule, skipDecision_table, Bool.or_eq_false_iff, Bool.not_false,
    Bool.true_and, and_assoc]
  refine and_congr_right fun _ => and_congr ?_ (and_congr_right fun _ => ?_)
  · cases cfg.skipChildren <;> simp
  · cases cfg.formatGeneratedFiles <;> simp

/-- The filter of `specFormatted`, in the same terms. -/
theorem specKeep_iff (fs : FS) (cfg : Config) (root q : Path) (rootSkip : Bool) :
    (!(decide (q = root) && rootSkip) && !(cfg.skipChildren && decide (q ≠ root)) && !cfg.ignored q
      && (cfg.formatGeneratedFiles || !generatedAt fs (.real q))) = true ↔
    ¬(q = root ∧ rootSkip = true) ∧ (cfg.skipChildren = true → q = root) ∧ cfg.ignored q = false ∧
      (cfg.formatGeneratedFiles = true ∨ generatedAt fs (.real q) = false) := by
  cases cfg.skipChildren <;> simp [and_assoc, Decidable.imp_iff_not_or]

theorem mem_dedup (ps : List Path) (p : Path) : p ∈ dedup ps ↔ p ∈ ps := by
  fun_induction dedup ps <;> simp_all

/-- If the keys of the file map are the files `C` of the crate, each entry with the module of its
own file (an inner skip only on a skipped input), then `format_project` keeps of the map the files of
the crate to which none of the documented exclusions applies. -/
theorem mem_formatted_iff (fs : FS) (cfg : Config) {p : Path} {skip : Bool} {C : Path → Prop}
    {m : List (FileName × Mod)} (hm : ∀ k, k ∈ keys m ↔ ∃ q, k = .real q ∧ C q)
    (hent : ∀ e ∈ m, e.2.spanFile = e.1 ∧ (e.2.innerSkip = true ↔ e.1 = .real p ∧ skip = true))
    (k : FileName) :
    k ∈ keys (m.filter fun e => !shouldSkipModule fs cfg false (.real p) e.1 e.2) ↔
      ∃ q, k = .real q ∧ C q ∧ ¬(q = p ∧ skip = true) ∧ (cfg.skipChildren = true → q = p) ∧
        cfg.ignored q = false ∧
        (cfg.formatGeneratedFiles = true ∨ generatedAt fs (.real q) = false) := by
  simp only [mem_keys_filter, Bool.not_eq_true', shouldSkipModule_eq_false]
  constructor
  · rintro ⟨v, hv, h1, h2, h3, h4⟩
    obtain ⟨q, rfl, hq⟩ := (hm k).1 (List.mem_map.2 ⟨_, hv, rfl⟩)
    have he := hent _ hv
    refine ⟨q, rfl, hq, ?_, fun h => FileName.real.inj (h2 h), h3,
      (show v.spanFile = .real q from he.1) ▸ h4⟩
    rintro ⟨rfl, hs⟩
    have := he.2.2 ⟨rfl, hs⟩
    rw [h1] at this
    cases this
  · rintro ⟨q, rfl, hq, h1, h2, h3, h4⟩
    obtain ⟨⟨k', v⟩, hv, rfl⟩ := List.mem_map.1 ((hm _).2 ⟨q, rfl, hq⟩)
    have he := hent _ hv
    refine ⟨v, hv, ?_, fun h => congrArg _ (h2 h), h3,
      (show v.spanFile = .real q from he.1) ▸ h4⟩
    cases hi : v.innerSkip with
    | false => rfl
    | true => exact absurd ⟨FileName.real.inj (he.2.1 hi).1, (he.2.1 hi).2⟩ h1

/-- If the keys of the file map are the input and the files `ps` (entries as in `mem_formatted_iff`),
`format_project` keeps of the map what the filter of `specFormatted` keeps of `p :: ps`. -/
theorem filter_matches_spec (fs : FS) (cfg : Config) {p : Path} {skip : Bool} {ps : List Path}
    {m : List (FileName × Mod)}
    (hm : ∀ k, k ∈ keys m ↔ ∃ q, k = .real q ∧ (q = p ∨ q ∈ ps))
    (hent : ∀ e ∈ m, e.2.spanFile = e.1 ∧ (e.2.innerSkip = true ↔ e.1 = .real p ∧ skip = true))
    (k : FileName) :
    k ∈ keys (m.filter fun e => !shouldSkipModule fs cfg false (.real p) e.1 e.2) ↔
      ∃ q, k = .real q ∧ q ∈ (dedup (p :: ps)).filter fun q =>
        !(q = p && skip) && !(cfg.skipChildren && q ≠ p) && !cfg.ignored q
          && (cfg.formatGeneratedFiles || !generatedAt fs (.real q)) := by
  simp only [List.mem_filter, mem_dedup, List.mem_cons, specKeep_iff]
  exact mem_formatted_iff fs cfg hm hent k

end RF.Lemmas.Modules

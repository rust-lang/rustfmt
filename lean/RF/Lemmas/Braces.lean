import RF.Model.Braces
/-!
`rewriteMatchBodyWith` and `rewriteClosureWith` (model `RF/Model/Braces.lean`) by outcome: the oracles only choose among
a few candidates, and every theorem of `RF/Props/Braces.lean` about what is printed is read off the list of candidates.
-/
namespace RF.Braces
open RF.Opt

/-- a conditional returns only what one of its branches returns -/
theorem of_ite_eq_some {α : Type} {G p : Prop} [Decidable p] {r s : Option α} {a : α}
    (hr : r = some a → G) (hs : s = some a → G) : (if p then r else s) = some a → G := by
  split <;> assumption

/-- `rewrite_match_body` returns `combine_orig_body` or `combine_next_line_body` on the flattened body `b`, and the
second is one of three texts according to whether `b` is a block and whether braces may be added. -/
theorem rewriteMatchBodyWith_cases (wc : ArmCfg → Bool → Bool) (c : ArmCfg) (x : ArmCtx) (o : ArmOrc) (body : Expr)
    (out : ArmOut) (h : rewriteMatchBodyWith wc c x o body = some out) :
    let b := (flattenArmBody c.forceMultilineBlocks c.insideMacro (o.shapeOk && o.condMulti body) body).2
    out = ⟨.sameLine, b, armCommaOf c b x.isLast, false⟩ ∨
    (b.isBlock = true ∧ out = ⟨.nextLine, b, armCommaOf c b x.isLast, true⟩) ∨
    (b.isBlock = false ∧ c.matchArmBlocks = true ∧ c.insideMacro = false ∧
      out = ⟨.nextLineBlock, wrapArm c b, wc c x.isLast,
        ((x.guardMl && !b.isEmptyBlock) || b.attrs != 0) || x.arrowComment⟩) ∨
    (b.isBlock = false ∧ (c.matchArmBlocks && !c.insideMacro) = false ∧ out = ⟨.nextLine, b, true, true⟩) := by
  unfold rewriteMatchBodyWith at h
  extract_lets fl extend b isBlock comma forbid same next orig at h
  intro _
  -- which candidate wins is the oracles' business
  clear_value orig
  have hout : out = same ∨ out = next := by
    have hs : some same = some out → out = same ∨ out = next := fun h => .inl (Option.some.inj h).symm
    have hn : some next = some out → out = same ∨ out = next := fun h => .inr (Option.some.inj h).symm
    revert h
    cases orig with
    | ok multi fits firstFits =>
      exact of_ite_eq_some hs (of_ite_eq_some (of_ite_eq_some hn (of_ite_eq_some hs (of_ite_eq_some hn hs))) hs)
    | err => exact of_ite_eq_some hn nofun
  refine hout.imp id fun hn => ?_
  by_cases hb : b.isBlock = true
  · exact .inl ⟨hb, hn.trans (if_pos hb)⟩
  · by_cases hm : (c.matchArmBlocks && !c.insideMacro) = true
    · have hm' : c.matchArmBlocks = true ∧ c.insideMacro = false := by simpa using hm
      exact .inr (.inl ⟨by simpa using hb, hm'.1, hm'.2, hn.trans ((if_neg hb).trans (if_pos hm))⟩)
    · exact .inr (.inr ⟨by simpa using hb, by simpa using hm, hn.trans ((if_neg hb).trans (if_neg hm))⟩)

/-- the added block is a block to `arm_comma` -/
theorem armCommaOf_wrapArm (c : ArmCfg) (e : Expr) (isLast : Bool) :
    armCommaOf c (wrapArm c e) isLast = wrapComma c isLast := by
  unfold wrapArm armCommaOf wrapComma
  split <;> rfl

/-- `rewrite_closure` keeps a block body as it is, or (without a return type, outside macros) prints what `inner` finds
in it, bare or in a new block; a body that is not a block is printed bare or in a new block. -/
theorem rewriteClosureWith_cases (inner : Bool → Expr → Expr) (c : CloCfg) (o : CloOrc) (ret : Bool) (body : Expr)
    (out : CloOut) (h : rewriteClosureWith inner c o ret body = some out) :
    (body.isBlock = true ∧ (out = ⟨.emptyBlock, body⟩ ∨ out = ⟨.keepBlock, body⟩)) ∨
    (body.isBlock = true ∧ ret = false ∧ c.insideMacro = false ∧
      (out = ⟨.expr, inner o.prefixMl body⟩ ∨ out = ⟨.withBlock, wrapClosure (inner o.prefixMl body)⟩)) ∨
    (body.isBlock = false ∧ (out = ⟨.expr, body⟩ ∨ out = ⟨.withBlock, wrapClosure body⟩)) := by
  unfold rewriteClosureWith at h
  extract_lets keep e at h
  revert h
  by_cases hb : body.isBlock = true
  · rw [if_pos hb]
    have hkeep : keep = some out → out = ⟨.keepBlock, body⟩ :=
      of_ite_eq_some (fun h => (Option.some.inj h).symm) nofun
    refine of_ite_eq_some (of_ite_eq_some (fun h => .inl ⟨hb, .inl (Option.some.inj h).symm⟩) nofun) ?_
    by_cases hr : (!ret && !c.insideMacro) = true
    · rw [if_pos hr]
      have hr' : ret = false ∧ c.insideMacro = false := by simpa using hr
      exact of_ite_eq_some
        (of_ite_eq_some (fun h => .inr (.inl ⟨hb, hr'.1, hr'.2, .inr (Option.some.inj h).symm⟩))
          fun h => .inl ⟨hb, .inr (hkeep h)⟩)
        (of_ite_eq_some (fun h => .inr (.inl ⟨hb, hr'.1, hr'.2, .inl (Option.some.inj h).symm⟩))
          fun h => .inl ⟨hb, .inr (hkeep h)⟩)
    · rw [if_neg hr]
      exact fun h => .inl ⟨hb, .inr (hkeep h)⟩
  · rw [if_neg hb]
    have hb' : body.isBlock = false := by simpa using hb
    exact of_ite_eq_some (fun h => .inr (.inr ⟨hb', .inl (Option.some.inj h).symm⟩))
      (of_ite_eq_some (fun h => .inr (.inr ⟨hb', .inr (Option.some.inj h).symm⟩)) nofun)

end RF.Braces

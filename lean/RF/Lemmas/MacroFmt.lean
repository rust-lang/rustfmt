import RF.Model.MacroFmt
import RF.Lemmas.CharClasses
/-!
Lemmas behind `RF/Props/MacroFmt.lean`.

* The matcher formatter.  `Arg.toks` is the token sequence an argument stands for, `wsOk` says that
  the white-space pieces of a text are blank.  What a successful call of each function of the
  rewrite (`wrapInnerWith`, `rewriteDelimitedWith`, `wrapMacroArgs`, …) and of the parser
  (`stepTok`, `stepDelim`, `finish`) did is stated once (`…_ok`); both facts follow from that:
  the rewrite emits exactly `Arg.toks` and blank white space, the parser keeps
  `result ++ pending ++ rest = input` and only blank white space in its state.
* `replace_names`: `str::replace` as a scan over a segmented text, and `replace_names` as the
  segmentation of its input.
* Macro calls: the delimiter `callPlan` emits (`callPlan_delim`).
-/
namespace RF.MacroFmt
open RF.Shape

/-! ## Pieces -/

theorem toks_append (a b : List Piece) : toks (a ++ b) = toks a ++ toks b := by
  induction a with
  | nil => rfl
  | cons p ps ih => cases p <;> simp [toks, ih]

@[simp] theorem toks_nil : toks [] = [] := rfl
@[simp] theorem toks_sp : toks [sp] = [] := rfl
@[simp] theorem toks_ws (cs : List Char) : toks [.ws cs] = [] := rfl
@[simp] theorem toks_ptok (t : Tok) : toks [ptok t] = [.t t] := rfl
@[simp] theorem toks_cons_ft (t : FTok) (ps : List Piece) : toks (.ft t :: ps) = t :: toks ps := rfl
@[simp] theorem toks_cons_ws (cs : List Char) (ps : List Piece) : toks (.ws cs :: ps) = toks ps := rfl
@[simp] theorem toks_cons_ptok (t : Tok) (ps : List Piece) : toks (ptok t :: ps) = .t t :: toks ps := rfl
@[simp] theorem toks_cons_sp (ps : List Piece) : toks (sp :: ps) = toks ps := rfl

theorem render_append (a b : List Piece) : render (a ++ b) = render a ++ render b := by
  induction a with
  | nil => rfl
  | cons p ps ih => simp [render, ih]

theorem popChar_sp (xs : List Piece) : popChar (xs ++ [sp]) = xs := by
  simp [popChar, sp]

def blankChar (c : Char) : Prop := c = ' ' ∨ c = '\n' ∨ c = '\t'

/-- every white-space piece consists of blanks, line feeds and tabs -/
def wsOk (ps : List Piece) : Prop := ∀ cs, Piece.ws cs ∈ ps → ∀ c ∈ cs, blankChar c

theorem wsOk_nil : wsOk [] := by intro cs h; cases h

theorem wsOk_append {a b : List Piece} : wsOk (a ++ b) ↔ wsOk a ∧ wsOk b := by
  simp only [wsOk, List.mem_append, or_imp, forall_and]

theorem wsOk_cons_ft (t : FTok) {ps : List Piece} : wsOk (.ft t :: ps) ↔ wsOk ps := by
  simp only [wsOk, List.mem_cons, reduceCtorEq, false_or]

theorem wsOk_cons_ws (cs : List Char) {ps : List Piece} :
    wsOk (.ws cs :: ps) ↔ (∀ c ∈ cs, blankChar c) ∧ wsOk ps := by
  simp only [wsOk, List.mem_cons, Piece.ws.injEq, or_imp, forall_and, forall_eq]

theorem wsOk_sp : wsOk [sp] :=
  (wsOk_cons_ws _).2 ⟨fun _ hc => Or.inl (List.mem_singleton.1 hc), wsOk_nil⟩

theorem wsOk_ptok (t : Tok) : wsOk [ptok t] := (wsOk_cons_ft _).2 wsOk_nil

theorem wsOk_single_ws {cs : List Char} (h : ∀ c ∈ cs, blankChar c) : wsOk [.ws cs] :=
  (wsOk_cons_ws _).2 ⟨h, wsOk_nil⟩

theorem wsOk_dropLast {ps : List Piece} (h : wsOk ps) : wsOk ps.dropLast :=
  fun cs hc => h cs (List.dropLast_subset _ hc)

theorem wsOk_popChar {ps : List Piece} (h : wsOk ps) : wsOk (popChar ps) := by
  unfold popChar
  split
  · exact wsOk_nil
  · rename_i cs hl
    split
    · exact wsOk_dropLast h
    · exact wsOk_append.2 ⟨wsOk_dropLast h, wsOk_single_ws fun c hc =>
        h cs (List.mem_of_getLast? hl) c (List.dropLast_subset _ hc)⟩
  · split
    · exact wsOk_dropLast h
    · exact wsOk_append.2 ⟨wsOk_dropLast h, (wsOk_cons_ft _).2 wsOk_nil⟩
  · exact wsOk_dropLast h

/-! ## The tokens an argument stands for; arguments whose white space is blank -/

mutual
def Arg.toks : Arg → List FTok
  | .metaVar ty name => .t dollar :: (toks name ++ [.t colon, .t ⟨.Ident, ty⟩])
  | .repeat d args another tok =>
    .t dollar :: .o d :: (argsToks args ++ .c d :: (toks (another.getD []) ++ [.t tok]))
  | .delimited d args => .o d :: (argsToks args ++ [.c d])
  | .separator s pre => toks pre ++ toks s
  | .other inner pre => toks pre ++ toks inner
def argsToks : List Arg → List FTok
  | [] => []
  | a :: as => a.toks ++ argsToks as
end

@[simp] theorem argsToks_nil : argsToks [] = [] := by simp [argsToks]
@[simp] theorem argsToks_cons (a : Arg) (as : List Arg) : argsToks (a :: as) = a.toks ++ argsToks as := by
  simp [argsToks]
@[simp] theorem argsToks_single (a : Arg) : argsToks [a] = a.toks := by simp [argsToks]

theorem argsToks_append (a b : List Arg) : argsToks (a ++ b) = argsToks a ++ argsToks b := by
  induction a with
  | nil => simp
  | cons x xs ih => simp [ih]

mutual
def Arg.wsOk : Arg → Prop
  | .metaVar _ name => RF.MacroFmt.wsOk name
  | .repeat _ args another _ => argsWsOk args ∧ RF.MacroFmt.wsOk (another.getD [])
  | .delimited _ args => argsWsOk args
  | .separator s pre => RF.MacroFmt.wsOk s ∧ RF.MacroFmt.wsOk pre
  | .other inner pre => RF.MacroFmt.wsOk inner ∧ RF.MacroFmt.wsOk pre
def argsWsOk : List Arg → Prop
  | [] => True
  | a :: as => a.wsOk ∧ argsWsOk as
end

theorem argsWsOk_append {a b : List Arg} : argsWsOk (a ++ b) ↔ argsWsOk a ∧ argsWsOk b := by
  induction a with
  | nil => simp [argsWsOk]
  | cons x xs ih => simp [argsWsOk, ih, and_assoc]

theorem argsWsOk_snoc {as : List Arg} {a : Arg} : argsWsOk (as ++ [a]) ↔ argsWsOk as ∧ a.wsOk := by
  simp only [argsWsOk_append, argsWsOk, and_true]

/-! ## The rewrite: what a successful call did -/

theorem retry_ok {α : Type} {a : R α} {b : Unit → R α} {x : α} (h : retry a b = .ok x) :
    a = .ok x ∨ b () = .ok x := by
  unfold retry at h
  split at h
  · exact Or.inr h
  · exact Or.inl h

theorem indent_blank {self : Indent} {config : Config} {offset : Nat} {s : List Char}
    (h : self.to_string_inner config offset = .ok s) : ∀ c ∈ s, blankChar c := by
  unfold Indent.to_string_inner at h
  simp only at h
  split at h
  · cases h
  · split at h
    · unfold sliceInclusive at h
      split at h
      · injection h with h
        subst h
        intro c hc
        have := List.mem_of_mem_drop (List.mem_of_mem_take hc)
        simp [INDENT_BUFFER] at this
        rcases this with h1 | h1
        · exact Or.inr (Or.inl h1)
        · exact Or.inl h1
      · cases h
    · injection h with h
      subst h
      intro c hc
      simp only [List.mem_append, List.mem_replicate] at hc
      rcases hc with (hc | hc) | hc
      · split at hc
        · simp at hc; exact Or.inr (Or.inl hc)
        · cases hc
      · exact Or.inr (Or.inr hc.2)
      · exact Or.inl hc.2

theorem liftPanic_indent_blank {self : Indent} {config : Config} {s : List Char}
    (h : liftPanic (self.to_string_with_newline config) = .ok s) : ∀ c ∈ s, blankChar c := by
  unfold liftPanic at h
  split at h
  · rename_i a ha
    cases h
    exact indent_blank ha
  · cases h

theorem delimTokenToStr_ok {config : Config} {d : Delim} {shape : Shape} {multi ie : Bool}
    {lhs rhs : List Piece} (h : delimTokenToStr config d shape multi ie = .ok (lhs, rhs)) :
    toks lhs = [.o d] ∧ toks rhs = [.c d] ∧ wsOk lhs ∧ wsOk rhs := by
  have hpad : ∀ b : Bool, toks (if b then [sp] else []) = [] ∧ wsOk (if b then [sp] else []) := by
    intro b
    cases b
    · exact ⟨rfl, wsOk_nil⟩
    · exact ⟨rfl, wsOk_sp⟩
  unfold delimTokenToStr at h
  simp only at h
  split at h
  · split at h
    · cases h
    · rename_i ind hind
      split at h
      · cases h
      · rename_i nested hnested
        cases h
        simp only [toks_append, toks_cons_ft, toks_cons_ws, (hpad _).1, toks_nil,
          wsOk_append, wsOk_cons_ft, wsOk_cons_ws, (hpad _).2, List.append_nil, List.nil_append]
        exact ⟨trivial, trivial, ⟨trivial, liftPanic_indent_blank hnested, wsOk_nil⟩,
          liftPanic_indent_blank hind, trivial, wsOk_nil⟩
  · cases h
    simp only [toks_append, toks_cons_ft, (hpad _).1, toks_nil, wsOk_append, wsOk_cons_ft,
      (hpad _).2, List.nil_append]
    exact ⟨trivial, trivial, trivial, trivial, wsOk_nil⟩

theorem wrapInnerWith_ok {config : Config} {shape : Shape} {multi : Bool}
    {loop : List Char → R (List Piece)} {ps : List Piece}
    (h : wrapInnerWith config shape multi loop = .ok ps) :
    ∃ ind, (∀ c ∈ ind, blankChar c) ∧ loop ind = .ok ps := by
  revert h
  fun_cases wrapInnerWith config shape multi loop <;> intro h <;> cases h
  case case4 ind hind hr _ => exact ⟨ind, liftPanic_indent_blank hind, hr⟩

theorem wrapMacroArgs_ok {config : Config} {shape : Shape} {args : List Arg} {ps : List Piece}
    (h : wrapMacroArgs config shape args = .ok ps) :
    ∃ multi ind, (∀ c ∈ ind, blankChar c) ∧ wrapLoop config shape multi ind [] args = .ok ps := by
  rcases retry_ok h with h | h
  · exact ⟨false, wrapInnerWith_ok h⟩
  · exact ⟨true, wrapInnerWith_ok h⟩

theorem rewriteDelimitedWith_ok {config : Config} {shape : Shape} {d : Delim}
    {wrap : Shape → R (List Piece)} {ps : List Piece}
    (h : rewriteDelimitedWith config shape d wrap = .ok ps) :
    ∃ lhs inner rhs sh, ps = lhs ++ inner ++ rhs ∧ wrap sh = .ok inner ∧
      toks lhs = [.o d] ∧ toks rhs = [.c d] ∧ wsOk lhs ∧ wsOk rhs := by
  revert h
  fun_cases rewriteDelimitedWith config shape d wrap <;> intro h <;> cases h
  case case3 inner hi lhs rhs hd _ => exact ⟨lhs, inner, rhs, _, rfl, hi, delimTokenToStr_ok hd⟩
  case case6 lhs rhs hd inner hi => exact ⟨lhs, inner, rhs, _, rfl, hi, delimTokenToStr_ok hd⟩

/-- The rewrite of a separator ends with the blank that `wrapGlue` may pop. -/
theorem rewriteArg_endsWithSpace {config : Config} {shape : Shape} {arg : Arg} {r : List Piece}
    (hr : rewriteArg config shape arg = .ok r) (he : arg.endsWithSpace = true) :
    ∃ Y, r = Y ++ [sp] := by
  cases arg <;> simp only [Arg.endsWithSpace, Bool.false_eq_true] at he
  rename_i s pre
  cases hr
  exact ⟨pre ++ s, rfl⟩

/-- `wrapGlue` leaves the text as it is, or puts a blank behind it, or the line break and
indentation, in that case taking away the blank a separator ends with. -/
theorem wrapGlue_cases {P : List Piece → Prop} (multi : Bool) (ind : List Char) (arg : Arg)
    (next : Option Arg) (X : List Piece)
    (h1 : P ((if arg.endsWithSpace = true then popChar X else X) ++ [.ws ind]))
    (h2 : P (X ++ [sp])) (h3 : P X) : P (wrapGlue multi ind arg next X) := by
  fun_cases wrapGlue multi ind arg next X
  · exact h1
  · exact h2
  · exact h3
  · exact h3

theorem wrapGlue_toks (multi : Bool) (ind : List Char) (arg : Arg) (next : Option Arg)
    (X : List Piece) (hX : arg.endsWithSpace = true → ∃ Y, X = Y ++ [sp]) :
    toks (wrapGlue multi ind arg next X) = toks X := by
  refine wrapGlue_cases (P := fun Z => toks Z = toks X) multi ind arg next X ?_ ?_ rfl
  · rw [toks_append, toks_ws, List.append_nil]
    split
    · rename_i he
      obtain ⟨Y, rfl⟩ := hX he
      rw [popChar_sp, toks_append, toks_sp, List.append_nil]
    · rfl
  · rw [toks_append, toks_sp, List.append_nil]

theorem wrapGlue_ws (multi : Bool) (ind : List Char) (arg : Arg) (next : Option Arg)
    (X : List Piece) (hind : ∀ c ∈ ind, blankChar c) (hX : wsOk X) :
    wsOk (wrapGlue multi ind arg next X) := by
  refine wrapGlue_cases multi ind arg next X ?_ (wsOk_append.2 ⟨hX, wsOk_sp⟩) hX
  refine wsOk_append.2 ⟨?_, wsOk_single_ws hind⟩
  split
  · exact wsOk_popChar hX
  · exact hX

/-- A delimited group, given what the loop does on its arguments: `.o d`, the arguments, `.c d`. -/
theorem delimited_toks {config : Config} {shape : Shape} {d : Delim} {args : List Arg}
    {ps : List Piece}
    (ih : ∀ sh multi ind ps, wrapLoop config sh multi ind [] args = .ok ps → toks ps = argsToks args)
    (h : rewriteDelimitedWith config shape d (fun sh => wrapMacroArgs config sh args) = .ok ps) :
    toks ps = .o d :: (argsToks args ++ [.c d]) := by
  obtain ⟨lhs, inner, rhs, sh, rfl, hi, hl, hr, -, -⟩ := rewriteDelimitedWith_ok h
  obtain ⟨multi, ind, -, hloop⟩ := wrapMacroArgs_ok hi
  rw [toks_append, toks_append, hl, hr, ih _ _ _ _ hloop]
  rfl

theorem delimited_ws {config : Config} {shape : Shape} {d : Delim} {args : List Arg}
    {ps : List Piece}
    (ih : ∀ sh multi ind ps, (∀ c ∈ ind, blankChar c) →
      wrapLoop config sh multi ind [] args = .ok ps → wsOk ps)
    (h : rewriteDelimitedWith config shape d (fun sh => wrapMacroArgs config sh args) = .ok ps) :
    wsOk ps := by
  obtain ⟨lhs, inner, rhs, sh, rfl, hi, -, -, hl, hr⟩ := rewriteDelimitedWith_ok h
  obtain ⟨multi, ind, hind, hloop⟩ := wrapMacroArgs_ok hi
  exact wsOk_append.2 ⟨wsOk_append.2 ⟨hl, ih _ _ _ _ hind hloop⟩, hr⟩

/-! ## The rewrite emits exactly the tokens of its arguments -/

mutual
theorem rewriteArg_toks (config : Config) :
    ∀ (a : Arg) (shape : Shape) (ps : List Piece), rewriteArg config shape a = .ok ps → toks ps = a.toks
  | .metaVar ty name, shape, ps, h => by
    cases h
    simp [Arg.toks, toks_append]
  | .repeat d args another tok, shape, ps, h => by
    simp only [rewriteArg] at h
    split at h
    · cases h
    · rename_i b hb
      cases h
      simp [Arg.toks, toks_append,
        delimited_toks (fun sh multi ind ps => wrapLoop_toks config args sh multi ind [] ps) hb]
  | .delimited d args, shape, ps, h =>
    delimited_toks (fun sh multi ind ps => wrapLoop_toks config args sh multi ind [] ps) h
  | .separator s pre, shape, ps, h => by
    cases h
    simp [Arg.toks, toks_append]
  | .other inner pre, shape, ps, h => by
    cases h
    simp [Arg.toks, toks_append]
theorem wrapLoop_toks (config : Config) :
    ∀ (args : List Arg) (shape : Shape) (multi : Bool) (ind : List Char) (acc ps : List Piece),
      wrapLoop config shape multi ind acc args = .ok ps → toks ps = toks acc ++ argsToks args
  | [], shape, multi, ind, acc, ps, h => by
    cases h
    simp
  | arg :: rest, shape, multi, ind, acc, ps, h => by
    simp only [wrapLoop] at h
    split at h
    · cases h
    · rename_i r hr
      rw [wrapLoop_toks config rest shape multi ind _ ps h, wrapGlue_toks, toks_append,
        rewriteArg_toks config arg shape r hr, argsToks_cons, List.append_assoc]
      intro he
      obtain ⟨Y, rfl⟩ := rewriteArg_endsWithSpace hr he
      exact ⟨acc ++ Y, (List.append_assoc ..).symm⟩
end

theorem wrapMacroArgs_toks {config : Config} {shape : Shape} {args : List Arg} {ps : List Piece}
    (h : wrapMacroArgs config shape args = .ok ps) : toks ps = argsToks args := by
  obtain ⟨multi, ind, -, hloop⟩ := wrapMacroArgs_ok h
  exact wrapLoop_toks config args shape multi ind [] ps hloop

/-! ## What the rewrite adds is blank -/

mutual
theorem rewriteArg_ws (config : Config) :
    ∀ (a : Arg) (shape : Shape) (ps : List Piece), a.wsOk → rewriteArg config shape a = .ok ps → wsOk ps
  | .metaVar ty name, shape, ps, ha, h => by
    cases h
    simp only [Arg.wsOk] at ha
    exact (wsOk_cons_ft _).2 (wsOk_append.2 ⟨ha, (wsOk_cons_ft _).2 (wsOk_ptok _)⟩)
  | .repeat d args another tok, shape, ps, ha, h => by
    simp only [rewriteArg] at h
    simp only [Arg.wsOk] at ha
    split at h
    · cases h
    · rename_i b hb
      cases h
      have hb := delimited_ws
        (fun sh multi ind ps hi => wrapLoop_ws config args sh multi ind [] ps ha.1 hi wsOk_nil) hb
      exact (wsOk_cons_ft _).2 (wsOk_append.2 ⟨wsOk_append.2 ⟨hb, ha.2⟩, wsOk_ptok _⟩)
  | .delimited d args, shape, ps, ha, h => by
    simp only [Arg.wsOk] at ha
    exact delimited_ws
      (fun sh multi ind ps hi => wrapLoop_ws config args sh multi ind [] ps ha hi wsOk_nil) h
  | .separator s pre, shape, ps, ha, h => by
    cases h
    simp only [Arg.wsOk] at ha
    exact wsOk_append.2 ⟨wsOk_append.2 ⟨ha.2, ha.1⟩, wsOk_sp⟩
  | .other inner pre, shape, ps, ha, h => by
    cases h
    simp only [Arg.wsOk] at ha
    exact wsOk_append.2 ⟨ha.2, ha.1⟩
theorem wrapLoop_ws (config : Config) :
    ∀ (args : List Arg) (shape : Shape) (multi : Bool) (ind : List Char) (acc ps : List Piece),
      argsWsOk args → (∀ c ∈ ind, blankChar c) → wsOk acc →
      wrapLoop config shape multi ind acc args = .ok ps → wsOk ps
  | [], shape, multi, ind, acc, ps, _, _, hacc, h => by
    cases h
    exact hacc
  | arg :: rest, shape, multi, ind, acc, ps, ha, hind, hacc, h => by
    simp only [wrapLoop] at h
    simp only [argsWsOk] at ha
    split at h
    · cases h
    · rename_i r hr
      have hr' := rewriteArg_ws config arg shape r ha.1 hr
      exact wrapLoop_ws config rest shape multi ind _ ps ha.2 hind
        (wrapGlue_ws multi ind arg rest.head? _ hind (wsOk_append.2 ⟨hacc, hr'⟩)) h
end

theorem wrapMacroArgs_ws {config : Config} {shape : Shape} {args : List Arg} {ps : List Piece}
    (ha : argsWsOk args) (h : wrapMacroArgs config shape args = .ok ps) : wsOk ps := by
  obtain ⟨multi, ind, hind, hloop⟩ := wrapMacroArgs_ok h
  exact wrapLoop_ws config args shape multi ind [] ps ha hind wsOk_nil hloop

/-! ## The parser: what a successful step did -/

theorem Tok.ok_trim {t : Tok} (h : t.ok = true) : (RF.Comment.trim t.text).isEmpty = false := by
  simp [Tok.ok] at h
  simpa using h.1.1

theorem Tok.ok_text {t : Tok} (h : t.ok = true) : t.text ≠ [] := by
  intro he
  have := Tok.ok_trim h
  rw [he] at this
  exact absurd this (by decide)

theorem Tok.ok_dollar {t : Tok} (h : t.ok = true) (hk : t.kind = .Dollar) : t = dollar := by
  obtain ⟨k, x⟩ := t
  cases hk
  simp [Tok.ok] at h
  rw [dollar, h.2]

theorem Tok.ok_colon {t : Tok} (h : t.ok = true) (hk : t.kind = .Colon) : t = colon := by
  obtain ⟨k, x⟩ := t
  cases hk
  simp [Tok.ok] at h
  rw [colon, h.2]

/-- `s1` is `s` with a non-empty buffer moved to the result by `add_separator` or `add_other`. -/
def Flushed (s s1 : PState) : Prop :=
  (s.bufEmpty = true ∧ s1 = s) ∨ (s.bufEmpty = false ∧ (s1 = s.addSeparator ∨ s1 = s.addOther))

theorem Flushed.same {s s1 : PState} (h : Flushed s s1) :
    s1.mode = s.mode ∧ s1.isMetaVar = s.isMetaVar := by
  rcases h with ⟨-, rfl⟩ | ⟨-, rfl | rfl⟩ <;> exact ⟨rfl, rfl⟩

theorem flushed_ite (s : PState) {a : PState} (ha : a = s.addSeparator ∨ a = s.addOther) :
    Flushed s (if !s.bufEmpty then a else s) := by
  cases hb : s.bufEmpty
  · exact Or.inr ⟨hb, ha⟩
  · exact Or.inl ⟨hb, rfl⟩

/-- The successful steps of `stepTok`. -/
inductive StepTok (s : PState) (t : Tok) : PState → Prop
  | frag {c : Tok} : s.mode = .frag c → t.kind = .Ident →
      StepTok s t { s with result := s.result ++ [.metaVar t.text s.buf], buf := [],
                           isMetaVar := false, mode := .normal, lastTok := .tok c }
  | repOp {d : Delim} {args : List Arg} {buffer : Option Tok} : s.mode = .rep d args buffer →
      StepTok s t { s with
        result := s.result ++ [.repeat d args (match buffer with
          | none => none
          | some b => if (RF.Comment.trim b.text).isEmpty then none else some [ptok b]) t],
        mode := .normal, isMetaVar := false, lastTok := .close d }
  | repSep {d : Delim} {args : List Arg} : s.mode = .rep d args none →
      StepTok s t { s with mode := .rep d args (some t) }
  | dollar {s1 : PState} : s.mode = .normal → t.kind = .Dollar → s.isMetaVar = false →
      Flushed s s1 → StepTok s t { s1 with isMetaVar := true, startTok := some t, lastTok := .tok t }
  | colon : s.mode = .normal → t.kind = .Colon → s.isMetaVar = true →
      StepTok s t { s with mode := .frag t }
  | other : s.mode = .normal → StepTok s t { s.updateBuffer t with lastTok := .tok t }

theorem stepTok_ok {s s' : PState} {t : Tok} (h : stepTok s t = some s') : StepTok s t s' := by
  revert h
  fun_cases stepTok s t <;> intro h <;> cases h
  case case1 c hm hk => exact .frag hm (by simpa using hk)
  case case4 hm _ _ _ => exact .repOp hm
  case case6 hm => exact .repSep hm
  case case9 hm hk hv _ =>
    exact .dollar hm (by simpa using hk) (by simpa using hv) (flushed_ite s (Or.inl rfl))
  case case10 hm _ hc =>
    simp only [Bool.and_eq_true, beq_iff_eq] at hc
    exact .colon hm hc.1 hc.2
  case case12 hm _ _ _ => exact .other hm

theorem stepDelim_ok {s s' : PState} {d : Delim} {sub : Option (List Arg)}
    (h : stepDelim s d sub = some s') :
    ∃ args s1, sub = some args ∧ s.mode = .normal ∧ Flushed s s1 ∧
      (s.bufEmpty = false → s.isMetaVar = false) ∧
      s' = if s1.isMetaVar then { s1 with mode := .rep d args none }
           else { s1 with result := s1.result ++ [.delimited d args], lastTok := .close d } := by
  unfold stepDelim at h
  split at h
  · rename_i hm
    simp only at h
    split at h
    · rename_i s1 args hf
      refine ⟨args, s1, rfl, hm, ?_, ?_, Option.some.inj (h.symm.trans (apply_ite some ..).symm)⟩
      all_goals cases hb : s.bufEmpty <;> simp only [hb, Bool.not_false, Bool.not_true, ite_true,
        Bool.false_eq_true, ite_false] at hf
      · split at hf
        · cases hf
        · split at hf <;> cases hf
          · exact Or.inr ⟨hb, Or.inl rfl⟩
          · exact Or.inr ⟨hb, Or.inr rfl⟩
      · cases hf
        exact Or.inl ⟨hb, rfl⟩
      · split at hf
        · cases hf
        · rename_i hv
          exact fun _ => by simpa using hv
      · exact fun h => absurd h (by simp)
    · cases h
  · cases h

theorem finish_ok {s : PState} {args : List Arg} (h : finish s = some args) :
    ∃ s1, s.mode = .normal ∧ s.isMetaVar = false ∧ Flushed s s1 ∧ args = s1.result := by
  revert h
  fun_cases finish s <;> intro h <;> cases h
  case case2 hm hv hb =>
    exact ⟨_, hm, by simpa using hv, Or.inr ⟨by simpa using hb, Or.inr rfl⟩, rfl⟩
  case case3 hm hv hb =>
    exact ⟨_, hm, by simpa using hv, Or.inl ⟨by simpa using hb, rfl⟩, rfl⟩

/-! ## The parser keeps the tokens: result ++ pending ++ rest = input -/

/-- The tokens already read that are not yet in `result`. -/
def PState.pending (s : PState) : List FTok :=
  match s.mode with
  | .normal => (if s.isMetaVar then [.t dollar] else []) ++ toks s.buf
  | .frag _ => .t dollar :: (toks s.buf ++ [.t colon])
  | .rep d args buffer =>
    .t dollar :: .o d :: (argsToks args ++ .c d :: (match buffer with | some b => [.t b] | none => []))

/-- An empty buffer holds no token; a separator kept by `add_repeat` is a real token. -/
def PState.good (s : PState) : Prop :=
  (s.bufEmpty = true → toks s.buf = []) ∧
  (match s.mode with
   | .rep _ _ b => toks s.buf = [] ∧ (match b with | some x => x.ok = true | none => True)
   | _ => True)

theorem PState.toks_pre (s : PState) : toks s.pre = [] := by
  unfold PState.pre
  split <;> rfl

theorem good_init : PState.good {} := ⟨fun _ => rfl, trivial⟩

theorem updateBuffer_spec (s : PState) (t : Tok) :
    ∃ mid, (s.updateBuffer t).buf = s.buf ++ mid ++ [ptok t] ∧ (mid = [] ∨ mid = [sp]) ∧
      (s.updateBuffer t).result = s.result ∧ (s.updateBuffer t).mode = s.mode ∧
      (s.updateBuffer t).isMetaVar = s.isMetaVar := by
  unfold PState.updateBuffer
  split
  · exact ⟨[], by simp, Or.inl rfl, rfl, rfl, rfl⟩
  · split
    · exact ⟨[sp], by simp, Or.inr rfl, rfl, rfl, rfl⟩
    · exact ⟨[], by simp, Or.inl rfl, rfl, rfl, rfl⟩

theorem Flushed.inv {s s1 : PState} (h : Flushed s s1) (hg : s.good) :
    toks s1.buf = [] ∧ argsToks s1.result = argsToks s.result ++ toks s.buf := by
  rcases h with ⟨hb, rfl⟩ | ⟨-, rfl | rfl⟩
  · exact ⟨hg.1 hb, by rw [hg.1 hb, List.append_nil]⟩
  · exact ⟨rfl, by simp [PState.addSeparator, argsToks_append, Arg.toks, PState.toks_pre]⟩
  · exact ⟨rfl, by simp [PState.addOther, argsToks_append, Arg.toks, PState.toks_pre]⟩

theorem stepTok_inv {s s' : PState} {t : Tok} (ht : t.ok = true) (hg : s.good)
    (h : stepTok s t = some s') :
    s'.good ∧ argsToks s'.result ++ s'.pending = argsToks s.result ++ s.pending ++ [.t t] := by
  cases stepTok_ok h with
  | @frag c hm hk =>
    refine ⟨⟨fun _ => rfl, trivial⟩, ?_⟩
    have : (⟨.Ident, t.text⟩ : Tok) = t := by rw [← hk]
    simp [PState.pending, hm, argsToks_append, Arg.toks, this]
  | @repOp d args buffer hm =>
    have hg2 := hg.2
    simp only [hm] at hg2
    refine ⟨⟨hg.1, trivial⟩, ?_⟩
    cases buffer with
    | none => simp [PState.pending, hm, argsToks_append, Arg.toks, hg2.1]
    | some b => simp [PState.pending, hm, argsToks_append, Arg.toks, hg2.1, Tok.ok_trim hg2.2]
  | @repSep d args hm =>
    have hg2 := hg.2
    simp only [hm] at hg2
    exact ⟨⟨hg.1, hg2.1, ht⟩, by simp [PState.pending, hm]⟩
  | @dollar s1 hm hk hv hf =>
    obtain ⟨h1, h2⟩ := hf.inv hg
    have h3 := hf.same.1
    refine ⟨⟨fun _ => h1, by simp only [h3, hm]⟩, ?_⟩
    simp [PState.pending, h1, h2, h3, hm, hv, Tok.ok_dollar ht hk]
  | colon hm hk hv =>
    exact ⟨⟨hg.1, trivial⟩, by simp [PState.pending, hm, hv, Tok.ok_colon ht hk]⟩
  | other hm =>
    obtain ⟨mid, hbuf, hmid, hres, hmode, hmv⟩ := updateBuffer_spec s t
    have hmid : toks mid = [] := by rcases hmid with rfl | rfl <;> rfl
    refine ⟨⟨fun he => ?_, by simp only [hmode, hm]⟩, ?_⟩
    · have : (render (s.updateBuffer t).buf).isEmpty = true := he
      simp [hbuf, render_append, render, ptok, Piece.text, FTok.text, Tok.ok_text ht] at this
    · simp [PState.pending, hmode, hm, hbuf, hres, hmv, toks_append, hmid]

theorem stepDelim_inv {s s' : PState} {d : Delim} {sub : Option (List Arg)} {inner : List FTok}
    (hsub : ∀ args, sub = some args → argsToks args = inner) (hg : s.good)
    (h : stepDelim s d sub = some s') :
    s'.good ∧
      argsToks s'.result ++ s'.pending = argsToks s.result ++ s.pending ++ (.o d :: (inner ++ [.c d])) := by
  obtain ⟨args, s1, hs, hm, hf, hbv, rfl⟩ := stepDelim_ok h
  obtain ⟨h1, h2⟩ := hf.inv hg
  obtain ⟨h3, h4⟩ := hf.same
  have ha := hsub args hs
  rw [h4]
  cases hv : s.isMetaVar
  · exact ⟨⟨fun _ => h1, by simp only [Bool.false_eq_true, ite_false, h3, hm]⟩,
      by simp [PState.pending, h1, h2, h3, hm, hv, ha, argsToks_append, Arg.toks]⟩
  · have hb : s.bufEmpty = true := by
      cases hb : s.bufEmpty
      · exact absurd (hbv hb) (by simp [hv])
      · rfl
    exact ⟨⟨fun _ => h1, h1, trivial⟩,
      by simp [PState.pending, h2, hm, hv, ha, hg.1 hb]⟩

theorem finish_inv {s : PState} {args : List Arg} (hg : s.good) (h : finish s = some args) :
    argsToks args = argsToks s.result ++ s.pending := by
  obtain ⟨s1, hm, hv, hf, rfl⟩ := finish_ok h
  rw [(hf.inv hg).2]
  simp [PState.pending, hm, hv]

mutual
theorem stepTT_inv : ∀ (t : TT) (s s' : PState), t.ok = true → s.good → stepTT s t = some s' →
    s'.good ∧ argsToks s'.result ++ s'.pending = argsToks s.result ++ s.pending ++ t.flat
  | .tok t, s, s', ht, hg, h => by
    simp only [stepTT] at h
    simp only [TT.ok] at ht
    simpa [TT.flat] using stepTok_inv ht hg h
  | .delim d inner, s, s', ht, hg, h => by
    simp only [stepTT] at h
    simp only [TT.ok] at ht
    refine stepDelim_inv (inner := flatList inner) ?_ hg h
    intro args hargs
    split at hargs
    · cases hargs
    · rename_i sub hsub
      have ⟨hgs, hinv⟩ := parseList_inv inner {} sub ht good_init hsub
      rw [finish_inv hgs hargs, hinv]
      rfl
theorem parseList_inv : ∀ (ts : List TT) (s s' : PState), okList ts = true → s.good →
    parseList s ts = some s' →
    s'.good ∧ argsToks s'.result ++ s'.pending = argsToks s.result ++ s.pending ++ flatList ts
  | [], s, s', _, hg, h => by
    cases h
    exact ⟨hg, by simp [flatList]⟩
  | t :: ts, s, s', ht, hg, h => by
    simp only [parseList] at h
    simp only [okList, Bool.and_eq_true] at ht
    split at h
    · cases h
    · rename_i s1 h1
      have ⟨hg1, hi1⟩ := stepTT_inv t s s1 ht.1 hg h1
      have ⟨hg2, hi2⟩ := parseList_inv ts s1 s' ht.2 hg1 h
      exact ⟨hg2, by rw [hi2, hi1, flatList, List.append_assoc]⟩
end

/-- The parsed arguments stand for exactly the tokens of the stream. -/
theorem parse_toks {ts : List TT} {args : List Arg} (hok : okList ts = true)
    (h : parseMatcher ts = some args) : argsToks args = flatList ts := by
  unfold parseMatcher at h
  split at h
  · cases h
  · rename_i s hs
    have ⟨hg, hinv⟩ := parseList_inv ts {} s hok good_init hs
    rw [finish_inv hg h, hinv]
    rfl

/-! ## The parser holds only blanks between its tokens -/

def PState.wsGood (s : PState) : Prop :=
  wsOk s.buf ∧ argsWsOk s.result ∧
  (match s.mode with | .rep _ args _ => argsWsOk args | _ => True)

theorem PState.wsOk_pre (s : PState) : wsOk s.pre := by
  unfold PState.pre
  split
  · exact wsOk_sp
  · exact wsOk_nil

theorem wsGood_init : PState.wsGood {} := ⟨wsOk_nil, trivial, trivial⟩

theorem Flushed.ws {s s1 : PState} (h : Flushed s s1) (hg : s.wsGood) :
    wsOk s1.buf ∧ argsWsOk s1.result := by
  rcases h with ⟨-, rfl⟩ | ⟨-, rfl | rfl⟩
  · exact ⟨hg.1, hg.2.1⟩
  · exact ⟨wsOk_nil, argsWsOk_snoc.2 ⟨hg.2.1, hg.1, s.wsOk_pre⟩⟩
  · exact ⟨wsOk_nil, argsWsOk_snoc.2 ⟨hg.2.1, hg.1, s.wsOk_pre⟩⟩

theorem stepTok_ws {s s' : PState} {t : Tok} (hg : s.wsGood) (h : stepTok s t = some s') :
    s'.wsGood := by
  obtain ⟨hb, hr, hmode⟩ := hg
  cases stepTok_ok h with
  | @frag c hm hk => exact ⟨wsOk_nil, argsWsOk_snoc.2 ⟨hr, hb⟩, trivial⟩
  | @repOp d args buffer hm =>
    simp only [hm] at hmode
    refine ⟨hb, argsWsOk_snoc.2 ⟨hr, hmode, ?_⟩, trivial⟩
    cases buffer with
    | none => exact wsOk_nil
    | some b =>
      simp only
      split
      · exact wsOk_nil
      · exact wsOk_ptok b
  | @repSep d args hm =>
    simp only [hm] at hmode
    exact ⟨hb, hr, hmode⟩
  | @dollar s1 hm hk hv hf =>
    obtain ⟨h1, h2⟩ := hf.ws ⟨hb, hr, hmode⟩
    exact ⟨h1, h2, by rw [hf.same.1, hm]; trivial⟩
  | colon hm hk hv => exact ⟨hb, hr, trivial⟩
  | other hm =>
    obtain ⟨mid, hbuf, hmid, hres, hmode', -⟩ := updateBuffer_spec s t
    have hmid : wsOk mid := by
      rcases hmid with rfl | rfl
      · exact wsOk_nil
      · exact wsOk_sp
    refine ⟨?_, ?_, ?_⟩
    · show wsOk (s.updateBuffer t).buf
      rw [hbuf]
      exact wsOk_append.2 ⟨wsOk_append.2 ⟨hb, hmid⟩, wsOk_ptok t⟩
    · show argsWsOk (s.updateBuffer t).result
      rw [hres]
      exact hr
    · show match (s.updateBuffer t).mode with | .rep _ args _ => argsWsOk args | _ => True
      rw [hmode', hm]
      trivial

theorem stepDelim_ws {s s' : PState} {d : Delim} {sub : Option (List Arg)}
    (hsub : ∀ args, sub = some args → argsWsOk args) (hg : s.wsGood)
    (h : stepDelim s d sub = some s') : s'.wsGood := by
  obtain ⟨args, s1, hs, hm, hf, -, rfl⟩ := stepDelim_ok h
  obtain ⟨h1, h2⟩ := hf.ws hg
  split
  · exact ⟨h1, h2, hsub args hs⟩
  · exact ⟨h1, argsWsOk_snoc.2 ⟨h2, hsub args hs⟩, by rw [hf.same.1, hm]; trivial⟩

theorem finish_ws {s : PState} {args : List Arg} (hg : s.wsGood) (h : finish s = some args) :
    argsWsOk args := by
  obtain ⟨s1, -, -, hf, rfl⟩ := finish_ok h
  exact (hf.ws hg).2

mutual
theorem stepTT_ws : ∀ (t : TT) (s s' : PState), s.wsGood → stepTT s t = some s' → s'.wsGood
  | .tok t, s, s', hg, h => by
    simp only [stepTT] at h
    exact stepTok_ws hg h
  | .delim d inner, s, s', hg, h => by
    simp only [stepTT] at h
    refine stepDelim_ws ?_ hg h
    intro args hargs
    split at hargs
    · cases hargs
    · rename_i sub hsub
      exact finish_ws (parseList_ws inner {} sub wsGood_init hsub) hargs
theorem parseList_ws : ∀ (ts : List TT) (s s' : PState), s.wsGood → parseList s ts = some s' → s'.wsGood
  | [], s, s', hg, h => by
    cases h
    exact hg
  | t :: ts, s, s', hg, h => by
    simp only [parseList] at h
    split at h
    · cases h
    · rename_i s1 h1
      exact parseList_ws ts s1 s' (stepTT_ws t s s1 hg h1) h
end

theorem parse_ws {ts : List TT} {args : List Arg} (h : parseMatcher ts = some args) : argsWsOk args := by
  unfold parseMatcher at h
  split at h
  · cases h
  · rename_i s hs
    exact finish_ws (parseList_ws ts {} s wsGood_init hs) h

/-! ## `str::replace` as a scan, and the undoing loop over a segmented text -/

theorem isPrefix_append_right {p s : List Char} (x : List Char) (h : isPrefix p s = true) :
    isPrefix p (s ++ x) = true := by
  induction p generalizing s with
  | nil => simp [isPrefix]
  | cons a as ih =>
    cases s with
    | nil => simp [isPrefix] at h
    | cons c cs =>
      simp [isPrefix] at h ⊢
      exact ⟨h.1, ih h.2⟩

theorem isPrefix_split {p s : List Char} (h : isPrefix p s = true) : ∃ t, s = p ++ t := by
  induction p generalizing s with
  | nil => exact ⟨s, rfl⟩
  | cons a as ih =>
    cases s with
    | nil => simp [isPrefix] at h
    | cons c cs =>
      simp [isPrefix] at h
      obtain ⟨t, rfl⟩ := ih h.2
      exact ⟨t, by simp [h.1]⟩

/-- `x` is `y`, or a `$` that took its place. -/
def DollarOr (x y : Char) : Prop := x = y ∨ x = '$'

/-- `DollarOr` character by character. -/
inductive DollarOrL : List Char → List Char → Prop where
  | nil : DollarOrL [] []
  | cons {x y : Char} {xs ys : List Char} : DollarOr x y → DollarOrL xs ys → DollarOrL (x :: xs) (y :: ys)

theorem dollarOrL_refl (xs : List Char) : DollarOrL xs xs := by
  induction xs with
  | nil => exact .nil
  | cons x xs ih => exact .cons (Or.inl rfl) ih

theorem dollarOrL_append {a b c d : List Char} (h1 : DollarOrL a b) (h2 : DollarOrL c d) : DollarOrL (a ++ c) (b ++ d) := by
  induction h1 with
  | nil => simpa using h2
  | cons h _ ih => exact .cons h ih

/-- A pattern without `$` that occurs in a text where some characters were overwritten by `$`
occurs in the original text. -/
theorem isPrefix_of_dollarOrL {P xs ys : List Char} (hP : '$' ∉ P) (h : DollarOrL xs ys)
    (hp : isPrefix P xs = true) : isPrefix P ys = true := by
  induction P generalizing xs ys with
  | nil => simp [isPrefix]
  | cons p ps ih =>
    cases h with
    | nil => simp [isPrefix] at hp
    | cons hxy hrest =>
      simp [isPrefix] at hp ⊢
      simp at hP
      refine ⟨?_, ih hP.2 hrest hp.2⟩
      rcases hxy with rfl | rfl
      · exact hp.1
      · exact absurd hp.1.symm (by simpa using hP.1)

theorem noOcc_of_dollarOrL {P reg reg' rest rest' : List Char} (hP : '$' ∉ P)
    (h1 : DollarOrL reg reg') (h2 : DollarOrL rest rest')
    (h : noOcc P reg' rest' = true) : noOcc P reg rest = true := by
  induction h1 with
  | nil => simp [noOcc]
  | @cons a b as bs hab has ih =>
    simp [noOcc] at h ⊢
    refine ⟨?_, ih h.2⟩
    cases hp : isPrefix P (a :: (as ++ rest)) with
    | false => rfl
    | true =>
      have := isPrefix_of_dollarOrL hP (.cons hab (dollarOrL_append has h2)) hp
      simp [this] at h

theorem noOcc_suffix {P a b rest : List Char} (h : noOcc P (a ++ b) rest = true) :
    noOcc P b rest = true := by
  induction a with
  | nil => simpa using h
  | cons x xs ih =>
    simp [noOcc] at h
    exact ih h.2

theorem replaceGo_noOcc {P R reg rest : List Char} (h : noOcc P reg rest = true) :
    replaceGo P R 0 (reg ++ rest) = reg ++ replaceGo P R 0 rest := by
  induction reg with
  | nil => simp
  | cons c cs ih =>
    simp [noOcc] at h
    simp [replaceGo, h.1, ih h.2]

theorem replaceGo_skip (P R : List Char) (xs rest : List Char) :
    replaceGo P R xs.length (xs ++ rest) = replaceGo P R 0 rest := by
  induction xs with
  | nil => simp
  | cons x xs ih => simp [replaceGo, ih]

theorem flatD_dollarOrL (D : List Char → Bool) (segs : List Seg) :
    DollarOrL (flatD D segs) (flatZ segs) := by
  induction segs with
  | nil => exact .nil
  | cons s ss ih =>
    cases s with
    | lit c => exact .cons (Or.inl rfl) ih
    | var k name =>
      simp only [flatD, Seg.flat]
      refine dollarOrL_append (dollarOrL_append (dollarOrL_refl _) ?_) ih
      refine .cons ?_ (dollarOrL_refl _)
      cases D name
      · exact Or.inl rfl
      · exact Or.inr rfl

theorem isPrefix_self (l : List Char) : isPrefix l l = true := by
  induction l with
  | nil => rfl
  | cons a as ih => simp [isPrefix, ih]

theorem isPrefix_false_of_dollarOrL {P xs ys : List Char} (hP : '$' ∉ P) (h : DollarOrL xs ys)
    (hp : isPrefix P ys = false) : isPrefix P xs = false := by
  cases hx : isPrefix P xs with
  | false => rfl
  | true =>
    rw [isPrefix_of_dollarOrL hP h hx] at hp
    cases hp

/-- One `str::replace("z" ++ n, "$" ++ n)` over a text in which the names of `D` are already written
with `$`: it puts back exactly the variables whose name starts with `n`, provided `z ++ n` occurs in
the substituted text only there (`safeFor`; what is true of `flatZ` is true of `flatD D`, which
differs from it by `$` for `z` only). -/
theorem undo_step (n : List Char) (hn : '$' ∉ n) (D : List Char → Bool) :
    ∀ (segs : List Seg), singles segs = true → safeFor n segs = true →
      replaceGo ('z' :: n) ('$' :: n) 0 (flatD D segs) = flatD (fun m => D m || isPrefix n m) segs
  | [], _, _ => by simp [flatD, replaceGo]
  | .lit c :: tl, hs, hsafe => by
    simp [safeFor] at hsafe
    simp only [singles] at hs
    have hP : '$' ∉ 'z' :: n := by simp [hn]
    -- first conjunct of `safeFor`: no match starts at a copied character
    have hno : isPrefix ('z' :: n) (c :: flatD D tl) = false :=
      isPrefix_false_of_dollarOrL hP (.cons (Or.inl rfl) (flatD_dollarOrL D tl)) hsafe.1
    have ih := undo_step n hn D tl hs hsafe.2
    simp only [flatD, Seg.flat, List.singleton_append]
    rw [replaceGo, hno]
    simp [ih]
  | .var k m :: tl, hs, hsafe => by
    simp [safeFor] at hsafe
    simp [singles] at hs
    obtain ⟨hk, hs⟩ := hs
    subst hk
    have hP : '$' ∉ 'z' :: n := by simp [hn]
    have ih := undo_step n hn D tl hs hsafe.2
    -- `noOcc` conjunct: no match starts inside the name
    have hnoD : noOcc ('z' :: n) m (flatD D tl) = true :=
      noOcc_of_dollarOrL hP (dollarOrL_refl m) (flatD_dollarOrL D tl) hsafe.1.2
    simp only [flatD, Seg.flat, Nat.sub_self, List.replicate_zero, List.nil_append]
    by_cases hD : D m = true
    · -- already written `$m`: the pattern starts with `z`, no match at the `$`
      simp only [hD, Bool.true_or, ite_true, List.cons_append]
      rw [replaceGo]
      simp only [isPrefix]
      simp [replaceGo_noOcc hnoD, ih]
    · have hD' : D m = false := by simpa using hD
      by_cases hpre : isPrefix n m = true
      · -- `m = n ++ m'`: the match at the `z` is replaced, the scan goes on behind `n`
        obtain ⟨m', rfl⟩ := isPrefix_split hpre
        simp only [hD', Bool.false_or, hpre, ite_true, List.cons_append, Bool.false_eq_true, ite_false]
        rw [replaceGo]
        have : isPrefix ('z' :: n) ('z' :: (n ++ m' ++ flatD D tl)) = true := by
          simp [isPrefix]
          exact isPrefix_append_right _ (isPrefix_self n)
        rw [this]
        simp only [ite_true, List.length_cons, Nat.add_sub_cancel, List.cons_append, List.append_assoc]
        rw [replaceGo_skip, replaceGo_noOcc (noOcc_suffix hnoD), ih]
      · -- `n` is no prefix of `m`: the first conjunct of `safeFor` forbids a match at the `z`
        have hpre' : isPrefix n m = false := by simpa using hpre
        simp only [hD', Bool.false_or, hpre', Bool.false_eq_true, ite_false, List.cons_append]
        have hno : isPrefix ('z' :: n) ('z' :: (m ++ flatD D tl)) = false :=
          isPrefix_false_of_dollarOrL hP
            (.cons (Or.inl rfl) (dollarOrL_append (dollarOrL_refl m) (flatD_dollarOrL D tl)))
            (by simpa [hpre'] using hsafe.1.1)
        rw [replaceGo, hno]
        simp [replaceGo_noOcc hnoD, ih]

theorem flatD_congr {D D' : List Char → Bool} :
    ∀ (segs : List Seg), (∀ k m, Seg.var k m ∈ segs → D m = D' m) → flatD D segs = flatD D' segs
  | [], _ => rfl
  | .lit c :: tl, h => by
    simp only [flatD, Seg.flat]
    rw [flatD_congr tl (fun k m hm => h k m (List.mem_cons_of_mem _ hm))]
  | .var k m :: tl, h => by
    simp only [flatD, Seg.flat]
    rw [flatD_congr tl (fun k m hm => h k m (List.mem_cons_of_mem _ hm)), h k m (List.mem_cons_self)]

theorem mem_varNames {segs : List Seg} {k : Nat} {m : List Char} (h : Seg.var k m ∈ segs) :
    m ∈ varNames segs := by
  induction segs with
  | nil => cases h
  | cons x xs ih =>
    rcases List.mem_cons.1 h with rfl | h'
    · exact List.mem_cons_self
    · cases x
      · exact ih h'
      · exact List.mem_cons_of_mem _ (ih h')

theorem singles_mem {segs : List Seg} (hs : singles segs = true) {k : Nat} {m : List Char}
    (h : Seg.var k m ∈ segs) : k = 1 := by
  induction segs with
  | nil => cases h
  | cons x xs ih =>
    cases x with
    | lit c => exact ih hs ((List.mem_cons.1 h).resolve_left nofun)
    | var k' m' =>
      simp only [singles, Bool.and_eq_true, beq_iff_eq] at hs
      rcases List.mem_cons.1 h with h' | h'
      · cases h'
        exact hs.1
      · exact ih hs.2 h'

/-- The undoing loop, in any order, on a text in which some names are already back: every name
that begins with one of the names of `order` is back afterwards, nothing else changed. -/
theorem undo_fold (oldBody : List Char) (segs : List Seg) (hs : singles segs = true) :
    ∀ (order : List Subst) (D : List Char → Bool) (out : List Char),
      (∀ e ∈ order, e.dollars = 1 ∧ '$' ∉ e.name ∧ safeFor e.name segs = true) →
      undo oldBody order (flatD D segs) = some out →
      out = flatD (fun m => D m || order.any (fun e => isPrefix e.name m)) segs
  | [], D, out, _, h => by
    simp [undo] at h
    subst h
    simp
  | e :: rest, D, out, he, h => by
    obtain ⟨hd, hn, hsafe⟩ := he e List.mem_cons_self
    simp only [undo] at h
    split at h
    · cases h
    · have hnew : e.new = 'z' :: e.name := by simp [Subst.new, hd]
      have hold : e.old = '$' :: e.name := by simp [Subst.old, hd]
      rw [hnew, hold] at h
      have hstep : replaceAll ('z' :: e.name) ('$' :: e.name) (flatD D segs) =
          flatD (fun m => D m || isPrefix e.name m) segs := by
        simp only [replaceAll, List.isEmpty_cons, Bool.false_eq_true, ite_false]
        exact undo_step e.name hn D segs hs hsafe
      rw [hstep] at h
      have := undo_fold oldBody segs hs rest _ out (fun x hx => he x (List.mem_cons_of_mem _ hx)) h
      rw [this]
      apply flatD_congr
      intro k m _
      simp [Bool.or_assoc]


/-! ## `replace_names` as a segmentation of its input -/

theorem flatD_append (D : List Char → Bool) (a b : List Seg) :
    flatD D (a ++ b) = flatD D a ++ flatD D b := by
  induction a with
  | nil => rfl
  | cons x xs ih => simp [flatD, ih]

theorem flatS_append (a b : List Seg) : flatS (a ++ b) = flatS a ++ flatS b := flatD_append _ a b
theorem flatZ_append (a b : List Seg) : flatZ (a ++ b) = flatZ a ++ flatZ b := flatD_append _ a b

/-- white space erased -/
abbrev nws (s : List Char) : List Char := s.filter (fun c => !RF.Comment.isWs c)

theorem nws_append (a b : List Char) : nws (a ++ b) = nws a ++ nws b := by simp [nws]

/-- the part of the input read but not yet written: the `$`s and the name being collected -/
def RState.pend (s : RState) : List Char := List.replicate s.dollarCount '$' ++ s.curName

structure RState.wf (s : RState) : Prop where
  zero : s.dollarCount = 0 → s.curName = []
  name : '$' ∉ s.curName
  substs : ∀ e ∈ s.substs, '$' ∉ e.name

theorem isAlnum_dollar : isAlnum '$' = false := by decide

theorem flatS_var {k : Nat} (hk : 0 < k) (m : List Char) :
    flatS [.var k m] = List.replicate k '$' ++ m := by
  simp only [flatD, Seg.flat, ite_true, List.append_nil]
  rw [← List.singleton_append, ← List.append_assoc, ← List.replicate_succ', Nat.sub_add_cancel hk]

theorem register_spec (s : RState) :
    s.register.result = s.result ++ flatZ [.var s.dollarCount s.curName] ∧
    (⟨s.dollarCount, s.curName⟩ : Subst) ∈ s.register.substs ∧
    (∀ e ∈ s.substs, e ∈ s.register.substs) ∧
    (∀ e ∈ s.register.substs, e ∈ s.substs ∨ e = ⟨s.dollarCount, s.curName⟩) ∧
    s.register.dollarCount = s.dollarCount ∧ s.register.curName = s.curName := by
  unfold RState.register
  simp only
  refine ⟨by simp [flatD, Seg.flat, Subst.new], ?_, ?_, ?_, by simp⟩
  · split
    · rename_i h
      simpa using h
    · simp
  · intro e he
    split
    · exact he
    · simp [he]
  · intro e he
    split at he
    · exact Or.inl he
    · simp at he
      exact he

/-- The successful steps of `rstep`, each with the segments it appends. -/
theorem rstep_ok {s s' : RState} {kc : RF.CharClasses.Kind × Char} (h : rstep s kc = some s') :
    (stepSegs s kc = [.lit kc.2] ∧ s.dollarCount = 0 ∧ s' = { s with result := s.result ++ [kc.2] }) ∨
    (stepSegs s kc = [] ∧ kc.2 = '$' ∧ s.curName = [] ∧
      s' = { s with dollarCount := s.dollarCount + 1 }) ∨
    (stepSegs s kc = [.var s.dollarCount s.curName, .lit kc.2] ∧ 0 < s.dollarCount ∧
      s' = { s.register with result := s.register.result ++ [kc.2], dollarCount := 0, curName := [] }) ∨
    (stepSegs s kc = [] ∧ 0 < s.dollarCount ∧ kc.2 ≠ '$' ∧
      s' = { s with curName := s.curName ++ [kc.2] }) ∨
    (stepSegs s kc = [] ∧ RF.Comment.isWs kc.2 = true ∧ s' = s) := by
  revert h
  fun_cases rstep s kc <;> intro h <;> cases h
  case case2 hk hd => exact Or.inl ⟨by simp only [stepSegs, hk, ite_true], by omega, rfl⟩
  case case4 hk hc hn =>
    exact Or.inr (Or.inl ⟨by simp only [stepSegs, hk, hc, ite_true, ite_false, Bool.false_eq_true],
      by simpa using hc, by simpa using hn, rfl⟩)
  case case5 hk hc hz =>
    exact Or.inl ⟨by simp only [stepSegs, hk, hc, hz, ite_true, ite_false, Bool.false_eq_true], by simpa using hz, rfl⟩
  case case6 hk hc hz ht _ =>
    exact Or.inr (Or.inr (Or.inl ⟨by simp only [stepSegs, hk, hc, hz, ht, ite_true, ite_false, Bool.false_eq_true],
      Nat.pos_of_ne_zero (by simpa using hz), rfl⟩))
  case case8 hk hc hz ht _ _ =>
    exact Or.inr (Or.inr (Or.inr (Or.inl ⟨by simp only [stepSegs, hk, hc, hz, ht, ite_false, Bool.false_eq_true],
      Nat.pos_of_ne_zero (by simpa using hz), by simpa using hc, rfl⟩)))
  case case10 hk hc hz ht _ _ hws =>
    exact Or.inr (Or.inr (Or.inr (Or.inr ⟨by simp only [stepSegs, hk, hc, hz, ht, ite_false, Bool.false_eq_true],
      by simpa using hws, rfl⟩)))

/-- Reading the characters `cs` takes `s` to `s'` and appends the segments `segs`: the text
`replace_names` returns grows by them, the text read is they up to white space, and the
substitutions registered are their variables. -/
structure Reads (s s' : RState) (cs : List Char) (segs : List Seg) : Prop where
  result : s'.result = s.result ++ flatZ segs
  text : nws (s.pend ++ cs) = nws (flatS segs ++ s'.pend)
  wf : s'.wf
  vars : ∀ k m, Seg.var k m ∈ segs → (⟨k, m⟩ : Subst) ∈ s'.substs
  mono : ∀ e ∈ s.substs, e ∈ s'.substs
  back : ∀ e ∈ s'.substs, e ∈ s.substs ∨ Seg.var e.dollars e.name ∈ segs

theorem Reads.refl {s : RState} (hw : s.wf) : Reads s s [] [] :=
  ⟨by simp [flatD], by simp [flatD], hw, by simp, fun _ h => h, fun _ h => Or.inl h⟩

theorem Reads.trans {s s1 s' : RState} {cs cs' : List Char} {segs segs' : List Seg}
    (h1 : Reads s s1 cs segs) (h2 : Reads s1 s' cs' segs') :
    Reads s s' (cs ++ cs') (segs ++ segs') := by
  refine ⟨by rw [h2.result, h1.result, flatZ_append, List.append_assoc], ?_, h2.wf, ?_,
    fun e he => h2.mono e (h1.mono e he), ?_⟩
  · rw [← List.append_assoc, nws_append, h1.text, nws_append, List.append_assoc, ← nws_append,
      h2.text, flatS_append, nws_append, nws_append, nws_append, List.append_assoc]
  · intro k m hm
    rcases List.mem_append.1 hm with hm | hm
    · exact h2.mono _ (h1.vars k m hm)
    · exact h2.vars k m hm
  · intro e he
    rcases h2.back e he with h | h
    · exact (h1.back e h).imp_right (List.mem_append_left _)
    · exact Or.inr (List.mem_append_right _ h)

theorem rstep_inv {s s' : RState} {kc : RF.CharClasses.Kind × Char} (hw : s.wf)
    (h : rstep s kc = some s') : Reads s s' [kc.2] (stepSegs s kc) := by
  rcases rstep_ok h with ⟨hs, hd, rfl⟩ | ⟨hs, hc, hn, rfl⟩ | ⟨hs, hd, rfl⟩ | ⟨hs, hd, hc, rfl⟩ |
    ⟨hs, hws, rfl⟩ <;> rw [hs]
  · exact ⟨rfl, by simp [RState.pend, hd, hw.zero hd, flatD, Seg.flat], ⟨hw.zero, hw.name, hw.substs⟩,
      by simp, fun e he => he, fun e he => Or.inl he⟩
  · refine ⟨by simp [flatD], ?_, ⟨by simp [hn], hw.name, hw.substs⟩, by simp, fun e he => he,
      fun e he => Or.inl he⟩
    simp [RState.pend, hn, hc, flatD, ← List.replicate_succ']
  · obtain ⟨hr, hin, hsub, hsub', hdc, hcn⟩ := register_spec s
    refine ⟨by simp [hr, flatD, Seg.flat], ?_, ⟨fun _ => rfl, by simp, ?_⟩, ?_, hsub, ?_⟩
    · have := flatS_var hd s.curName
      simp only [flatD, Seg.flat, ite_true, List.append_nil] at this
      simp [RState.pend, flatD, Seg.flat, this]
    · intro e he
      rcases hsub' e he with h1 | rfl
      · exact hw.substs e h1
      · exact hw.name
    · intro k m hm
      simp at hm
      obtain ⟨rfl, rfl⟩ := hm
      exact hin
    · intro e he
      rcases hsub' e he with h1 | rfl
      · exact Or.inl h1
      · exact Or.inr (by simp)
  · refine ⟨by simp [flatD], by simp [RState.pend, flatD], ⟨fun h0 => absurd h0 (Nat.ne_of_gt hd), ?_, hw.substs⟩,
      by simp, fun e he => he, fun e he => Or.inl he⟩
    simp only [List.mem_append, List.mem_singleton, not_or]
    exact ⟨hw.name, fun heq => hc heq.symm⟩
  · exact ⟨by simp [flatD], by simp [RState.pend, flatD, hws], hw, by simp, fun e he => he,
      fun e he => Or.inl he⟩


theorem rloop_inv : ∀ (cls : List (RF.CharClasses.Kind × Char)) (s s' : RState), s.wf →
    rloop s cls = some s' → Reads s s' (cls.map (·.2)) (loopSegs s cls)
  | [], s, s', hw, h => by
    cases h
    exact .refl hw
  | kc :: rest, s, s', hw, h => by
    simp only [rloop] at h
    split at h
    · cases h
    · rename_i s1 h1
      have hs := rstep_inv hw h1
      simp only [loopSegs, h1]
      exact hs.trans (rloop_inv rest s1 s' hs.wf h)

theorem wf_init : RState.wf {} := ⟨fun _ => rfl, by simp, by simp⟩

/-- `replace_names` in terms of the segmentation of its input. -/
theorem replaceNames_segs {input r : List Char} {substs : List Subst}
    (h : replaceNames input = some (r, substs)) :
    r = flatZ (segsOf input) ∧ nws input = nws (flatS (segsOf input)) ∧
    (∀ k m, Seg.var k m ∈ segsOf input → (⟨k, m⟩ : Subst) ∈ substs) ∧
    (∀ e ∈ substs, '$' ∉ e.name ∧ Seg.var e.dollars e.name ∈ segsOf input) := by
  unfold replaceNames at h
  unfold segsOf
  cases hs : rloop {} (RF.CharClasses.classes input) with
  | none => rw [hs] at h; cases h
  | some s =>
    rw [hs] at h
    simp only at h ⊢
    obtain ⟨r1, n1, w1, v1, _, b1⟩ := rloop_inv _ _ _ wf_init hs
    have hin : List.map (·.2) (RF.CharClasses.classes input) = input :=
      RF.Lemmas.CharClasses.classes_map_snd input
    simp only [RState.pend, List.replicate_zero, List.nil_append, hin] at n1
    by_cases hc : (!s.curName.isEmpty) = true
    · simp only [hc, ite_true] at h ⊢
      obtain ⟨hr, hin', hsub, hsub', _, _⟩ := register_spec s
      injection h with h
      injection h with h1 h2
      subst h1 h2
      have hne : s.curName ≠ [] := by simpa using hc
      have hpos : 0 < s.dollarCount := by
        rcases Nat.eq_zero_or_pos s.dollarCount with h0 | h0
        · exact absurd (w1.zero h0) hne
        · exact h0
      refine ⟨by rw [hr, r1, flatZ_append]; simp, ?_, ?_, ?_⟩
      · rw [n1, flatS_append, flatS_var hpos]
      · intro k m hm
        simp only [List.mem_append, List.mem_singleton] at hm
        rcases hm with hm | hm
        · exact hsub _ (v1 k m hm)
        · injection hm with hk hm'
          subst hk hm'
          exact hin'
      · intro e he
        rcases hsub' e he with h3 | h3
        · refine ⟨w1.substs e h3, ?_⟩
          rcases b1 e h3 with h4 | h4
          · simp at h4
          · simp [h4]
        · subst h3
          exact ⟨w1.name, by simp⟩
    · simp only [hc, Bool.false_eq_true, ite_false, List.append_nil] at h ⊢
      split at h
      · cases h
      · rename_i hd
        have hd0 : s.dollarCount = 0 := by omega
        injection h with h
        injection h with h1 h2
        subst h1 h2
        refine ⟨by rw [r1]; simp, ?_, v1, ?_⟩
        · rw [n1]
          simp [hd0, w1.zero hd0]
        · intro e he
          refine ⟨w1.substs e he, ?_⟩
          rcases b1 e he with h4 | h4
          · simp at h4
          · exact h4


/-! ## Macro calls -/

/-- The delimiter of a call: the chosen style, unless the arguments do not parse (the source text is
kept then). -/
theorem callPlan_delim (macroName : List Char) (nested : Bool) (original : Delim)
    (position : Position) (tsEmpty hasComment block : Bool) (parsed : Option ParsedArgs) :
    (callPlan macroName nested original position tsEmpty hasComment block parsed).delim =
      if (tsEmpty && !hasComment) = true ∨ parsed.isSome = true then
        some (chosenStyle macroName nested original)
      else none := by
  unfold callPlan
  generalize chosenStyle macroName nested original = st
  cases st <;> cases parsed <;> simp only [apply_ite Plan.delim] <;>
    simp only [Plan.delim, ite_self, Option.isSome_some, Option.isSome_none, or_true, or_false,
      Bool.false_eq_true, ite_true]

end RF.MacroFmt

import RF.Model.Backup
/-!
Proofs for C20 (`RF/Props/C20.lean`) and C06 about `RF/Model/Backup.lean`.

`step_some`, `run_backup` and the equations of `guardedOps` say what the model's operations do.
Soundness of the oracle: `Abs` relates a concrete file system to an abstract one; `abs_reach` shows that
every reachable concrete state is described by a state of `absReach`, whence `checkProtocol_sound` and
`reachable_observedOk`.  `reachable_lift` carries this along an injective path resolution into a larger
file system (one file's ops act on its three paths only), and `multi_file` over a run of several files.
-/
namespace RF.Backup
open RF.Gen.Emitters

/-- The two invariants of C20 on the three paths of one file: the complete original is in the
file or in the `.bk`; the file is absent, or the complete original, or the complete formatted
text. -/
def Safe {β : Type} (orig fmt : List β) (s : Fs P β) : Prop :=
  (s .file = some orig ∨ s .bk = some orig) ∧
  (s .file = none ∨ s .file = some orig ∨ s .file = some fmt)

/-- concretisation of an abstract content -/
def Conc {β : Type} (orig fmt : List β) : A → Option (List β) → Prop
  | .absent, v => v = none
  | .orig, v => v = some orig
  | .fmt, v => v = some fmt
  | .part, v => ∃ k, k < fmt.length ∧ v = some (fmt.take k)
  | .any, _ => True

/-- `a` describes `fs` -/
def Abs {β : Type} (orig fmt : List β) (a : AFs) (fs : Fs P β) : Prop :=
  ∀ p, Conc orig fmt (a.get p) (fs p)

end RF.Backup

namespace RF.Lemmas.Backup
open RF.Gen.Emitters RF.Backup

theorem get_set (a : AFs) (p q : P) (x : A) :
    (a.set p x).get q = if q = p then x else a.get q := by
  cases p <;> cases q <;> simp [AFs.set, AFs.get]

theorem not_safe_of_lost {κ β : Type} {orig fmt : List β} {s : Fs κ β} (ρ : P → κ)
    (h : ∀ k, s k ≠ some orig) : ¬ Safe orig fmt (s ∘ ρ) :=
  fun hs => hs.1.elim (h _) (h _)

section generic
variable {κ β : Type} [DecidableEq κ]

theorem set_same (fs : Fs κ β) (k : κ) (v : Option (List β)) : (fs.set k v) k = v := by
  simp [Fs.set]

theorem set_other (fs : Fs κ β) (k q : κ) (v : Option (List β)) (h : q ≠ k) :
    (fs.set k v) q = fs q := by
  simp [Fs.set, h]

theorem step_some {ρ : P → κ} {fmt : List β} {op : FsOp} {fs fs' : Fs κ β}
    (h : step ρ fmt op fs = some fs') :
    match op with
    | .write dst => fs' = fs.set (ρ dst) (some fmt)
    | .rename src dst =>
      ∃ d, fs (ρ src) = some d ∧ fs' = (fs.set (ρ src) none).set (ρ dst) (some d)
    | .remove p => ∃ d, fs (ρ p) = some d ∧ fs' = fs.set (ρ p) none
    | .copy src dst => ∃ d, fs (ρ src) = some d ∧
        fs' = fs.set (ρ dst) (some (if ρ src = ρ dst then [] else d)) := by
  cases op <;> simp only [step] at h
  case write => exact (Option.some.inj h).symm
  all_goals
    split at h
    · cases h
    · next d hd => exact ⟨d, hd, (Option.some.inj h).symm⟩

theorem reachable_of_run_prefix (ρ : P → κ) (fmt : List β) (pre post : List FsOp) (fs s : Fs κ β)
    (h : run ρ fmt pre fs = some s) : Reachable ρ fmt (pre ++ post) fs s := by
  fun_induction run ρ fmt pre fs
  case case1 => cases h; exact .here _ _
  case case2 => cases h
  case case3 h' ih => exact .next _ _ _ _ _ h' (ih h)

/-- The whole effect of a fault-free `--backup` run, for any path resolution that keeps the
temporary apart from the file and from the `.bk`. -/
theorem run_backup {ρ : P → κ} (h1 : ρ .file ≠ ρ .tmp) (h2 : ρ .tmp ≠ ρ .bk) (fmt : List β)
    {fs : Fs κ β} {d : List β} (h0 : fs (ρ .file) = some d) :
    run ρ fmt (fsOps .filesWithBackup) fs = some fun k =>
      if k = ρ .file then some fmt else if k = ρ .tmp then none
      else if k = ρ .bk then some d else fs k := by
  have e1 : (fs.set (ρ .tmp) (some fmt)) (ρ .file) = some d := by rw [set_other _ _ _ _ h1, h0]
  simp only [fsOps, run, step, e1, set_other _ _ _ _ h2, set_other _ _ _ _ h1.symm, set_same,
    Option.some.injEq]
  funext k
  simp only [Fs.set]
  by_cases hf : k = ρ .file
  · simp [hf]
  · by_cases ht : k = ρ .tmp
    · simp [ht, h1.symm]
    · simp [hf, ht]

theorem guardedOps_self [DecidableEq β] (kind : EmitterKind) (text : List β) :
    guardedOps kind text text = [] :=
  if_neg (fun h => h rfl)

theorem guardedOps_of_ne [DecidableEq β] (kind : EmitterKind) {origText fmt : List β}
    (h : origText ≠ fmt) : guardedOps kind origText fmt = fsOps kind :=
  if_pos h

theorem guardedOps_eq_nil [DecidableEq β] {kind : EmitterKind} (h : fsOps kind = [])
    (origText fmt : List β) : guardedOps kind origText fmt = [] := by
  unfold guardedOps
  split
  · exact h
  · rfl

theorem reachable_nil (ρ : P → κ) (fmt : List β) (fs s : Fs κ β)
    (h : Reachable ρ fmt [] fs s) : s = fs := by
  cases h; rfl

section abs
variable {orig fmt : List β} {a : AFs} {fs : Fs P β}

theorem abs_set (h : Abs orig fmt a fs)
    (p : P) (x : A) {v : Option (List β)} (hx : Conc orig fmt x v) :
    Abs orig fmt (a.set p x) (fs.set p v) := by
  intro q
  rw [get_set]
  by_cases hq : q = p
  · subst hq; simpa [Fs.set] using hx
  · simpa [Fs.set, hq] using h q

theorem not_absent_of_some (h : Abs orig fmt a fs)
    {p : P} {d : List β} (hp : fs p = some d) : a.get p ≠ .absent := by
  intro ha
  have := h p
  rw [ha] at this
  simp [Conc, hp] at this

theorem abs_step {fs' : Fs P β} (h : Abs orig fmt a fs)
    (op : FsOp) (hs : step id fmt op fs = some fs') :
    ∃ a', aStep op a = some a' ∧ Abs orig fmt a' fs' := by
  cases op with
  | write dst => obtain rfl : fs' = _ := step_some hs; exact ⟨_, rfl, abs_set h dst .fmt rfl⟩
  | rename src dst =>
    obtain ⟨d, hd, rfl⟩ := step_some hs
    refine ⟨_, by simp [aStep, not_absent_of_some (p := src) h hd],
      abs_set (abs_set h src .absent rfl) dst (a.get src) ?_⟩
    exact hd ▸ h src
  | remove p =>
    obtain ⟨d, hd, rfl⟩ := step_some hs
    exact ⟨_, by simp [aStep, not_absent_of_some (p := p) h hd], abs_set h p .absent rfl⟩
  | copy src dst =>
    obtain ⟨d, hd, rfl⟩ := step_some hs
    refine ⟨_, by simp [aStep, not_absent_of_some (p := src) h hd],
      abs_set h dst (if src = dst then .any else a.get src) ?_⟩
    by_cases e : src = dst
    · simp [e, Conc]
    · simp only [id, e, if_false]; exact hd ▸ h src

theorem abs_partial {s : Fs P β} (h : Abs orig fmt a fs)
    (op : FsOp) (hp : Partial id fmt op fs s) :
    ∃ a' ∈ aPartial op a, Abs orig fmt a' s := by
  cases hp with
  | write dst _ k hk =>
    exact ⟨_, by simp [aPartial], abs_set h dst .part ⟨k, hk, rfl⟩⟩
  | copy src dst _ d k hs hk =>
    have hne : a.get src ≠ .absent := not_absent_of_some h hs
    exact ⟨_, by simp [aPartial, hne], abs_set h dst .any trivial⟩

theorem abs_reach (ops : List FsOp) (a : AFs) (fs s : Fs P β) (h : Abs orig fmt a fs)
    (r : Reachable id fmt ops fs s) : ∃ a' ∈ absReach ops a, Abs orig fmt a' s := by
  induction r generalizing a with
  | here ops fs =>
    cases ops <;> exact ⟨a, by simp [absReach], h⟩
  | inside op ops fs s hp =>
    obtain ⟨a', ha', habs⟩ := abs_partial h op hp
    exact ⟨a', by simp [absReach, ha'], habs⟩
  | next op ops fs fs' s hs _ ih =>
    obtain ⟨a1, ha1, habs1⟩ := abs_step h op hs
    obtain ⟨a', ha', habs⟩ := ih a1 habs1
    exact ⟨a', by simp [absReach, ha1, ha'], habs⟩

theorem aInv_sound {s : Fs P β} (hi : aInv a = true)
    (h : Abs orig fmt a s) : Safe orig fmt s := by
  have hf := h .file
  have hb := h .bk
  simp only [AFs.get] at hf hb
  simp only [aInv, Bool.and_eq_true, Bool.or_eq_true, beq_iff_eq] at hi
  obtain ⟨h1, h2⟩ := hi
  constructor
  · rcases h1 with h1 | h1
    · rw [h1] at hf; exact Or.inl hf
    · rw [h1] at hb; exact Or.inr hb
  · rcases h2 with (h2 | h2) | h2 <;> rw [h2] at hf
    · exact Or.inl hf
    · exact Or.inr (Or.inl hf)
    · exact Or.inr (Or.inr hf)

theorem abs_init (h : fs .file = some orig) : Abs orig fmt aInit fs := by
  intro p; cases p <;> simp [aInit, AFs.get, Conc, h]

end abs

/-- Soundness of the oracle: an op list accepted by `checkProtocol` keeps both invariants in every
state reachable by crashes and faults, whatever the original, the formatted text, and the
pre-existing contents of the `.tmp` and `.bk` siblings. -/
theorem checkProtocol_sound (ops : List FsOp) (hc : checkProtocol ops = true)
    (orig fmt : List β) (fs s : Fs P β) (h0 : fs .file = some orig)
    (r : Reachable id fmt ops fs s) : Safe orig fmt s := by
  obtain ⟨a', ha', habs⟩ := abs_reach ops aInit fs s (abs_init h0) r
  simp only [checkProtocol, List.all_eq_true] at hc
  exact aInv_sound (hc a' ha') habs

theorem safeB_iff [DecidableEq β] (orig fmt : List β) (s : Fs P β) :
    safeB orig fmt (s .file) (s .bk) = true ↔ Safe orig fmt s := by
  simp [safeB, Safe, or_assoc]

theorem concB_iff [DecidableEq β] (orig fmt : List β) (a : A) (v : Option (List β)) :
    concB orig fmt a v = true ↔ Conc orig fmt a v := by
  cases a with
  | absent => simp [concB, Conc]
  | orig => simp [concB, Conc]
  | fmt => simp [concB, Conc]
  | any => simp [concB, Conc]
  | part =>
    cases v with
    | none => simp [concB, Conc]
    | some d =>
      simp only [concB, Conc, Bool.and_eq_true, decide_eq_true_eq, beq_iff_eq, Option.some.injEq]
      constructor
      · rintro ⟨h1, h2⟩; exact ⟨d.length, h1, h2⟩
      · rintro ⟨k, hk, rfl⟩
        have : (fmt.take k).length = k := by simp; omega
        rw [this]; exact ⟨hk, rfl⟩

theorem reachable_observedOk [DecidableEq β] (ops : List FsOp) (orig fmt : List β)
    (fs s : Fs P β) (h0 : fs .file = some orig) (r : Reachable id fmt ops fs s) :
    observedOk ops orig fmt (s .file) (s .tmp) (s .bk) = true := by
  obtain ⟨a', ha', habs⟩ := abs_reach ops aInit fs s (abs_init h0) r
  simp only [observedOk, List.any_eq_true, Bool.and_eq_true]
  exact ⟨a', ha', ⟨(concB_iff _ _ _ _).mpr (habs .file), (concB_iff _ _ _ _).mpr (habs .tmp)⟩,
    (concB_iff _ _ _ _).mpr (habs .bk)⟩

theorem set_frame {ρ : P → κ} (g : Fs κ β) (p : P) (v : Option (List β)) (k : κ)
    (hk : ∀ p, ρ p ≠ k) : (g.set (ρ p) v) k = g k := by
  have : k ≠ ρ p := fun e => hk p e.symm
  simp [Fs.set, this]

section lift
variable {ρ : P → κ} (hρ : Function.Injective ρ)
include hρ

theorem comp_set (g : Fs κ β) (p : P) (v : Option (List β)) :
    (g.set (ρ p) v) ∘ ρ = (Fs.set (g ∘ ρ) p v : Fs P β) := by
  funext q
  by_cases hq : q = p
  · subst hq; simp [Fs.set]
  · have : ρ q ≠ ρ p := fun e => hq (hρ e)
    simp [Fs.set, hq, this]

theorem step_lift (fmt : List β) (op : FsOp) (g g' : Fs κ β) (h : step ρ fmt op g = some g') :
    step id fmt op (g ∘ ρ) = some (g' ∘ ρ) ∧ ∀ k, (∀ p, ρ p ≠ k) → g' k = g k := by
  cases op with
  | write dst =>
    obtain rfl : g' = _ := step_some h
    exact ⟨by simp [step, comp_set hρ], fun k hk => set_frame g dst _ k hk⟩
  | rename src dst =>
    obtain ⟨d, hd, rfl⟩ := step_some h
    exact ⟨by simp [step, hd, comp_set hρ],
      fun k hk => by rw [set_frame _ dst _ k hk, set_frame _ src _ k hk]⟩
  | remove p =>
    obtain ⟨d, hd, rfl⟩ := step_some h
    exact ⟨by simp [step, hd, comp_set hρ], fun k hk => set_frame g p _ k hk⟩
  | copy src dst =>
    obtain ⟨d, hd, rfl⟩ := step_some h
    exact ⟨by simp [step, hd, comp_set hρ, hρ.eq_iff], fun k hk => set_frame g dst _ k hk⟩

theorem partial_lift (fmt : List β) (op : FsOp) (g s : Fs κ β) (h : Partial ρ fmt op g s) :
    Partial id fmt op (g ∘ ρ) (s ∘ ρ) ∧ ∀ k, (∀ p, ρ p ≠ k) → s k = g k := by
  cases h with
  | write dst _ k hk =>
    refine ⟨?_, fun k' hk' => set_frame g dst _ k' hk'⟩
    rw [comp_set hρ]; exact .write dst _ k hk
  | copy src dst _ d k hs hk =>
    refine ⟨?_, fun k' hk' => set_frame g dst _ k' hk'⟩
    rw [comp_set hρ]; exact .copy src dst _ d k hs hk

/-- With pairwise distinct paths, what one file's ops do to the global file system is what the
identity-path semantics does to the file's own three paths, and every other path is untouched. -/
theorem reachable_lift (fmt : List β) (ops : List FsOp) (g s : Fs κ β)
    (r : Reachable ρ fmt ops g s) :
    Reachable id fmt ops (g ∘ ρ) (s ∘ ρ) ∧ ∀ k, (∀ p, ρ p ≠ k) → s k = g k := by
  induction r with
  | here ops fs => exact ⟨.here _ _, fun _ _ => rfl⟩
  | inside op ops fs s hp =>
    obtain ⟨h1, h2⟩ := partial_lift hρ fmt op fs s hp
    exact ⟨.inside _ _ _ _ h1, h2⟩
  | next op ops fs fs' s hs _ ih =>
    obtain ⟨h1, h2⟩ := step_lift hρ fmt op fs fs' hs
    obtain ⟨i1, i2⟩ := ih
    exact ⟨.next _ _ _ _ _ h1 i1, fun k hk => by rw [i2 k hk, h2 k hk]⟩

theorem checkProtocol_sound_paths (ops : List FsOp) (hc : checkProtocol ops = true)
    (orig fmt : List β) (g s : Fs κ β) (h0 : g (ρ .file) = some orig)
    (r : Reachable ρ fmt ops g s) :
    Safe orig fmt (s ∘ ρ) ∧ ∀ k, (∀ p, ρ p ≠ k) → s k = g k := by
  obtain ⟨h1, h2⟩ := reachable_lift hρ fmt ops g s r
  exact ⟨checkProtocol_sound ops hc orig fmt (g ∘ ρ) (s ∘ ρ) h0 h1, h2⟩

end lift

theorem greachable_frame :
    ∀ (js : List (Job κ β)) (g t : Fs κ β), (∀ j ∈ js, Function.Injective j.paths) →
      GReachable js g t → ∀ k, (∀ j ∈ js, ∀ p, j.paths p ≠ k) → t k = g k := by
  intro js g t hinj r
  induction r with
  | here js g => intro k _; rfl
  | next j js g s t h _ ih =>
    intro k hk
    have hj := (reachable_lift (hinj j (by simp)) j.fmt j.ops g s h).2 k (hk j (by simp))
    rw [ih (fun j' hj' => hinj j' (by simp [hj'])) k (fun j' hj' => hk j' (by simp [hj'])), hj]

theorem safe_init {orig fmt : List β} {s : Fs P β} (h : s .file = some orig) : Safe orig fmt s :=
  ⟨Or.inl h, Or.inr (Or.inl h)⟩

theorem multi_file (js : List (Job κ β)) :
    ∀ (g t : Fs κ β),
      (∀ j ∈ js, Function.Injective j.paths) →
      js.Pairwise (fun a b => ∀ p q, a.paths p ≠ b.paths q) →
      (∀ j ∈ js, checkProtocol j.ops = true) →
      (∀ j ∈ js, g (j.paths .file) = some j.disk) →
      GReachable js g t → ∀ j ∈ js, Safe j.disk j.fmt (t ∘ j.paths) := by
  induction js with
  | nil => intro g t _ _ _ _ _ j hj; simp at hj
  | cons j0 js ih =>
    intro g t hinj hpw hck h0 r
    cases r with
    | here =>
      intro j hj
      exact safe_init (h0 j hj)
    | next _ _ _ s _ h r' =>
      have hinj' : ∀ j ∈ js, Function.Injective j.paths := fun j hj => hinj j (by simp [hj])
      obtain ⟨hsafe, hframe⟩ := checkProtocol_sound_paths (hinj j0 (by simp)) j0.ops
        (hck j0 (by simp)) j0.disk j0.fmt g s (h0 j0 (by simp)) h
      rw [List.pairwise_cons] at hpw
      intro j hj
      rcases List.mem_cons.mp hj with rfl | hj
      · -- the later jobs do not touch this file's paths
        have : (t ∘ j.paths) = (s ∘ j.paths) := by
          funext p
          exact greachable_frame js s t hinj' r' (j.paths p)
            (fun j' hj' q e => hpw.1 j' hj' p q e.symm)
        rw [this]; exact hsafe
      · refine ih s t hinj' hpw.2 (fun j hj => hck j (by simp [hj])) ?_ r' j hj
        intro j' hj'
        rw [hframe (j'.paths .file) (fun p e => hpw.1 j' hj' p .file e)]
        exact h0 j' (by simp [hj'])

end generic

end RF.Lemmas.Backup

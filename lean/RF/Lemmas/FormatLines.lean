import RF.Model.FormatLinesSpec
/-!
Proofs for C07.  `newLine_eq` gives `new_line` as a closed function of the scanner state; under the
invariant `Inv` (the state describes the line collected so far) it is the specification's verdict on
that line (`newLine_spec`), and one induction over the scan (`iterate_spec`) gives the entries and
`newline_count`.  With `truncate_spec` for the final `String::truncate` this is
`formatLinesOn_eq_spec`.  The rest reads the specification: membership, line numbers, order, and what
`track_errors` makes of the entries.
-/
namespace RF.Lemmas.FormatLines
open RF.CharClasses (Kind)
open RF.FormatLines RF.FormatLines.Spec

theorem visible_snoc_cr (cur : List (Kind × Char)) (k nl : Kind) :
    visible ⟨cur ++ [(k, '\r')], nl⟩ = visible ⟨cur, nl⟩ := by
  simp [visible, List.filter_append]

theorem visible_snoc (cur : List (Kind × Char)) (k nl : Kind) (c : Char) (h : c ≠ '\r') :
    visible ⟨cur ++ [(k, c)], nl⟩ = visible ⟨cur, nl⟩ ++ [(k, c)] := by
  simp [visible, List.filter_append, h]

theorem lineText_snoc (cur : List (Kind × Char)) (k nl : Kind) (c : Char) (h : c ≠ '\r') :
    lineText ⟨cur ++ [(k, c)], nl⟩ = lineText ⟨cur, nl⟩ ++ [c] := by
  simp [lineText, visible_snoc cur k nl c h]

theorem width_snoc (tab : Nat) (cur : List (Kind × Char)) (k nl : Kind) (c : Char) (h : c ≠ '\r') :
    width tab ⟨cur ++ [(k, c)], nl⟩ = width tab ⟨cur, nl⟩ + charWidth tab c := by
  simp [width, lineText_snoc cur k nl c h, List.sum_append]

theorem endsBlank_snoc (cur : List (Kind × Char)) (k nl : Kind) (c : Char) (h : c ≠ '\r') :
    endsBlank ⟨cur ++ [(k, c)], nl⟩ = isWhitespace c := by
  simp [endsBlank, lineText_snoc cur k nl c h]

theorem stringLine_snoc (cur : List (Kind × Char)) (k nl : Kind) (c : Char) (h : c ≠ '\r') :
    stringLine ⟨cur ++ [(k, c)], nl⟩ = (stringLine ⟨cur, nl⟩ || k.isString) := by
  simp [stringLine, visible_snoc cur k nl c h]

theorem isSkippedLine_eq (sk : List (Nat × Nat)) (n : Nat) : isSkippedLine sk n = inSkipped sk n := rfl

/-- The scanner state describes the line collected so far (`cur`), and nothing else.  The four
quantities read `body` only; `nl` is not known before the `'\n'` arrives, hence `∀ nl`. -/
structure Inv (cfg : Config) (selected : Nat → Bool) (st : State) (cur : List (Kind × Char)) :
    Prop where
  len : ∀ nl, st.lineLen = width cfg.tabSpaces ⟨cur, nl⟩
  blank : ∀ nl, st.lastWasSpace = endsBlank ⟨cur, nl⟩
  str : ∀ nl, st.currentLineContainsStringLiteral = stringLine ⟨cur, nl⟩
  buf : ∀ nl, st.lineBuffer = lineText ⟨cur, nl⟩
  fmt : st.formatLine = selected st.curLine

theorem inv_cr {cfg selected st cur} (k : Kind) (h : Inv cfg selected st cur) :
    Inv cfg selected st (cur ++ [(k, '\r')]) := by
  refine ⟨fun nl => ?_, fun nl => ?_, fun nl => ?_, fun nl => ?_, h.fmt⟩
  · rw [h.len nl]; simp [width, lineText, visible_snoc_cr]
  · rw [h.blank nl]; simp [endsBlank, lineText, visible_snoc_cr]
  · rw [h.str nl]; simp [stringLine, visible_snoc_cr]
  · rw [h.buf nl]; simp [lineText, visible_snoc_cr]

theorem inv_char {cfg selected st cur} (k : Kind) (c : Char) (hc : c ≠ '\r')
    (h : Inv cfg selected st cur) :
    Inv cfg selected (char cfg st c k) (cur ++ [(k, c)]) := by
  refine ⟨fun nl => ?_, fun nl => ?_, fun nl => ?_, fun nl => ?_, h.fmt⟩
  · simp [char, width_snoc _ _ _ _ _ hc, h.len nl, charWidth]
  · simp [char, endsBlank_snoc _ _ _ _ hc]
  · simp only [char, stringLine_snoc _ _ _ _ hc, h.str nl]
    cases k.isString <;> simp
  · simp [char, lineText_snoc _ _ _ _ hc, h.buf nl]

theorem inv_fresh (cfg : Config) (selected : Nat → Bool) (n nc : Nat) (errs : List FormattingError) :
    Inv cfg selected
      { lastWasSpace := false, lineLen := 0, curLine := n, newlineCount := nc, errors := errs,
        lineBuffer := [], currentLineContainsStringLiteral := false, formatLine := selected n } [] :=
  ⟨fun _ => rfl, fun _ => rfl, fun _ => rfl, fun _ => rfl, rfl⟩

/-- `lineErrors` as a function of the per-line quantities. -/
def lineErrorsAbs (cfg : Config) (skp s : Bool) (n w : Nat) (eb hs : Bool) (buf : List Char) (k : Kind) :
    List FormattingError :=
  if s && !skp && (cfg.errorOnUnformatted || !(k.isComment || hs)) then
    (if eb then [⟨n, .trailingWhitespace, k.isComment, k.isString, buf⟩] else []) ++
    (if cfg.errorOnLineOverflow && decide ((if eb then w - 1 else w) > cfg.maxWidth) then
      [⟨n, .lineOverflow (if eb then w - 1 else w) cfg.maxWidth, k.isComment, hs, buf⟩] else [])
  else []

theorem lineErrors_eq_abs (cfg : Config) (sk : List (Nat × Nat)) (selected : Nat → Bool) (n : Nat)
    (l : Line) :
    lineErrors cfg sk selected n l =
      lineErrorsAbs cfg (inSkipped sk n) (selected n) n (width cfg.tabSpaces l) (endsBlank l)
        (stringLine l) (lineText l) l.nl := rfl

theorem shouldReportError_trailing (cfg : Config) (st : State) (k : Kind) :
    shouldReportError cfg st k .trailingWhitespace =
      (cfg.errorOnUnformatted || !(k.isComment || st.currentLineContainsStringLiteral)) := by
  cases h : (k.isComment || st.currentLineContainsStringLiteral) <;>
    simp [shouldReportError, ErrorKind.isComment, h]

theorem shouldReportError_overflow (cfg : Config) (st : State) (k : Kind) (a b : Nat) :
    shouldReportError cfg st k (.lineOverflow a b) =
      (cfg.errorOnLineOverflow &&
        (cfg.errorOnUnformatted || !(k.isComment || st.currentLineContainsStringLiteral))) := by
  cases h : (k.isComment || st.currentLineContainsStringLiteral) <;>
    simp [shouldReportError, ErrorKind.isComment, h]

theorem ite_pushErr (c : Bool) (st : State) (kd : ErrorKind) (a b : Bool) :
    (if c = true then pushErr st kd a b else st) =
      { st with errors := st.errors ++ if c then [⟨st.curLine, kd, a, b, st.lineBuffer⟩] else [] } := by
  cases c <;> simp [pushErr]

theorem newLine_eq (cfg : Config) (sk : List (Nat × Nat)) (selected : Nat → Bool) (st : State)
    (k : Kind) :
    newLine cfg sk selected st k =
      if st.formatLine && st.lastWasSpace && st.lineLen == 0 then none
      else some
        { lastWasSpace := false, lineLen := 0, curLine := st.curLine + 1,
          newlineCount := st.newlineCount + 1,
          errors := st.errors ++ lineErrorsAbs cfg (inSkipped sk st.curLine) st.formatLine st.curLine
            st.lineLen st.lastWasSpace st.currentLineContainsStringLiteral st.lineBuffer k,
          lineBuffer := [], currentLineContainsStringLiteral := false,
          formatLine := selected (st.curLine + 1) } := by
  obtain ⟨eb, w, cl, nc, errs, buf, hs, fl⟩ := st
  cases fl
  · simp [newLine, lineErrorsAbs]
  -- `ite_pushErr` turns both conditional pushes into appends, so that `new_line` unfolds to one
  -- record; what is left is an identity between two conditional lists
  cases eb
  · simp only [newLine, Bool.false_eq_true, ↓reduceIte, ← apply_ite some, ite_pushErr,
      shouldReportError_overflow, isSkippedLine_eq, lineErrorsAbs]
    cases inSkipped sk cl <;> cases (cfg.errorOnUnformatted || !(k.isComment || hs)) <;>
      simp [and_comm]
  · simp only [newLine, ↓reduceIte, ← apply_ite some, ite_pushErr, shouldReportError_trailing,
      shouldReportError_overflow, isSkippedLine_eq, lineErrorsAbs]
    by_cases hw : w = 0
    · simp [hw]
    · simp only [hw, ↓reduceIte]
      cases inSkipped sk cl <;> cases (cfg.errorOnUnformatted || !(k.isComment || hs)) <;>
        simp [hw, and_comm]

theorem newLine_spec (cfg : Config) (sk : List (Nat × Nat)) (selected : Nat → Bool)
    (st : State) (cur : List (Kind × Char)) (k : Kind) (h : Inv cfg selected st cur) :
    newLine cfg sk selected st k =
      if underflows cfg selected st.curLine ⟨cur, k⟩ then none
      else some
        { lastWasSpace := false, lineLen := 0, curLine := st.curLine + 1,
          newlineCount := st.newlineCount + 1,
          errors := st.errors ++ lineErrors cfg sk selected st.curLine ⟨cur, k⟩,
          lineBuffer := [], currentLineContainsStringLiteral := false,
          formatLine := selected (st.curLine + 1) } := by
  rw [newLine_eq, h.len k, h.blank k, h.str k, h.buf k, h.fmt, lineErrors_eq_abs]
  rfl

theorem trailingNewlines_snoc (xs : List Char) (c : Char) :
    trailingNewlines (xs ++ [c]) =
      if c = '\n' then trailingNewlines xs + 1 else if c = '\r' then trailingNewlines xs else 0 := by
  by_cases h1 : c = '\n'
  · subst h1; simp [trailingNewlines]
  · by_cases h2 : c = '\r'
    · subst h2; simp [trailingNewlines]
    · simp [trailingNewlines, h1, h2]

/-- The scanner, started anywhere in a line (`pre` = the text before), reports exactly the specified
diagnostics of the remaining terminated lines, panics exactly when the specification says so, and
ends with `newline_count` = the number of `'\n'` in the trailing run of `'\n'`/`'\r'` of the text. -/
theorem iterate_spec (cfg : Config) (sk : List (Nat × Nat)) (selected : Nat → Bool) :
    ∀ (l : List (Kind × Char)) (st : State) (cur : List (Kind × Char)) (pre : List Char),
      Inv cfg selected st cur → st.newlineCount = trailingNewlines pre →
      (iterate cfg sk selected st l).map (fun s => (s.errors, s.newlineCount)) =
        (errorsFrom cfg sk selected st.curLine (splitLines cur l).1).map
          (st.errors ++ ·, trailingNewlines (pre ++ l.map (·.2)))
  | [], st, cur, pre, _, hp => by simp [iterate, splitLines, errorsFrom, hp]
  | (k, c) :: rest, st, cur, pre, h, hp => by
    have hpre : pre ++ ((k, c) :: rest).map (·.2) = (pre ++ [c]) ++ rest.map (·.2) := by simp
    rw [hpre]
    by_cases hcr : c = '\r'
    · subst hcr
      have ih := iterate_spec cfg sk selected rest st _ (pre ++ ['\r']) (inv_cr k h)
        (by simp [trailingNewlines_snoc, hp])
      simpa [iterate, splitLines] using ih
    · by_cases hnl : c = '\n'
      · subst hnl
        simp only [iterate, splitLines, if_true, if_neg hcr, newLine_spec cfg sk selected st cur k h,
          errorsFrom]
        by_cases hu : underflows cfg selected st.curLine ⟨cur, k⟩ = true
        · simp [hu]
        · simp only [hu, Bool.false_eq_true, if_false]
          rw [iterate_spec cfg sk selected rest _ [] (pre ++ ['\n']) (inv_fresh cfg selected _ _ _) ?_]
          · simp [Option.map_map, Function.comp_def]
          · simp [trailingNewlines_snoc, hp]
      · have ih := iterate_spec cfg sk selected rest _ _ (pre ++ [c]) (inv_char k c hcr h)
          (by simp [trailingNewlines_snoc, hcr, hnl, char])
        simpa [iterate, splitLines, hcr, hnl, char] using ih

theorem splitLines_join (l cur : List (Kind × Char)) :
    ((splitLines cur l).1.flatMap fun ln => ln.body ++ [(ln.nl, '\n')]) ++ (splitLines cur l).2 =
      cur ++ l := by
  fun_induction splitLines cur l
  case case1 => simp
  case case2 ih => simp only [List.nil_append] at ih; simp [ih]
  case case3 ih => simpa using ih

theorem splitLines_no_nl (tail cur : List (Kind × Char)) (h : ∀ p ∈ tail, p.2 ≠ '\n') :
    splitLines cur tail = ([], cur ++ tail) := by
  fun_induction splitLines cur tail
  case case1 => simp
  case case2 k _ _ => exact absurd rfl (h (k, '\n') (by simp))
  case case3 ih => simp [ih (fun p hp => h p (by simp [hp]))]

/-- `splitLines` of `l ++ l'` continues from the unfinished line of `l`. -/
theorem splitLines_append (l l' cur : List (Kind × Char)) :
    splitLines cur (l ++ l') =
      ((splitLines cur l).1 ++ (splitLines (splitLines cur l).2 l').1,
        (splitLines (splitLines cur l).2 l').2) := by
  fun_induction splitLines cur l
  case case1 => simp
  case case2 ih => simp [splitLines, ih]
  case case3 hc ih => simp [splitLines, hc, ih]

theorem count_nl_eq_zero (cur : List (Kind × Char)) (h : ∀ p ∈ cur, p.2 ≠ '\n') :
    (cur.map (·.2)).count '\n' = 0 := by
  rw [List.count_eq_zero]
  intro hm
  obtain ⟨p, hp, he⟩ := List.mem_map.mp hm
  exact h p hp he

theorem splitLines_decomp (l cur : List (Kind × Char)) (i : Nat) (ln : Line)
    (hc : ∀ p ∈ cur, p.2 ≠ '\n') (h : (splitLines cur l).1[i]? = some ln) :
    ∃ pre post, cur ++ l = pre ++ ln.body ++ [(ln.nl, '\n')] ++ post ∧
      (pre.map (·.2)).count '\n' = i ∧ ∀ p ∈ ln.body, p.2 ≠ '\n' := by
  fun_induction splitLines cur l generalizing i
  case case1 => simp at h
  case case2 cur k rest ih =>
    cases i with
    | zero =>
      simp at h; subst h
      exact ⟨[], rest, by simp, by simp, hc⟩
    | succ j =>
      simp only [List.getElem?_cons_succ] at h
      obtain ⟨pre, post, he, hcnt, hb⟩ := ih j (by simp) h
      refine ⟨cur ++ [(k, '\n')] ++ pre, post, ?_, ?_, hb⟩
      · simp only [List.nil_append] at he
        simp [he]
      · simp [List.count_append, count_nl_eq_zero cur hc, hcnt]
  case case3 cur k c rest hnl ih =>
    obtain ⟨pre, post, he, hcnt, hb⟩ := ih i
      (by intro p hp; rcases List.mem_append.mp hp with hp | hp
          · exact hc p hp
          · simp at hp; subst hp; exact hnl) h
    exact ⟨pre, post, by simpa using he, hcnt, hb⟩

theorem utf8Size_nl : ('\n' : Char).utf8Size = 1 := by decide

theorem utf8Size_cr : ('\r' : Char).utf8Size = 1 := by decide

theorem truncateBytes_cons (m : Nat) (c : Char) (cs : List Char) (h : c.utf8Size ≤ m) :
    truncateBytes m (c :: cs) = (truncateBytes (m - c.utf8Size) cs).map (c :: ·) := by
  cases m with
  | zero => have := Char.utf8Size_pos c; omega
  | succ n => simp [truncateBytes, h]

theorem truncateBytes_append (A B : List Char) (k : Nat) :
    truncateBytes (byteLen A + k) (A ++ B) = (truncateBytes k B).map (A ++ ·) := by
  induction A with
  | nil => simp [byteLen]
  | cons a A ih =>
    have e : byteLen (a :: A) + k - a.utf8Size = byteLen A + k := by simp [byteLen]; omega
    rw [List.cons_append, truncateBytes_cons _ _ _ (by simp [byteLen]; omega), e, ih]
    simp [Option.map_map, Function.comp_def]

theorem truncateBytes_ascii : ∀ (B : List Char) (k : Nat), (∀ c ∈ B, c.utf8Size = 1) →
    truncateBytes k B = some (B.take k)
  | [], k, _ => by simp [truncateBytes]
  | b :: B, 0, _ => by simp [truncateBytes]
  | b :: B, k + 1, h => by
    have hb : b.utf8Size = 1 := h b (by simp)
    rw [truncateBytes_cons _ _ _ (by omega), hb]
    simp [truncateBytes_ascii B k (fun c hc => h c (by simp [hc]))]

theorem byteLen_ascii (B : List Char) (h : ∀ c ∈ B, c.utf8Size = 1) : byteLen B = B.length := by
  induction B with
  | nil => rfl
  | cons b B ih =>
    have := h b (by simp)
    have := ih (fun c hc => h c (by simp [hc]))
    simp [byteLen] at *; omega

theorem byteLen_append (A B : List Char) : byteLen (A ++ B) = byteLen A + byteLen B := by
  simp [byteLen, List.sum_append]

/-- The byte-level `String::truncate` of `format_lines` cuts exactly the specified suffix, and
neither the subtraction nor the truncation can panic. -/
theorem truncate_spec (text : List Char) (h : trailingNewlines text > 1) :
    trailingNewlines text ≤ byteLen text ∧
    truncateBytes (byteLen text - trailingNewlines text + 1) text = some (truncated text) := by
  -- the arithmetic of the cut, for a text of `a` units before a tail of `b` with `c` newlines
  have arith : ∀ a b c : Nat, c > 1 → c ≤ b → c ≤ a + b ∧
      a + b - c + 1 = a + (b - c + 1) ∧ a + b - (c - 1) = a + (b - c + 1) := by
    intro a b c _ _; omega
  let p : Char → Bool := fun c => c = '\n' || c = '\r'
  have hsplit : text = (text.reverse.dropWhile p).reverse ++ (text.reverse.takeWhile p).reverse := by
    rw [← List.reverse_append, List.takeWhile_append_dropWhile, List.reverse_reverse]
  generalize hA : (text.reverse.dropWhile p).reverse = A at hsplit
  generalize hB : (text.reverse.takeWhile p).reverse = B at hsplit
  have hBp : ∀ c ∈ B, c.utf8Size = 1 := by
    intro c hc
    rw [← hB, List.mem_reverse] at hc
    have := List.all_eq_true.mp (List.all_takeWhile (p := p) (l := text.reverse)) c hc
    simp [p] at this
    rcases this with rfl | rfl
    · exact utf8Size_nl
    · exact utf8Size_cr
  have htn : trailingNewlines text = B.count '\n' := by
    simp only [trailingNewlines]
    rw [← hB, List.count_reverse]
  have hle : B.count '\n' ≤ B.length := List.count_le_length
  simp only [truncated]
  rw [htn] at h ⊢
  subst hsplit
  rw [byteLen_append, byteLen_ascii B hBp]
  obtain ⟨hle', e, _⟩ := arith (byteLen A) _ _ h hle
  refine ⟨hle', ?_⟩
  rw [e, truncateBytes_append, truncateBytes_ascii B _ hBp]
  simp only [Option.map_some, Option.some.injEq, List.length_append]
  rw [(arith A.length _ _ h hle).2.2, List.take_append]
  simp [List.take_of_length_le]

theorem truncated_of_le_one (text : List Char) (h : ¬ trailingNewlines text > 1) :
    truncated text = text := by
  have : trailingNewlines text - 1 = 0 := by omega
  simp [truncated, this]

theorem formatLinesOn_eq_spec (cfg : Config) (sk : List (Nat × Nat)) (selected : Nat → Bool)
    (tagged : List (Kind × Char)) :
    formatLinesOn cfg sk selected tagged = Spec.result cfg sk selected tagged := by
  have hs := iterate_spec cfg sk selected tagged (State.new selected) [] []
    (inv_fresh cfg selected 1 0 []) rfl
  simp only [State.new, List.nil_append] at hs
  simp only [formatLinesOn, Spec.result, Spec.errors, lines, State.new]
  cases he : errorsFrom cfg sk selected 1 (splitLines [] tagged).1 with
  | none =>
    rw [he, Option.map_none, Option.map_eq_none_iff] at hs
    simp [hs]
  | some es =>
    rw [he] at hs
    obtain ⟨st, hi, hst⟩ := Option.map_eq_some_iff.mp hs
    obtain ⟨rfl, hnc⟩ := Prod.mk.inj hst
    simp only [hi, Option.map_some]
    by_cases hgt : st.newlineCount > 1
    · have ht := truncate_spec (tagged.map (·.2)) (by omega)
      rw [← hnc] at ht
      have hlt : ¬ byteLen (tagged.map (·.2)) < st.newlineCount := by omega
      simp [hgt, hlt, ht.2]
    · have ht := truncated_of_le_one (tagged.map (·.2)) (by omega)
      simp [hgt, ht]

section

variable (cfg : Config) (sk : List (Nat × Nat)) (selected : Nat → Bool)

theorem mem_errorsFrom (e : FormattingError) (ls : List Line) (n : Nat) (es : List FormattingError)
    (h : errorsFrom cfg sk selected n ls = some es) :
    (e ∈ es ↔ ∃ i l, ls[i]? = some l ∧ e ∈ lineErrors cfg sk selected (n + i) l) := by
  fun_induction errorsFrom cfg sk selected n ls generalizing es
  case case1 => cases h; simp
  case case2 => cases h
  case case3 n l0 ls _ ih =>
    obtain ⟨es', h', rfl⟩ := Option.map_eq_some_iff.mp h
    rw [List.mem_append, ih es' h']
    constructor
    · rintro (h0 | ⟨i, l, hl, he⟩)
      · exact ⟨0, l0, by simp, by simpa using h0⟩
      · exact ⟨i + 1, l, by simpa using hl, by simpa [Nat.add_assoc, Nat.add_comm 1 i] using he⟩
    · rintro ⟨i, l, hl, he⟩
      cases i with
      | zero => simp at hl; subst hl; exact Or.inl (by simpa using he)
      | succ i => exact Or.inr ⟨i, l, by simpa using hl, by simpa [Nat.add_assoc, Nat.add_comm 1 i] using he⟩

theorem errorsFrom_isSome_iff (ls : List Line) (n : Nat) :
    (errorsFrom cfg sk selected n ls).isSome ↔
      ∀ i l, ls[i]? = some l → underflows cfg selected (n + i) l = false := by
  fun_induction errorsFrom cfg sk selected n ls
  case case1 => simp
  case case2 n l0 ls hu =>
    simp only [Option.isSome_none, Bool.false_eq_true, false_iff]
    intro h
    have := h 0 l0 (by simp)
    simp [hu] at this
  case case3 n l0 ls hu ih =>
    rw [Option.isSome_map, ih]
    constructor
    · intro h i l hl
      cases i with
      | zero => simp at hl; subst hl; simpa using hu
      | succ i => simpa [Nat.add_assoc, Nat.add_comm 1 i] using h i l (by simpa using hl)
    · intro h i l hl
      simpa [Nat.add_assoc, Nat.add_comm 1 i] using h (i + 1) l (by simpa using hl)

theorem charWidth_sum_pos (tab : Nat) (ht : 1 ≤ tab) : ∀ (t : List Char), t ≠ [] →
    1 ≤ (t.map (charWidth tab)).sum
  | [], h => absurd rfl h
  | c :: t, _ => by
    have : 1 ≤ charWidth tab c := by unfold charWidth; split <;> omega
    simp only [List.map_cons, List.sum_cons]; omega

theorem width_pos_of_endsBlank (tab : Nat) (ht : 1 ≤ tab) (l : Line) (h : endsBlank l = true) :
    1 ≤ width tab l := by
  apply charWidth_sum_pos tab ht
  intro hnil
  simp [endsBlank, hnil] at h

theorem underflows_false (ht : 1 ≤ cfg.tabSpaces) (n : Nat) (l : Line) :
    underflows cfg selected n l = false := by
  cases hb : endsBlank l with
  | false => simp [underflows, hb]
  | true =>
    have := width_pos_of_endsBlank cfg.tabSpaces ht l hb
    have : ¬ width cfg.tabSpaces l = 0 := by omega
    simp [underflows, this]

theorem mem_lineErrors (n : Nat) (l : Line) (e : FormattingError) :
    e ∈ lineErrors cfg sk selected n l ↔
      eligible cfg sk selected n l = true ∧
      ((endsBlank l = true ∧
          e = ⟨n, .trailingWhitespace, commentLine l, l.nl.isString, lineText l⟩) ∨
       (cfg.errorOnLineOverflow = true ∧ cfg.maxWidth < reportedWidth cfg.tabSpaces l ∧
          e = ⟨n, .lineOverflow (reportedWidth cfg.tabSpaces l) cfg.maxWidth, commentLine l,
            stringLine l, lineText l⟩)) := by
  simp only [lineErrors, List.mem_ite_nil_right, List.mem_append, List.mem_singleton,
    Bool.and_eq_true, decide_eq_true_eq, gt_iff_lt, and_assoc]

theorem reportedWidth_le (tab : Nat) (l : Line) : reportedWidth tab l ≤ width tab l := by
  unfold reportedWidth; split <;> omega

end

section
variable {cfg : Config} {sk : List (Nat × Nat)} {selected : Nat → Bool}
  {tagged : List (Kind × Char)} {r : Result}

theorem spec_of_scan (h : formatLinesOn cfg sk selected tagged = some r) :
    errorsFrom cfg sk selected 1 (lines tagged) = some r.errors ∧
      r.text = truncated (tagged.map (·.2)) := by
  rw [formatLinesOn_eq_spec] at h
  simp only [Spec.result, Spec.errors] at h
  cases he : errorsFrom cfg sk selected 1 (lines tagged) with
  | none => simp [he] at h
  | some es => simp [he] at h; subst h; simp

theorem mem_errors_iff (h : formatLinesOn cfg sk selected tagged = some r) (e : FormattingError) :
    e ∈ r.errors ↔ ∃ i l, (lines tagged)[i]? = some l ∧ e ∈ lineErrors cfg sk selected (i + 1) l := by
  have := mem_errorsFrom cfg sk selected e (lines tagged) 1 r.errors (spec_of_scan h).1
  simpa [Nat.add_comm] using this

theorem line_of_mem_lineErrors {n : Nat} {l : Line} {e : FormattingError}
    (h : e ∈ lineErrors cfg sk selected n l) : e.line = n := by
  rcases (mem_lineErrors cfg sk selected n l e).mp h with ⟨_, ⟨_, rfl⟩ | ⟨_, _, rfl⟩⟩ <;> rfl

theorem exists_entry_iff (h : formatLinesOn cfg sk selected tagged = some r) {i : Nat} {l : Line}
    (hl : (lines tagged)[i]? = some l) (P : FormattingError → Prop) :
    (∃ e ∈ r.errors, e.line = i + 1 ∧ P e) ↔ ∃ e ∈ lineErrors cfg sk selected (i + 1) l, P e := by
  constructor
  · rintro ⟨e, he, hline, hP⟩
    obtain ⟨j, l', hl', hm⟩ := (mem_errors_iff h e).mp he
    obtain rfl : j = i := by have := line_of_mem_lineErrors hm; omega
    rw [hl] at hl'; cases hl'
    exact ⟨e, hm, hP⟩
  · rintro ⟨e, hm, hP⟩
    exact ⟨e, (mem_errors_iff h e).mpr ⟨i, l, hl, hm⟩, line_of_mem_lineErrors hm, hP⟩

theorem line_reported_iff (h : formatLinesOn cfg sk selected tagged = some r) {i : Nat} {l : Line}
    (hl : (lines tagged)[i]? = some l) :
    (∃ e ∈ r.errors, e.line = i + 1) ↔
      eligible cfg sk selected (i + 1) l = true ∧
        (endsBlank l = true ∨
          (cfg.errorOnLineOverflow = true ∧ cfg.maxWidth < reportedWidth cfg.tabSpaces l)) := by
  have := exists_entry_iff h hl (fun _ => True)
  simp only [and_true] at this
  rw [this]
  simp only [mem_lineErrors]
  constructor
  · rintro ⟨e, hel, ⟨hb, _⟩ | ⟨ho, hw, _⟩⟩
    · exact ⟨hel, Or.inl hb⟩
    · exact ⟨hel, Or.inr ⟨ho, hw⟩⟩
  · rintro ⟨hel, hb | ⟨ho, hw⟩⟩
    · exact ⟨_, hel, Or.inl ⟨hb, rfl⟩⟩
    · exact ⟨_, hel, Or.inr ⟨ho, hw, rfl⟩⟩

end

theorem errorsFrom_ge_sorted (cfg : Config) (sk : List (Nat × Nat)) (selected : Nat → Bool)
    (ls : List Line) (n : Nat) (es : List FormattingError)
    (h : errorsFrom cfg sk selected n ls = some es) :
    (∀ e ∈ es, n ≤ e.line) ∧ es.Pairwise (fun a b => a.line ≤ b.line) := by
  fun_induction errorsFrom cfg sk selected n ls generalizing es
  case case1 => cases h; simp
  case case2 => cases h
  case case3 n l0 ls _ ih =>
    obtain ⟨es', h', rfl⟩ := Option.map_eq_some_iff.mp h
    obtain ⟨hge, hp⟩ := ih es' h'
    have h0 : ∀ e ∈ lineErrors cfg sk selected n l0, e.line = n :=
      fun e he => line_of_mem_lineErrors he
    refine ⟨?_, ?_⟩
    · intro e he
      rcases List.mem_append.mp he with he | he
      · have := h0 e he; omega
      · have := hge e he; omega
    · rw [List.pairwise_append]
      refine ⟨?_, hp, ?_⟩
      · rw [List.pairwise_iff_forall_sublist]
        intro a b hab
        have ha := h0 a (hab.subset (by simp))
        have hb := h0 b (hab.subset (by simp))
        omega
      · intro a ha b hb
        have := h0 a ha; have := hge b hb; omega

/-- Kinds that `track_errors` maps to `has_operational_errors`. -/
def setsOperational : ErrorKind → Bool
  | .lineOverflow _ _ | .trailingWhitespace => true
  | _ => false

theorem trackOne_op (errs : ReportedErrors) (k : ErrorKind) :
    (trackOne errs k).hasOperationalErrors = (errs.hasOperationalErrors || setsOperational k) := by
  cases k <;> simp [trackOne, setsOperational]

theorem foldl_trackOne_op : ∀ (ks : List ErrorKind) (errs : ReportedErrors),
    (ks.foldl trackOne errs).hasOperationalErrors =
      (errs.hasOperationalErrors || ks.any setsOperational)
  | [], _ => by simp
  | k :: ks, errs => by
    rw [List.foldl_cons, foldl_trackOne_op ks, trackOne_op, List.any_cons, Bool.or_assoc]

/-- A `LineOverflow` or `TrailingWhitespace` entry always sets `has_operational_errors`
(the early return of `track_errors` is taken only when it is set already). -/
theorem trackErrors_op (errs : ReportedErrors) (ks : List ErrorKind) (k : ErrorKind)
    (hm : k ∈ ks) (hk : setsOperational k = true) :
    (trackErrors errs ks).hasOperationalErrors = true := by
  unfold trackErrors
  generalize (if ks.isEmpty = true then errs else { errs with hasFormattingErrors := true }) = e0
  by_cases h : (e0.hasOperationalErrors && e0.hasCheckErrors && e0.hasUnformattedCodeErrors) = true
  · simp only [h, if_true]
    simp only [Bool.and_eq_true] at h
    exact h.1.1
  · rw [if_neg h, foldl_trackOne_op, List.any_eq_true.mpr ⟨k, hm, hk⟩, Bool.or_true]

theorem exit_of_op (s r : ReportedErrors) (check : Bool) (h : r.hasOperationalErrors = true) :
    exitCodeFiles (s.add r) check = 1 ∧ exitCodeStdin (s.add r) = 1 := by
  simp [exitCodeFiles, exitCodeStdin, ReportedErrors.add, h]

theorem trackOne_formatting (errs : ReportedErrors) (k : ErrorKind) :
    (trackOne errs k).hasFormattingErrors = errs.hasFormattingErrors := by
  cases k <;> rfl

theorem foldl_trackOne_formatting : ∀ (ks : List ErrorKind) (errs : ReportedErrors),
    (ks.foldl trackOne errs).hasFormattingErrors = errs.hasFormattingErrors
  | [], _ => rfl
  | k :: ks, errs => by
    simp only [List.foldl_cons]
    rw [foldl_trackOne_formatting ks, trackOne_formatting]

theorem trackErrors_formatting (errs : ReportedErrors) (ks : List ErrorKind) (h : ks ≠ []) :
    (trackErrors errs ks).hasFormattingErrors = true := by
  unfold trackErrors
  have he : ks.isEmpty = false := by cases ks <;> simp_all
  simp only [he, Bool.false_eq_true, if_false]
  generalize he0 : ({ errs with hasFormattingErrors := true } : ReportedErrors) = e0
  have hf : e0.hasFormattingErrors = true := by subst he0; rfl
  split
  · exact hf
  · rw [foldl_trackOne_formatting]; exact hf

end RF.Lemmas.FormatLines

import RF.Model.FileLines
/-!
Lemmas about the `Range` / `FileLines` model (C17): the range predicates as arithmetic on `lo`/`hi`;
the insertion sort and uniqueness of the sorted list; `normalize_ranges` keeps the selected lines
(`normalize_same_lines`) and, without empty ranges, leaves gaps between its ranges
(`mergeLoop_gap`, `normalize_sorted_disjoint`); `contains_range` on a normalised list; the decidable
oracles; the overflow check of `adjacent_to`; the `FileLines` queries through `rangesOf`.
-/
namespace RF.Lemmas.FileLines
open RF.FileLines RF.FileLines.Range

theorem hasLine_iff (r : Range) (n : Nat) : r.hasLine n = true ↔ r.lo ≤ n ∧ n ≤ r.hi := by
  simp [hasLine]

theorem hasLine_false_iff (r : Range) (n : Nat) : r.hasLine n = false ↔ ¬ (r.lo ≤ n ∧ n ≤ r.hi) := by
  rw [← hasLine_iff]; simp

theorem isEmpty_iff (r : Range) : r.isEmpty = true ↔ r.hi < r.lo := by simp [isEmpty]

theorem isEmpty_false_iff (r : Range) : r.isEmpty = false ↔ r.lo ≤ r.hi := by
  simp [isEmpty]

theorem isEmpty_iff_no_line (r : Range) : r.isEmpty = true ↔ ∀ n, r.hasLine n = false := by
  constructor
  · intro h n
    rw [hasLine_false_iff]; rw [isEmpty_iff] at h; omega
  · intro h
    rw [isEmpty_iff]
    have := h r.lo
    rw [hasLine_false_iff] at this; omega

theorem intersects_iff_bounds (a b : Range) :
    a.intersects b = true ↔ a.lo ≤ a.hi ∧ b.lo ≤ b.hi ∧
      ((a.lo ≤ b.hi ∧ b.hi ≤ a.hi) ∨ (b.lo ≤ a.hi ∧ a.hi ≤ b.hi)) := by
  simp only [intersects, isEmpty, Bool.or_eq_true, Bool.and_eq_true, decide_eq_true_eq,
    Bool.if_false_left, Bool.not_eq_true', decide_eq_false_iff_not]
  omega

theorem intersects_iff (a b : Range) :
    a.intersects b = true ↔ ∃ n, a.hasLine n = true ∧ b.hasLine n = true := by
  simp only [hasLine_iff, intersects_iff_bounds]
  constructor
  · rintro ⟨h1, h2, h | h⟩
    · exact ⟨b.hi, h, h2, Nat.le_refl _⟩
    · exact ⟨a.hi, ⟨h1, Nat.le_refl _⟩, h⟩
  · rintro ⟨n, ⟨h1, h2⟩, h3, h4⟩
    refine ⟨Nat.le_trans h1 h2, Nat.le_trans h3 h4, ?_⟩
    rcases Nat.le_total b.hi a.hi with h | h
    · exact .inl ⟨Nat.le_trans h1 h4, h⟩
    · exact .inr ⟨Nat.le_trans h3 h2, h⟩

theorem intersects_comm (a b : Range) : a.intersects b = b.intersects a := by
  rw [Bool.eq_iff_iff, intersects_iff, intersects_iff]
  constructor <;> (rintro ⟨n, h1, h2⟩; exact ⟨n, h2, h1⟩)

theorem adjacentTo_iff (a b : Range) :
    a.adjacentTo b = true ↔
      a.lo ≤ a.hi ∧ b.lo ≤ b.hi ∧ (a.hi + 1 = b.lo ∨ b.hi + 1 = a.lo) := by
  simp only [adjacentTo, isEmpty, Bool.or_eq_true, Bool.and_eq_true, decide_eq_true_eq,
    Bool.if_false_left, Bool.not_eq_true', decide_eq_false_iff_not, beq_iff_eq]
  omega

theorem merge_eq_some_iff (a b m : Range) :
    a.merge b = some m ↔
      (a.adjacentTo b = true ∨ a.intersects b = true) ∧ m = ⟨min a.lo b.lo, max a.hi b.hi⟩ := by
  unfold merge
  by_cases h : (a.adjacentTo b || a.intersects b) = true
  · rw [if_pos h]; rw [Bool.or_eq_true] at h
    constructor
    · intro hm; exact ⟨h, (Option.some.inj hm).symm⟩
    · rintro ⟨_, rfl⟩; rfl
  · rw [if_neg h]; rw [Bool.or_eq_true] at h; simp [h]

/-- `merge` returns exactly the union of the two ranges. -/
theorem merge_is_union (a b m : Range) (h : a.merge b = some m) (n : Nat) :
    m.hasLine n = true ↔ a.hasLine n = true ∨ b.hasLine n = true := by
  rw [merge_eq_some_iff, adjacentTo_iff, intersects_iff_bounds] at h
  obtain ⟨h, rfl⟩ := h
  simp only [hasLine_iff]
  omega

/-- `merge` fails exactly when no line is shared and no line of one neighbours a line of the
other (or one of the two is empty). -/
theorem merge_none_iff (a b : Range) :
    a.merge b = none ↔
      (a.isEmpty = true ∨ b.isEmpty = true ∨ a.hi + 1 < b.lo ∨ b.hi + 1 < a.lo) := by
  have h : a.merge b = none ↔ ¬(a.adjacentTo b || a.intersects b) = true := by
    unfold merge
    split <;> simp [*]
  rw [h, Bool.or_eq_true, adjacentTo_iff, intersects_iff_bounds, isEmpty_iff, isEmpty_iff]
  omega

theorem le_iff (a b : Range) :
    a.le b = true ↔ a.lo < b.lo ∨ (a.lo = b.lo ∧ a.hi ≤ b.hi) := by
  simp only [le, Bool.or_eq_true, decide_eq_true_eq, Bool.and_eq_true]

theorem le_total (a b : Range) : a.le b = true ∨ b.le a = true := by
  rw [le_iff, le_iff]; omega

theorem le_trans (a b c : Range) (h1 : a.le b = true) (h2 : b.le c = true) : a.le c = true := by
  rw [le_iff] at *; omega

theorem le_antisymm (a b : Range) (h1 : a.le b = true) (h2 : b.le a = true) : a = b := by
  rw [le_iff] at h1 h2
  cases a; cases b; simp only [Range.mk.injEq]; simp only at h1 h2; omega

theorem le_lo (a b : Range) (h : a.le b = true) : a.lo ≤ b.lo := by
  rw [le_iff] at h; omega

def Sorted (l : List Range) : Prop := l.Pairwise (fun a b => a.le b = true)

theorem insertRange_perm (r : Range) (l : List Range) : (insertRange r l).Perm (r :: l) := by
  induction l with
  | nil => simp [insertRange]
  | cons y ys ih =>
    simp only [insertRange]
    split
    · exact List.Perm.refl _
    · exact (List.Perm.cons y ih).trans (List.Perm.swap r y ys)

theorem mem_insertRange (r x : Range) (l : List Range) :
    x ∈ insertRange r l ↔ x = r ∨ x ∈ l :=
  (insertRange_perm r l).mem_iff.trans List.mem_cons

theorem sortRanges_perm (l : List Range) : (sortRanges l).Perm l := by
  induction l with
  | nil => exact List.Perm.refl _
  | cons r rs ih =>
    simp only [sortRanges]
    exact (insertRange_perm r _).trans (List.Perm.cons r ih)

theorem mem_sortRanges (x : Range) (l : List Range) : x ∈ sortRanges l ↔ x ∈ l :=
  (sortRanges_perm l).mem_iff

theorem insertRange_sorted (r : Range) (l : List Range) (h : Sorted l) :
    Sorted (insertRange r l) := by
  induction l with
  | nil => simp [insertRange, Sorted]
  | cons y ys ih =>
    unfold Sorted at h ih ⊢
    rw [List.pairwise_cons] at h
    simp only [insertRange]
    split
    · rename_i hle
      rw [List.pairwise_cons]
      refine ⟨?_, List.pairwise_cons.mpr h⟩
      intro a ha
      rcases List.mem_cons.mp ha with rfl | ha
      · exact hle
      · exact le_trans _ _ _ hle (h.1 a ha)
    · rename_i hle
      rw [List.pairwise_cons]
      refine ⟨?_, ih h.2⟩
      intro a ha
      rcases (mem_insertRange r a ys).mp ha with rfl | ha
      · rcases le_total a y with h' | h'
        · exact absurd h' hle
        · exact h'
      · exact h.1 a ha

theorem sortRanges_sorted (l : List Range) : Sorted (sortRanges l) := by
  induction l with
  | nil => simp [sortRanges, Sorted]
  | cons r rs ih => exact insertRange_sorted r _ ih

/-- A sorted permutation is unique: whatever (correct) algorithm `slice::sort` uses, it returns
`sortRanges`. -/
theorem sorted_perm_unique (l₁ l₂ : List Range) (h1 : Sorted l₁) (h2 : Sorted l₂)
    (p : l₁.Perm l₂) : l₁ = l₂ :=
  List.Perm.eq_of_pairwise (fun a b _ _ hab hba => le_antisymm a b hab hba) h1 h2 p

/-! ### `normalize_ranges` keeps exactly the selected lines -/

theorem containsLine_iff (rs : List Range) (n : Nat) :
    containsLine rs n = true ↔ ∃ r ∈ rs, r.hasLine n = true := by
  simp [containsLine, List.any_eq_true]

theorem containsLine_perm (l₁ l₂ : List Range) (p : l₁.Perm l₂) (n : Nat) :
    containsLine l₁ n = containsLine l₂ n := by
  rw [Bool.eq_iff_iff, containsLine_iff, containsLine_iff]
  constructor <;> (rintro ⟨r, hr, h⟩)
  · exact ⟨r, p.mem_iff.mp hr, h⟩
  · exact ⟨r, p.mem_iff.mpr hr, h⟩

theorem containsLine_cons (r : Range) (rs : List Range) (n : Nat) :
    containsLine (r :: rs) n = (r.hasLine n || containsLine rs n) := by
  simp [containsLine]

theorem containsLine_mergeLoop (cur : Range) (rest : List Range) (n : Nat) :
    containsLine (mergeLoop cur rest) n = (cur.hasLine n || containsLine rest n) := by
  induction rest generalizing cur with
  | nil => simp [mergeLoop, containsLine]
  | cons p rest ih =>
    simp only [mergeLoop]
    split
    · rename_i m hm
      rw [ih, containsLine_cons, ← Bool.or_assoc]
      congr 1
      rw [Bool.eq_iff_iff, Bool.or_eq_true]
      exact merge_is_union cur p m hm n
    · rw [containsLine_cons, ih, containsLine_cons]

theorem containsLine_normalize (rs : List Range) (n : Nat) :
    containsLine (normalizeRanges rs) n = containsLine rs n := by
  rw [← containsLine_perm _ _ (sortRanges_perm rs) n]
  unfold normalizeRanges
  split
  · rename_i h; rw [h]
  · rename_i r rest h
    rw [h, containsLine_mergeLoop, containsLine_cons]

/-- The normalised list selects exactly the lines of the given ranges — for every list,
including empty, inverted, duplicated, overlapping and adjacent ranges. -/
theorem normalize_same_lines (rs : List Range) (n : Nat) :
    containsLine (normalizeRanges rs) n = true ↔ ∃ r ∈ rs, r.hasLine n = true := by
  rw [containsLine_normalize, containsLine_iff]

theorem mergeLoop_ne_nil (cur : Range) (rest : List Range) : mergeLoop cur rest ≠ [] := by
  induction rest generalizing cur with
  | nil => simp [mergeLoop]
  | cons p rest ih =>
    simp only [mergeLoop]
    split
    · exact ih _
    · simp

theorem normalize_eq_nil_iff (rs : List Range) : normalizeRanges rs = [] ↔ rs = [] := by
  unfold normalizeRanges
  split
  · rename_i h
    have := (sortRanges_perm rs).length_eq
    rw [h] at this
    simp only [List.length_nil] at this
    simp [List.length_eq_zero_iff.mp this.symm]
  · rename_i r rest h
    constructor
    · intro h'; exact absurd h' (mergeLoop_ne_nil _ _)
    · intro h'; subst h'; simp [sortRanges] at h

/-! ### Sorted, disjoint, non-adjacent output when no input range is empty -/

/-- "b starts at least two lines after a ends": disjoint and not adjacent. -/
def Gap (a b : Range) : Prop := a.hi + 1 < b.lo

theorem mergeLoop_gap (cur : Range) (rest : List Range)
    (hcur : cur.lo ≤ cur.hi)
    (hne : ∀ r ∈ rest, r.lo ≤ r.hi)
    (hlo : ∀ r ∈ rest, cur.lo ≤ r.lo)
    (hs : rest.Pairwise (fun a b => a.lo ≤ b.lo)) :
    (mergeLoop cur rest).Pairwise Gap ∧
    (∀ r ∈ mergeLoop cur rest, r.lo ≤ r.hi ∧ cur.lo ≤ r.lo) := by
  induction rest generalizing cur with
  | nil =>
    simp only [mergeLoop, List.pairwise_cons, List.not_mem_nil, false_imp_iff, implies_true,
      List.Pairwise.nil, and_self, List.mem_singleton, forall_eq, Nat.le_refl, and_true, true_and]
    exact hcur
  | cons p rest ih =>
    rw [List.pairwise_cons] at hs
    have hp := hne p List.mem_cons_self
    have hcp := hlo p List.mem_cons_self
    have hne' : ∀ r ∈ rest, r.lo ≤ r.hi := fun r hr => hne r (List.mem_cons_of_mem _ hr)
    rw [mergeLoop]
    split
    · rename_i m hm
      obtain ⟨_, rfl⟩ := (merge_eq_some_iff cur p m).mp hm
      have := ih ⟨min cur.lo p.lo, max cur.hi p.hi⟩
        (Nat.le_trans (Nat.min_le_left _ _) (Nat.le_trans hcur (Nat.le_max_left _ _))) hne'
        (fun r hr => Nat.le_trans (Nat.min_le_left _ _) (hlo r (List.mem_cons_of_mem _ hr))) hs.2
      rw [Nat.min_eq_left hcp] at this ⊢
      exact this
    · rename_i hm
      rw [merge_none_iff, isEmpty_iff, isEmpty_iff] at hm
      have hgap : cur.hi + 1 < p.lo := by omega
      obtain ⟨h1, h2⟩ := ih p hp hne' hs.1 hs.2
      refine ⟨List.pairwise_cons.mpr ⟨fun r hr => Nat.lt_of_lt_of_le hgap (h2 r hr).2, h1⟩, ?_⟩
      intro r hr
      rcases List.mem_cons.mp hr with rfl | hr
      · exact ⟨hcur, Nat.le_refl _⟩
      · exact ⟨(h2 r hr).1, Nat.le_trans hcp (h2 r hr).2⟩

theorem sorted_lo (l : List Range) (h : Sorted l) : l.Pairwise (fun a b => a.lo ≤ b.lo) :=
  List.Pairwise.imp (fun {a b} hab => le_lo a b hab) h

/-- If no input range is empty, the normalised ranges are non-empty, ordered by start, pairwise
disjoint and pairwise non-adjacent (each starts at least two lines after the previous ends). -/
theorem normalize_sorted_disjoint (rs : List Range) (h : ∀ r ∈ rs, r.isEmpty = false) :
    (normalizeRanges rs).Pairwise Gap ∧ ∀ r ∈ normalizeRanges rs, r.isEmpty = false := by
  have hs := sortRanges_sorted rs
  have hne : ∀ r ∈ sortRanges rs, r.lo ≤ r.hi := fun r hr =>
    (isEmpty_false_iff r).mp (h r ((mem_sortRanges r rs).mp hr))
  unfold normalizeRanges
  split
  · simp
  · rename_i r rest heq
    rw [heq] at hs hne
    unfold Sorted at hs
    rw [List.pairwise_cons] at hs
    have := mergeLoop_gap r rest (hne r List.mem_cons_self)
      (fun x hx => hne x (List.mem_cons_of_mem _ hx))
      (fun x hx => le_lo _ _ (hs.1 x hx)) (sorted_lo rest hs.2)
    exact ⟨this.1, fun x hx => (isEmpty_false_iff x).mpr (this.2 x hx).1⟩

/-! ### `contains_range` on a normalised list -/

theorem contains_iff (a b : Range) :
    a.contains b = true ↔ (b.hi < b.lo ∨ (a.lo ≤ a.hi ∧ a.lo ≤ b.lo ∧ b.hi ≤ a.hi)) := by
  simp only [contains, isEmpty, Bool.or_eq_true, Bool.and_eq_true, decide_eq_true_eq,
    Bool.if_true_left, Bool.not_eq_true', decide_eq_false_iff_not]
  omega

theorem containsRange_iff (rs : List Range) (lo hi : Nat) :
    containsRange rs lo hi = true ↔ ∃ r ∈ rs, r.contains ⟨lo, hi⟩ = true := by
  simp [containsRange, List.any_eq_true]

theorem gap_trichotomy (l : List Range) (hg : l.Pairwise Gap) :
    ∀ a ∈ l, ∀ b ∈ l, a = b ∨ Gap a b ∨ Gap b a := by
  induction l with
  | nil => intro a ha; cases ha
  | cons x xs ihx =>
    rw [List.pairwise_cons] at hg
    intro a ha b hb
    rcases List.mem_cons.mp ha with ha | ha <;> rcases List.mem_cons.mp hb with hb | hb
    · exact Or.inl (ha.trans hb.symm)
    · exact Or.inr (Or.inl (ha ▸ hg.1 b hb))
    · exact Or.inr (Or.inr (hb ▸ hg.1 a ha))
    · exact ihx hg.2 a ha b hb

/-- In a list whose members are separated by gaps, an interval of selected lines lies inside one
member. -/
theorem gap_interval (l : List Range) (hg : l.Pairwise Gap) (lo hi : Nat) (hle : lo ≤ hi)
    (hall : ∀ n, lo ≤ n → n ≤ hi → ∃ r ∈ l, r.hasLine n = true) :
    ∃ r ∈ l, r.lo ≤ lo ∧ hi ≤ r.hi := by
  -- induction on the length of the interval
  obtain ⟨d, rfl⟩ : ∃ d, hi = lo + d := ⟨hi - lo, by omega⟩
  clear hle
  induction d with
  | zero =>
    obtain ⟨r, hr, h⟩ := hall lo (Nat.le_refl _) (Nat.le_refl _)
    rw [hasLine_iff] at h
    exact ⟨r, hr, h.1, h.2⟩
  | succ d ih =>
    obtain ⟨r, hr, hr1, hr2⟩ := ih (fun n h1 h2 => hall n h1 (Nat.le_trans h2 (Nat.le_succ _)))
    obtain ⟨s, hs, hs'⟩ := hall (lo + (d + 1)) (Nat.le_add_right _ _) (Nat.le_refl _)
    rw [hasLine_iff] at hs'
    by_cases hcase : lo + (d + 1) ≤ r.hi
    · exact ⟨r, hr, hr1, hcase⟩
    · -- then `s ≠ r`, and the gap between them is violated
      exfalso
      have hrel := gap_trichotomy l hg
      rcases hrel r hr s hs with rfl | h | h
      · omega
      · unfold Gap at h; omega
      · unfold Gap at h; omega

/-- When no given range is empty and the queried range is not empty, `contains_range` on the
normalised list answers "every queried line is selected". -/
theorem containsRange_iff_of_nonempty (rs : List Range) (h : ∀ r ∈ rs, r.isEmpty = false)
    (lo hi : Nat) (hle : lo ≤ hi) :
    containsRange (normalizeRanges rs) lo hi = true ↔
      ∀ n, lo ≤ n → n ≤ hi → ∃ r ∈ rs, r.hasLine n = true := by
  obtain ⟨hg, hne⟩ := normalize_sorted_disjoint rs h
  rw [containsRange_iff]
  constructor
  · rintro ⟨r, hr, hc⟩ n h1 h2
    rw [← normalize_same_lines]
    rw [containsLine_iff]
    refine ⟨r, hr, ?_⟩
    rw [contains_iff] at hc
    rw [hasLine_iff]
    simp only at hc
    omega
  · intro hall
    have hall' : ∀ n, lo ≤ n → n ≤ hi → ∃ r ∈ normalizeRanges rs, r.hasLine n = true := by
      intro n h1 h2
      rw [← containsLine_iff, containsLine_normalize, containsLine_iff]
      exact hall n h1 h2
    obtain ⟨r, hr, h1, h2⟩ := gap_interval _ hg lo hi hle hall'
    refine ⟨r, hr, ?_⟩
    rw [contains_iff]
    simp only
    omega

theorem intersectsRange_iff (rs : List Range) (lo hi : Nat) :
    intersectsRange rs lo hi = true ↔
      ∃ n, lo ≤ n ∧ n ≤ hi ∧ containsLine rs n = true := by
  simp only [intersectsRange, List.any_eq_true, intersects_iff, containsLine_iff, hasLine_iff]
  constructor
  · rintro ⟨r, hr, n, h1, h2⟩
    exact ⟨n, h2.1, h2.2, r, hr, h1⟩
  · rintro ⟨n, h1, h2, r, hr, h3⟩
    exact ⟨r, hr, n, h3, h1, h2⟩

/-! ### The decidable oracles decide what they are named after -/

theorem unionRange_iff (rs : List Range) (lo hi : Nat) :
    unionRange rs lo hi = true ↔ ∀ n, lo ≤ n → n ≤ hi → ∃ r ∈ rs, r.hasLine n = true := by
  unfold unionRange
  by_cases hlt : hi < lo
  · simp only [hlt, decide_true, Bool.true_or, true_iff]
    intro n h1 h2; omega
  · have hfilter : ∀ r ∈ rs.filter (fun r => !r.isEmpty), r.isEmpty = false := by
      intro r hr
      have := (List.mem_filter.mp hr).2
      simpa using this
    simp only [hlt, decide_false, Bool.false_or]
    rw [containsRange_iff_of_nonempty _ hfilter lo hi (by omega)]
    constructor
    · intro h n h1 h2
      obtain ⟨r, hr, hl⟩ := h n h1 h2
      exact ⟨r, (List.mem_filter.mp hr).1, hl⟩
    · intro h n h1 h2
      obtain ⟨r, hr, hl⟩ := h n h1 h2
      refine ⟨r, List.mem_filter.mpr ⟨hr, ?_⟩, hl⟩
      rw [hasLine_iff] at hl
      simp only [Bool.not_eq_eq_eq_not, Bool.not_true, isEmpty_false_iff]
      omega

theorem unionMeets_iff (rs : List Range) (lo hi : Nat) :
    unionMeets rs lo hi = true ↔ ∃ n, lo ≤ n ∧ n ≤ hi ∧ ∃ r ∈ rs, r.hasLine n = true := by
  simp only [unionMeets, List.any_eq_true, decide_eq_true_eq, hasLine_iff]
  constructor
  · rintro ⟨r, hr, h⟩
    exact ⟨max r.lo lo, Nat.le_max_right _ _, Nat.le_trans h (Nat.min_le_right _ _), r, hr,
      Nat.le_max_left _ _, Nat.le_trans h (Nat.min_le_left _ _)⟩
  · rintro ⟨n, h1, h2, r, hr, h3⟩
    exact ⟨r, hr, Nat.le_trans (Nat.max_le.mpr ⟨h3.1, h1⟩) (Nat.le_min.mpr ⟨h3.2, h2⟩)⟩

theorem sortedDisjoint_iff (l : List Range) :
    sortedDisjoint l = true ↔ l.Pairwise Gap ∧ ∀ r ∈ l, r.isEmpty = false := by
  fun_induction sortedDisjoint l with
  | case1 => simp
  | case2 a => simp
  | case3 a b rest ih =>
    simp only [Bool.and_eq_true, Bool.not_eq_eq_eq_not, Bool.not_true, decide_eq_true_eq, ih,
      List.pairwise_cons (a := a), List.forall_mem_cons (a := a)]
    constructor
    · rintro ⟨⟨ha, hab⟩, hp, hne⟩
      refine ⟨⟨?_, hp⟩, ha, hne⟩
      intro r hr
      rcases List.mem_cons.mp hr with rfl | hr
      · exact hab
      · -- `b` is not empty and `r` starts after it
        have hb := (isEmpty_false_iff b).mp (hne b List.mem_cons_self)
        have hbr : Gap b r := (List.pairwise_cons.mp hp).1 r hr
        exact Nat.lt_trans hab (Nat.lt_of_le_of_lt hb (Nat.lt_of_succ_lt hbr))
    · rintro ⟨⟨hab, hp⟩, ha, hne⟩
      exact ⟨⟨ha, hab b List.mem_cons_self⟩, hp, hne⟩

/-! ### The overflow check of `adjacent_to` -/

theorem adjacentToChecked_eq (a b : Range) (ha : a.hi < usizeMax) (hb : b.hi < usizeMax) :
    a.adjacentToChecked b = some (a.adjacentTo b) := by
  unfold adjacentToChecked adjacentTo
  by_cases he : (a.isEmpty || b.isEmpty) = true
  · rw [if_pos he, if_pos he]
  · rw [if_neg he, if_neg he, if_neg (Nat.not_le.mpr ha)]
    by_cases h : (a.hi + 1 == b.lo) = true
    · rw [if_pos h, h, Bool.true_or]
    · rw [if_neg h, if_neg (Nat.not_le.mpr hb), Bool.eq_false_iff.mpr h, Bool.false_or]

theorem mergeChecked_eq (a b : Range) (ha : a.hi < usizeMax) (hb : b.hi < usizeMax) :
    a.mergeChecked b = some (a.merge b) := by
  simp only [mergeChecked, adjacentToChecked_eq a b ha hb, merge]
  split <;> rfl

theorem mergeLoopChecked_eq (cur : Range) (rest : List Range) (hc : cur.hi < usizeMax)
    (hr : ∀ r ∈ rest, r.hi < usizeMax) :
    mergeLoopChecked cur rest = some (mergeLoop cur rest) := by
  induction rest generalizing cur with
  | nil => rfl
  | cons p rest ih =>
    have hp := hr p List.mem_cons_self
    have hr' : ∀ r ∈ rest, r.hi < usizeMax := fun r h => hr r (List.mem_cons_of_mem _ h)
    simp only [mergeLoopChecked, mergeLoop, mergeChecked_eq cur p hc hp]
    cases hm : cur.merge p with
    | none => simp only [ih p hp hr']
    | some m =>
      simp only
      apply ih m _ hr'
      rw [merge_eq_some_iff] at hm
      obtain ⟨_, rfl⟩ := hm
      simp only; omega

variable {α : Type} [DecidableEq α]

theorem lookup_map_normalize (m : List (α × List Range)) (f : α) :
    lookup (m.map fun (p : α × List Range) => (p.1, normalizeRanges p.2)) f =
      (lookup m f).map normalizeRanges := by
  induction m with
  | nil => rfl
  | cons p rest ih =>
    obtain ⟨k, v⟩ := p
    simp only [List.map_cons, lookup]
    split
    · rfl
    · exact ih

/-- The ranges the selection holds for `file` (after canonicalisation), if any. -/
def rangesOf (m : List (α × List Range)) (canon : α → Option α) (file : α) : List Range :=
  match canon file with
  | none => []
  | some f' => (lookup m f').getD []

theorem fileRangeMatches_map (m : List (α × List Range)) (canon : α → Option α) (file : α)
    (f : Range → Bool) :
    (FileLines.map m).fileRangeMatches canon file f = (rangesOf m canon file).any f := by
  simp only [FileLines.fileRangeMatches, rangesOf]
  cases canon file with
  | none => rfl
  | some f' =>
    simp only
    cases lookup m f' <;> rfl

theorem rangesOf_fromRanges (m : List (α × List Range)) (canon : α → Option α) (file : α) :
    rangesOf (m.map fun (p : α × List Range) => (p.1, normalizeRanges p.2)) canon file =
      normalizeRanges (rangesOf m canon file) := by
  simp only [rangesOf]
  split
  · rfl
  · rw [lookup_map_normalize]
    cases lookup m _ <;> rfl

theorem map_containsLine (m : List (α × List Range)) (canon : α → Option α) (file : α)
    (n : Nat) :
    (FileLines.map m).containsLine canon file n = containsLine (rangesOf m canon file) n := by
  unfold RF.FileLines.FileLines.containsLine
  rw [fileRangeMatches_map]; rfl

end RF.Lemmas.FileLines

import RF.Model.MacroBody
import RF.Lemmas.Skip
import RF.Lemmas.CharClasses
/-! Lemmas about `RF.Model.MacroBody`: the re-indentation fold of `MacroBranch::rewrite` line by line
(`reindentLines`, `joinLines`), and that the lines `LineClasses` yields are the pieces of the text between its
line breaks (`lineClasses_lines`; the `splitNl` / `joinNl` lemmas are in `RF/Lemmas/Skip.lean`). -/
namespace RF.MacroBody
open RF.CharClasses

theorem reindentLines_length (ind : List Char) (ranges : List (Nat × Nat)) (c : Cfg) :
    ∀ (cls : List (Kind × List Char)) (i : Nat) (need : Bool),
      (reindentLines ind ranges c i need cls).length = cls.length
  | [], _, _ => rfl
  | (_, _) :: rest, i, need => by
    simp [reindentLines, reindentLines_length ind ranges c rest]

/-- Line `k` of the fold: indented iff it is not blank, `need_indent` holds when the fold gets to it
and no range covers it; `need_indent` stays true as long as `indent_next_line` is. -/
theorem reindentLines_getElem (ind : List Char) (ranges : List (Nat × Nat)) (c : Cfg) :
    ∀ (cls : List (Kind × List Char)) (i : Nat) (need : Bool) (k : Nat) (hk : k < cls.length),
      ∃ need' : Bool,
        (reindentLines ind ranges c i need cls)[k]? = some
          (if (!isEmptyLine cls[k].2 && need' && !isLineNonFormatted ranges (i + k + 1)) = true
           then ind ++ cls[k].2 else cls[k].2) ∧
        ((∀ kl ∈ cls, indentNextLine c kl.1 kl.2 = true) → need = true → need' = true)
  | (kind, l) :: rest, i, need, 0, _ => ⟨need, rfl, fun _ h => h⟩
  | (kind, l) :: rest, i, need, k + 1, hk => by
    obtain ⟨n, h, hn⟩ := reindentLines_getElem ind ranges c rest (i + 1) (indentNextLine c kind l) k
      (Nat.lt_of_succ_lt_succ hk)
    rw [Nat.add_right_comm i 1 k] at h
    exact ⟨n, h, fun hall _ => hn (fun kl hm => hall kl (List.mem_cons_of_mem _ hm))
      (hall _ List.mem_cons_self)⟩

theorem reindentLines_covered (ind : List Char) (ranges : List (Nat × Nat)) (c : Cfg)
    (cls : List (Kind × List Char)) (i : Nat) (need : Bool) (k : Nat) (hk : k < cls.length)
    (h : isLineNonFormatted ranges (i + k + 1) = true) :
    (reindentLines ind ranges c i need cls)[k]? = some (cls[k].2) := by
  obtain ⟨n, hn, -⟩ := reindentLines_getElem ind ranges c cls i need k hk
  rw [hn, h, Bool.not_true, Bool.and_false, if_neg Bool.false_ne_true]

theorem reindentLines_line (ind : List Char) (ranges : List (Nat × Nat)) (c : Cfg)
    (cls : List (Kind × List Char)) (i : Nat) (need : Bool) (k : Nat) (hk : k < cls.length) :
    (reindentLines ind ranges c i need cls)[k]? = some (cls[k].2) ∨
    (reindentLines ind ranges c i need cls)[k]? = some (ind ++ cls[k].2) := by
  obtain ⟨n, hn, -⟩ := reindentLines_getElem ind ranges c cls i need k hk
  rw [hn]
  split
  · exact Or.inr rfl
  · exact Or.inl rfl

theorem reindentLines_uncovered (ind : List Char) (ranges : List (Nat × Nat)) (c : Cfg)
    (cls : List (Kind × List Char)) (i : Nat) (k : Nat) (hk : k < cls.length)
    (hall : ∀ kl ∈ cls, indentNextLine c kl.1 kl.2 = true)
    (h : isLineNonFormatted ranges (i + k + 1) = false) (he : isEmptyLine (cls[k].2) = false) :
    (reindentLines ind ranges c i true cls)[k]? = some (ind ++ cls[k].2) := by
  obtain ⟨n, hn, hn'⟩ := reindentLines_getElem ind ranges c cls i true k hk
  rw [hn, hn' hall rfl, h, he]
  rfl

theorem isLineNonFormatted_of_mem {ranges : List (Nat × Nat)} {a b n : Nat}
    (hm : (a, b) ∈ ranges) (ha : a ≤ n) (hb : n ≤ b) : isLineNonFormatted ranges n = true := by
  simp only [isLineNonFormatted, List.any_eq_true]
  exact ⟨(a, b), hm, by simp [ha, hb]⟩

theorem joinLines_append (a b : List (List Char)) : joinLines (a ++ b) = joinLines a ++ joinLines b := by
  induction a with
  | nil => rfl
  | cons l r ih => simp [joinLines, ih]

/-- The block of lines `a..b` (1-based, inclusive) of a recorded range comes out as it went in. -/
theorem reindentLines_block (ind : List Char) (ranges : List (Nat × Nat)) (c : Cfg)
    (cls : List (Kind × List Char)) (need : Bool) {a b : Nat} (hm : (a, b) ∈ ranges)
    (ha : 1 ≤ a) :
    ((reindentLines ind ranges c 0 need cls).drop (a - 1)).take (b + 1 - a) =
      ((cls.map (·.2)).drop (a - 1)).take (b + 1 - a) := by
  apply List.ext_getElem?
  intro k
  simp only [List.getElem?_take, List.getElem?_drop]
  by_cases hk : k < b + 1 - a
  · simp only [hk, if_true]
    by_cases hlen : a - 1 + k < cls.length
    · have hcov : isLineNonFormatted ranges (0 + (a - 1 + k) + 1) = true :=
        isLineNonFormatted_of_mem hm (by omega) (by omega)
      rw [reindentLines_covered ind ranges c cls 0 need (a - 1 + k) hlen hcov]
      simp [hlen]
    · have h1 : (reindentLines ind ranges c 0 need cls).length ≤ a - 1 + k := by
        rw [reindentLines_length]; omega
      have h2 : (cls.map (·.2)).length ≤ a - 1 + k := by simp; omega
      rw [List.getElem?_eq_none h1, List.getElem?_eq_none h2]
  · simp [hk]

/-- Splitting a list of lines around a block. -/
theorem split_block {α} (l : List α) (n m : Nat) :
    l = l.take n ++ ((l.drop n).take m) ++ (l.drop n).drop m := by
  rw [List.append_assoc, List.take_append_drop, List.take_append_drop]

open RF.Skip

theorem joinLines_eq_joinNl : ∀ (M : List (List Char)), M ≠ [] → joinLines M = joinNl M ++ ['\n']
  | [l], _ => by simp [joinLines, joinNl]
  | l :: x :: xs, _ => by
    have := joinLines_eq_joinNl (x :: xs) (by simp)
    simp only [joinLines] at this ⊢
    rw [this]; simp [joinNl]

/-! ## The lines `LineClasses` yields are the lines of the text -/

theorem popCr_of_no_cr {l : List Char} (h : '\r' ∉ l) : popCr l = l := by
  unfold popCr
  split
  · rename_i hl
    exact absurd (List.mem_of_getLast? hl) h
  · rfl

theorem linesGo_cons_nl (start : Kind) (acc : List Char) (last k : Kind) (kc : Kind × Char)
    (rest' : List (Kind × Char)) :
    linesGo start acc last ((k, '\n') :: kc :: rest') =
      (lineEndKind start k, popCr acc) :: linesGo kc.1 [] kc.1 (kc :: rest') := by
  obtain ⟨k', c'⟩ := kc
  rw [linesGo.eq_def]
  simp only [if_true]

theorem linesGo_cons_ne (start : Kind) (acc : List Char) (last k : Kind) {c : Char}
    (rest : List (Kind × Char)) (h : c ≠ '\n') :
    linesGo start acc last ((k, c) :: rest) = linesGo start (acc ++ [c]) k rest := by
  rw [linesGo.eq_def]
  simp only [h, if_false]

theorem linesGo_lines : ∀ (T : List (Kind × Char)) (start : Kind) (acc : List Char) (last : Kind),
    '\r' ∉ acc → '\r' ∉ T.map (·.2) → (T.map (·.2)).getLast? ≠ some '\n' →
    ∃ h t, splitNl (T.map (·.2)) = h :: t ∧
      (linesGo start acc last T).map (·.2) = (acc ++ h) :: t
  | [], start, acc, last, hacc, _, _ => by
    refine ⟨[], [], rfl, ?_⟩
    simp [linesGo, popCr_of_no_cr hacc]
  | (k, c) :: rest, start, acc, last, hacc, hT, hlast => by
    have hrest : '\r' ∉ rest.map (·.2) := fun hm => hT (by simp [hm])
    have hc : c ≠ '\r' := fun h => hT (by simp [h])
    by_cases hnl : c = '\n'
    · subst hnl
      cases rest with
      | nil => simp at hlast
      | cons kc rest' =>
        have hlast' : ((kc :: rest').map (·.2)).getLast? ≠ some '\n' := by
          simpa [List.getLast?_cons_cons] using hlast
        obtain ⟨h, t, hs, ih⟩ := linesGo_lines (kc :: rest') kc.1 [] kc.1 (by simp) hrest hlast'
        refine ⟨[], h :: t, ?_, ?_⟩
        · rw [List.map_cons, splitNl_cons_nl, hs]
        · rw [linesGo_cons_nl, List.map_cons, ih]
          simp [popCr_of_no_cr hacc]
    · have hlast' : (rest.map (·.2)).getLast? ≠ some '\n' := by
        cases rest with
        | nil => simp
        | cons kc rest' => simpa [List.getLast?_cons_cons] using hlast
      have hacc' : '\r' ∉ acc ++ [c] := by
        simp only [List.mem_append, List.mem_singleton, not_or]
        exact ⟨hacc, fun h => hc h.symm⟩
      obtain ⟨h, t, hs, ih⟩ := linesGo_lines rest start (acc ++ [c]) k hacc' hrest hlast'
      refine ⟨c :: h, t, ?_, ?_⟩
      · rw [List.map_cons]; exact splitNl_cons_ne _ hnl h t hs
      · rw [linesGo_cons_ne _ _ _ _ _ hnl, ih]; simp

/-- For a non-empty text without carriage returns that does not end in a line break, the lines of
`LineClasses` are the pieces between its line breaks. -/
theorem lineClasses_lines {t : List Char} (hne : t ≠ []) (hcr : '\r' ∉ t)
    (hlast : t.getLast? ≠ some '\n') : (lineClasses t).map (·.2) = splitNl t := by
  unfold lineClasses lineClassesOf
  have hmap := RF.Lemmas.CharClasses.classes_map_snd t
  match hcl : classes t with
  | [] => rw [hcl] at hmap; exact absurd hmap.symm hne
  | (k, c) :: rest =>
    obtain ⟨h, tl, hs, hl⟩ := linesGo_lines ((k, c) :: rest) k [] k (by simp)
      (by rw [← hcl, hmap]; exact hcr) (by rw [← hcl, hmap]; exact hlast)
    rw [← hcl, hmap] at hs
    simp only [hl, hs, List.nil_append]

end RF.MacroBody

import RF.Model.Project
/-! Lemmas about `RF.Project` (C05): module resolution (`visit*`) fails exactly on a reachable fault and adds only
files of the tree; what one file logs is the complete, differing text; the phase machine: the equations of `step`,
the generated phase list in closed form, and the inductions over an arbitrary safe phase list. -/
namespace RF.Lemmas.Project
open RF.Session RF.Project RF.Gen.Phases RF.Gen.Emitters

theorem false_of_some {α : Type} {o : Option α} {b : Bool} (hiff : o = none ↔ b = true) {a : α} (h : o = some a) :
    b = false := by
  cases hb : b with
  | false => rfl
  | true => rw [hiff.2 hb] at h; cases h

mutual
theorem visitTree_none_iff : ∀ (t : Tree) (acc : List File), visitTree t acc = none ↔ faultT t = true
  | .node f mods, acc => by
    unfold visitTree faultT
    by_cases hp : f.parse = .ok
    · by_cases hs : f.skipAttr = true
      · simp [hp, hs]
      · simp [hp, hs, visitMods_none_iff mods (orInsert f acc)]
    · simp [hp]
theorem visitMods_none_iff : ∀ (m : Mods) (acc : List File), visitMods m acc = none ↔ faultM m = true
  | .nil, acc => by simp [visitMods, faultM]
  | .found t rest, acc => by
    unfold visitMods faultM
    cases h : visitTree t acc with
    | none =>
      have := (visitTree_none_iff t acc).1 h
      simp [this]
    | some acc' =>
      have := false_of_some (visitTree_none_iff t acc) h
      simp [this, visitMods_none_iff rest acc']
  | .skipped rest, acc => by
    unfold visitMods faultM
    exact visitMods_none_iff rest acc
  | .notFound _, _ => by simp [visitMods, faultM]
  | .multiple _, _ => by simp [visitMods, faultM]
  | .cfgAttr alts dk act (.node df dm) ghost rest, acc => by
    unfold visitMods faultM
    by_cases hf : altsFail alts = true
    · simp [hf]
    · simp only [hf, Bool.false_eq_true, if_false, Bool.false_or]
      cases act with
      | fail => simp
      | none => simp only []; exact visitMods_none_iff rest acc
      | file =>
        simp only []
        cases h1 : visitAlts alts (orInsert df (insertAlts alts acc)) with
        | none => simp [(visitAlts_none_iff alts _).1 h1]
        | some a1 =>
          have e1 := false_of_some (visitAlts_none_iff alts _) h1
          dsimp only
          cases h2 : visitMods dm a1 with
          | none => simp [(visitMods_none_iff dm a1).1 h2]
          | some a2 =>
            have e2 := false_of_some (visitMods_none_iff dm a1) h2
            simp [e1, e2, visitMods_none_iff rest a2]
      | declaringItem =>
        simp only []
        cases h1 : visitAlts alts (orInsert ghost (insertAlts alts acc)) with
        | none => simp [(visitAlts_none_iff alts _).1 h1]
        | some a1 =>
          have e1 := false_of_some (visitAlts_none_iff alts _) h1
          simp [e1, visitMods_none_iff rest a1]
      | candidates =>
        simp only []
        cases h1 : visitAlts alts (insertAlts alts acc) with
        | none => simp [(visitAlts_none_iff alts _).1 h1]
        | some a1 =>
          have e1 := false_of_some (visitAlts_none_iff alts _) h1
          simp [e1, visitMods_none_iff rest a1]
theorem visitAlts_none_iff : ∀ (a : Alts) (acc : List File), visitAlts a acc = none ↔ faultA a = true
  | .nil, acc => by simp [visitAlts, faultA]
  | .cons .use (.node f m) rest, acc => by
    unfold visitAlts faultA
    cases h : visitMods m acc with
    | none => simp [(visitMods_none_iff m acc).1 h]
    | some a =>
      have e := false_of_some (visitMods_none_iff m acc) h
      simp [e, visitAlts_none_iff rest a]
  | .cons .fail t rest, acc => by
    unfold visitAlts faultA
    exact visitAlts_none_iff rest acc
  | .cons .skip t rest, acc => by
    unfold visitAlts faultA
    exact visitAlts_none_iff rest acc
end

theorem visitCrate_none_iff (recursive : Bool) (root : Tree) :
    visitCrate recursive root = none ↔ (recursive && faultM root.mods) = true := by
  unfold visitCrate
  cases recursive with
  | false => simp
  | true =>
    simp only [if_true, Bool.true_and]
    cases h : visitMods root.mods [] with
    | none => simp [(visitMods_none_iff _ _).1 h]
    | some m =>
      have := false_of_some (visitMods_none_iff root.mods []) h
      simp [this]

/-- every file of `r` was in `acc` already or is one of `L` -/
def Adds (acc L r : List File) : Prop := ∀ x ∈ r, x ∈ acc ∨ x ∈ L

theorem Adds.refl (acc L : List File) : Adds acc L acc := fun _ hx => Or.inl hx

theorem Adds.trans {acc L1 r1 L2 r2 : List File} (h1 : Adds acc L1 r1) (h2 : Adds r1 L2 r2) :
    Adds acc (L1 ++ L2) r2 := by
  intro x hx
  rcases h2 x hx with h | h
  · rcases h1 x h with h | h
    · exact Or.inl h
    · exact Or.inr (List.mem_append_left _ h)
  · exact Or.inr (List.mem_append_right _ h)

theorem Adds.mono {acc L L' r : List File} (h : Adds acc L r) (hs : ∀ x ∈ L, x ∈ L') : Adds acc L' r :=
  fun x hx => (h x hx).imp_right (hs x)

theorem adds_orInsert (f : File) (acc : List File) : Adds acc [f] (orInsert f acc) := by
  fun_induction orInsert f acc
  · exact fun x hx => Or.inr hx
  · exact fun x hx => (List.mem_cons.1 hx).symm.imp_right (by simp +contextual)
  · exact Adds.refl _ _
  · next g r _ _ ih =>
    intro x hx
    rcases List.mem_cons.1 hx with h | h
    · exact Or.inl (h ▸ List.mem_cons_self)
    · exact (ih x h).imp_left (List.mem_cons_of_mem g)

theorem adds_mapInsert (f : File) (acc : List File) : Adds acc [f] (mapInsert f acc) := by
  fun_induction mapInsert f acc
  · exact fun x hx => Or.inr hx
  · exact fun x hx => (List.mem_cons.1 hx).symm.imp_right (by simp +contextual)
  · next g r _ _ => exact fun x hx => (List.mem_cons.1 hx).symm.imp (List.mem_cons_of_mem g) (by simp +contextual)
  · next g r _ _ ih =>
    intro x hx
    rcases List.mem_cons.1 hx with h | h
    · exact Or.inl (h ▸ List.mem_cons_self)
    · exact (ih x h).imp_left (List.mem_cons_of_mem g)

theorem adds_insertAlts : ∀ (a : Alts) (acc : List File), Adds acc (allFilesA a) (insertAlts a acc)
  | .nil, acc => Adds.refl _ _
  | .cons .use (.node f m) rest, acc =>
    ((adds_orInsert f acc).trans (adds_insertAlts rest _)).mono (by simp +contextual [allFilesA, allFilesT, or_imp])
  | .cons .fail t rest, acc => (adds_insertAlts rest acc).mono (by simp +contextual [allFilesA])
  | .cons .skip t rest, acc => (adds_insertAlts rest acc).mono (by simp +contextual [allFilesA])

mutual
theorem visitTree_mem : ∀ (t : Tree) (acc r : List File), visitTree t acc = some r →
    ∀ x ∈ r, x ∈ acc ∨ x ∈ allFilesT t
  | .node f mods, acc, r => by
    unfold visitTree allFilesT
    split
    · intro h; cases h
    · split
      · intro h; cases h; exact Adds.refl _ _
      · exact fun h => ((adds_orInsert f acc).trans (visitMods_mem mods _ r h)).mono (by simp)
theorem visitMods_mem : ∀ (m : Mods) (acc r : List File), visitMods m acc = some r →
    ∀ x ∈ r, x ∈ acc ∨ x ∈ allFilesM m
  | .nil, acc, r => by
    unfold visitMods; intro h; cases h; exact Adds.refl _ _
  | .found t rest, acc, r => by
    unfold visitMods allFilesM
    cases h : visitTree t acc with
    | none => intro h'; cases h'
    | some acc' => exact fun h' => Adds.trans (visitTree_mem t acc acc' h) (visitMods_mem rest acc' r h')
  | .skipped rest, acc, r => by
    unfold visitMods allFilesM
    exact visitMods_mem rest acc r
  | .notFound _, _, _ => by unfold visitMods; intro h; cases h
  | .multiple _, _, _ => by unfold visitMods; intro h; cases h
  | .cfgAttr alts dk act (.node df dm) ghost rest, acc, r => by
    unfold visitMods allFilesM allFilesT
    have hA := adds_insertAlts alts acc
    split
    · intro h; cases h
    · cases act with
      | fail => intro h; cases h
      | none => exact fun h => Adds.mono (visitMods_mem rest acc r h) (by simp +contextual)
      | file =>
        simp only []
        cases h1 : visitAlts alts (orInsert df (insertAlts alts acc)) with
        | none => intro h; cases h
        | some a1 =>
          dsimp only
          cases h2 : visitMods dm a1 with
          | none => intro h; cases h
          | some a2 =>
            exact fun h => ((((hA.trans (adds_orInsert df _)).trans (visitAlts_mem alts _ a1 h1)).trans
              (visitMods_mem dm a1 a2 h2)).trans (visitMods_mem rest a2 r h)).mono (by simp +contextual [or_imp])
      | declaringItem =>
        simp only []
        cases h1 : visitAlts alts (orInsert ghost (insertAlts alts acc)) with
        | none => intro h; cases h
        | some a1 =>
          exact fun h => (((hA.trans (adds_orInsert ghost _)).trans (visitAlts_mem alts _ a1 h1)).trans
            (visitMods_mem rest a1 r h)).mono (by simp +contextual [or_imp])
      | candidates =>
        simp only []
        cases h1 : visitAlts alts (insertAlts alts acc) with
        | none => intro h; cases h
        | some a1 =>
          exact fun h => ((hA.trans (visitAlts_mem alts _ a1 h1)).trans (visitMods_mem rest a1 r h)).mono
            (by simp +contextual [or_imp])
theorem visitAlts_mem : ∀ (a : Alts) (acc r : List File), visitAlts a acc = some r →
    ∀ x ∈ r, x ∈ acc ∨ x ∈ allFilesA a
  | .nil, acc, r => by
    unfold visitAlts; intro h; cases h; exact Adds.refl _ _
  | .cons .use (.node f m) rest, acc, r => by
    unfold visitAlts allFilesA allFilesT
    cases h : visitMods m acc with
    | none => intro h'; cases h'
    | some a =>
      exact fun h' => (Adds.trans (visitMods_mem m acc a h) (visitAlts_mem rest a r h')).mono (by simp +contextual)
  | .cons .fail t rest, acc, r => by
    unfold visitAlts allFilesA
    exact fun h => Adds.mono (visitAlts_mem rest acc r h) (by simp +contextual)
  | .cons .skip t rest, acc, r => by
    unfold visitAlts allFilesA
    exact fun h => Adds.mono (visitAlts_mem rest acc r h) (by simp +contextual)
end

theorem visitCrate_mem (recursive : Bool) (root : Tree) (r : List File)
    (h : visitCrate recursive root = some r) : ∀ x ∈ r, x ∈ allFilesT root := by
  cases root with
  | node f mods =>
    unfold visitCrate at h
    have key : ∀ m, Adds [] (allFilesM mods) m → some (mapInsert f m) = some r → ∀ x ∈ r, x ∈ allFilesT (.node f mods) := by
      intro m hm he x hx
      cases he
      rcases (hm.trans (adds_mapInsert f m)) x hx with h | h
      · cases h
      · simpa [allFilesT, or_comm] using h
    cases recursive with
    | false => exact key [] (Adds.refl _ _) h
    | true =>
      simp only [if_true, Tree.mods, Tree.file] at h
      cases hm : visitMods mods [] with
      | none => rw [hm] at h; cases h
      | some m => rw [hm] at h; exact key m (visitMods_mem mods [] m hm) h

/-- `e` is a file-system call of emitter `kind` on `f`'s path carrying `text`. -/
def IsWriteOf (kind : EmitterKind) (f : File) (text : Text) (e : Effect) : Prop :=
  e.path = f.path ∧ e.text = text ∧ text ≠ f.orig ∧ e.op ∈ fsOps kind

theorem emitFile_mem {kind : EmitterKind} {f : File} {text : Text} {effs : List Effect}
    (h : emitFile kind f text = some effs) : ∀ e ∈ effs, IsWriteOf kind f text e := by
  unfold emitFile at h
  split at h
  · rename_i hne
    split at h
    · cases h
    · cases h
      intro e he
      simp only [List.mem_map] at he
      obtain ⟨op, hop, rfl⟩ := he
      exact ⟨rfl, rfl, fun h => hne h.symm, hop⟩
  · cases h; intro e he; cases he

theorem runFileSteps_effects (ops : FileOps) (kind : EmitterKind) (f : File) :
    ∀ (steps : List FileStep) (s s' : FileSt), fileStepsSafe steps = true →
      runFileSteps ops kind f steps s = some s' →
      ∀ e ∈ s'.effects, e ∈ s.effects ∨ IsWriteOf kind f (pipeline ops f steps s.buffer) e := by
  intro steps
  induction steps with
  | nil => intro s s' h; simp [fileStepsSafe] at h
  | cons st r ih =>
    intro s s' hsafe hrun e he
    cases r with
    | nil =>
      -- the single remaining step is `emit`
      simp only [fileStepsSafe, beq_iff_eq] at hsafe
      subst hsafe
      simp only [runFileSteps] at hrun
      cases hem : emitFile kind f s.buffer with
      | none => rw [hem] at hrun; cases hrun
      | some effs =>
        rw [hem] at hrun
        simp only [Option.some.injEq] at hrun
        subst hrun
        simp only [List.mem_append] at he
        rcases he with he | he
        · left; exact he
        · right; simpa [pipeline] using emitFile_mem hem e he
    | cons st2 r2 =>
      simp only [fileStepsSafe, Bool.and_eq_true, bne_iff_ne, ne_eq] at hsafe
      obtain ⟨hne, hrest⟩ := hsafe
      cases st with
      | emit => exact absurd rfl hne
      | visit =>
        simp only [runFileSteps] at hrun
        simpa [pipeline] using ih _ s' hrest hrun e he
      | appendNewline =>
        simp only [runFileSteps] at hrun
        simpa [pipeline] using ih _ s' hrest hrun e he
      | formatLines =>
        simp only [runFileSteps] at hrun
        simpa [pipeline] using ih _ s' hrest hrun e he
      | applyNewlineStyle =>
        simp only [runFileSteps] at hrun
        simpa [pipeline] using ih _ s' hrest hrun e he

theorem runFile_effects (steps : List FileStep) (ops : FileOps) (kind : EmitterKind) (f : File)
    (fs : FileSt) (hsafe : fileStepsSafe steps = true) (h : runFile steps ops kind f = some fs) :
    ∀ e ∈ fs.effects, IsWriteOf kind f (complete steps ops f) e := by
  intro e he
  rcases runFileSteps_effects ops kind f steps {} fs hsafe h e he with h1 | h1
  · cases h1
  · exact h1

/-- an effect that is a complete, differing write of some file of the list -/
def FromFiles (steps : List FileStep) (ops : FileOps) (kind : EmitterKind) (fl : List File) (e : Effect) : Prop :=
  ∃ f ∈ fl, IsWriteOf kind f (complete steps ops f) e

theorem formatLoop_log (steps : List FileStep) (ops : FileOps) (kind : EmitterKind)
    (hsafe : fileStepsSafe steps = true) :
    ∀ (q : List File) (rep : Flags) (log : List Effect),
      ∀ e ∈ (formatLoop steps ops kind q rep log).2, e ∈ log ∨ FromFiles steps ops kind q e := by
  intro q
  induction q with
  | nil => intro rep log e he; left; simpa [formatLoop] using he
  | cons f r ih =>
    intro rep log e he
    unfold formatLoop at he
    cases hf : runFile steps ops kind f with
    | none => rw [hf] at he; left; exact he
    | some fs =>
      rw [hf] at he
      rcases ih _ _ e he with h1 | ⟨g, hg, hw⟩
      · simp only [List.mem_append] at h1
        rcases h1 with h1 | h1
        · left; exact h1
        · right; exact ⟨f, by simp, runFile_effects steps ops kind f fs hsafe hf e h1⟩
      · right; exact ⟨g, by simp [hg], hw⟩

theorem exec_cons (e : Env) (p : Phase) (ps : List Phase) (s : St) :
    exec e (p :: ps) s = match step e p s with | .next s' => exec e ps s' | .done r => r := by
  rfl

theorem exec_next {e : Env} {p : Phase} {s s' : St} (h : step e p s = .next s') (ps : List Phase) :
    exec e (p :: ps) s = exec e ps s' := by rw [exec_cons, h]
theorem exec_done {e : Env} {p : Phase} {s : St} {r : Result} (h : step e p s = .done r) (ps : List Phase) :
    exec e (p :: ps) s = r := by rw [exec_cons, h]

/-! equations of `step`, one per way through each phase -/

theorem step_new_ok {e : Env} {s : St} (h : e.cfg.ignoreGlobOk = true) :
    step e .newParseSess s = .next { s with psess := true } := by simp [step, h]
theorem step_new_bad {e : Env} {s : St} (h : e.cfg.ignoreGlobOk = false) :
    step e .newParseSess s = .done ⟨.err, s.log⟩ := by simp [step, h]
theorem step_ign_stuck {e : Env} {s : St} (h : s.psess = false) :
    step e .ignoreRootCheck s = .done ⟨.stuck, s.log⟩ := by simp [step, h]
theorem step_ign_ret {e : Env} {s : St} (h : s.psess = true)
    (h2 : (e.cfg.skipChildren && e.root.file.ignored) = true) :
    step e .ignoreRootCheck s = .done ⟨.ok {}, s.log⟩ := by
  simp only [step, h, h2, Bool.not_true, Bool.false_eq_true, if_false, if_true]
theorem step_ign_next {e : Env} {s : St} (h : s.psess = true)
    (h2 : (e.cfg.skipChildren && e.root.file.ignored) = false) :
    step e .ignoreRootCheck s = .next s := by
  simp only [step, h, h2, Bool.not_true, Bool.false_eq_true, if_false]
theorem step_parse_stuck {e : Env} {s : St} (h : s.psess = false) :
    step e .parseCrate s = .done ⟨.stuck, s.log⟩ := by simp [step, h]
theorem step_parse_fault {e : Env} {s : St} (h : s.psess = true) (h2 : e.root.file.parse ≠ .ok) :
    step e .parseCrate s = .done ⟨.ok { s.report with parsing := true }, s.log⟩ := by
  simp only [step, h, h2, Bool.not_true, Bool.false_eq_true, if_false, if_true, ne_eq, not_false_eq_true]
theorem step_parse_ok {e : Env} {s : St} (h : s.psess = true) (h2 : e.root.file.parse = .ok) :
    step e .parseCrate s = .next { s with krate := some e.root, queue := [e.root.file] } := by
  simp only [step, h, h2, Bool.not_true, Bool.false_eq_true, if_false, ne_eq, not_true_eq_false]
theorem step_res_stuck {e : Env} {s : St} (h : s.krate = none) :
    step e .resolveModules s = .done ⟨.stuck, s.log⟩ := by simp [step, h]
theorem step_res_err {e : Env} {s : St} {k : Tree} (h : s.krate = some k)
    (h2 : visitCrate (!e.cfg.skipChildren) k = none) :
    step e .resolveModules s = .done ⟨.err, s.log⟩ := by simp [step, h, h2]
theorem step_res_ok {e : Env} {s : St} {k : Tree} {files : List File} (h : s.krate = some k)
    (h2 : visitCrate (!e.cfg.skipChildren) k = some files) :
    step e .resolveModules s = .next { s with queue := files } := by simp [step, h, h2]
theorem step_filter {e : Env} {s : St} :
    step e .filterFiles s =
      .next { s with queue := s.queue.filter fun f => !shouldSkip e.cfg e.root.file.path f } := rfl
theorem step_loop_err {e : Env} {s : St} {log : List Effect}
    (h : formatLoop e.steps e.ops e.kind s.queue s.report s.log = (none, log)) :
    step e .formatLoop s = .done ⟨.err, log⟩ := by simp [step, h]
theorem step_loop_ok {e : Env} {s : St} {log : List Effect} {rep : Flags}
    (h : formatLoop e.steps e.ops e.kind s.queue s.report s.log = (some rep, log)) :
    step e .formatLoop s = .next { s with report := rep, log := log } := by simp [step, h]

/-- **The generated phase list, run**: the five ways out of `format_project` in the order the source has them,
and what is handed to the one format loop. -/
theorem runProject_formatProject (steps : List FileStep) (ops : FileOps) (kind : EmitterKind) (cfg : Cfg) (root : Tree) :
    runProject formatProject steps ops kind cfg root =
      if cfg.ignoreGlobOk = false then ⟨.err, []⟩
      else if (cfg.skipChildren && root.file.ignored) = true then ⟨.ok {}, []⟩
      else if root.file.parse ≠ .ok then ⟨.ok { parsing := true }, []⟩
      else match visitCrate (!cfg.skipChildren) root with
        | none => ⟨.err, []⟩
        | some files =>
          let r := formatLoop steps ops kind (files.filter fun f => !shouldSkip cfg root.file.path f) {} []
          ⟨match r.1 with | none => .err | some rep => .ok rep, r.2⟩ := by
  rw [runProject, formatProject]
  cases hg : cfg.ignoreGlobOk with
  | false => exact exec_done (step_new_bad hg) _
  | true =>
    rw [exec_next (step_new_ok hg)]
    cases hi : (cfg.skipChildren && root.file.ignored) with
    | true => exact exec_done (step_ign_ret rfl hi) _
    | false =>
      rw [exec_next (step_ign_next rfl hi), if_neg (by decide), if_neg (by decide)]
      by_cases hp : root.file.parse = .ok
      · rw [exec_next (step_parse_ok rfl hp), if_neg (not_not_intro hp)]
        cases hv : visitCrate (!cfg.skipChildren) root with
        | none => exact exec_done (step_res_err rfl hv) _
        | some files =>
          rw [exec_next (step_res_ok rfl hv), exec_next step_filter]
          cases hfl : formatLoop steps ops kind (files.filter fun f => !shouldSkip cfg root.file.path f) {} [] with
          | mk o log =>
            cases o with
            | none => rw [exec_done (step_loop_err hfl)]; simp only [hfl]
            | some rep => rw [exec_next (step_loop_ok hfl)]; simp only [hfl]; rfl
      · rw [if_pos hp]; exact exec_done (step_parse_fault rfl hp) _

/-- the invariant of `exec_log_complete` across one phase -/
theorem step_log_complete (e : Env) (hsafe : fileStepsSafe e.steps = true) (p : Phase) (s : St)
    (hq : ∀ x ∈ s.queue, x ∈ allFilesT e.root) (hk : ∀ k, s.krate = some k → k = e.root) :
    match step e p s with
    | .next s' =>
      (∀ x ∈ s'.queue, x ∈ allFilesT e.root) ∧ (∀ k, s'.krate = some k → k = e.root) ∧
      (∀ x ∈ s'.log, x ∈ s.log ∨ FromFiles e.steps e.ops e.kind (allFilesT e.root) x)
    | .done r => ∀ x ∈ r.log, x ∈ s.log ∨ FromFiles e.steps e.ops e.kind (allFilesT e.root) x := by
  have triv : ∀ x ∈ s.log, x ∈ s.log ∨ FromFiles e.steps e.ops e.kind (allFilesT e.root) x :=
    fun x hx => Or.inl hx
  cases p with
  | newParseSess =>
    cases h : e.cfg.ignoreGlobOk with
    | true => rw [step_new_ok h]; exact ⟨hq, hk, triv⟩
    | false => rw [step_new_bad h]; exact triv
  | ignoreRootCheck =>
    cases hps : s.psess with
    | false => rw [step_ign_stuck hps]; exact triv
    | true =>
      cases h : (e.cfg.skipChildren && e.root.file.ignored) with
      | true => rw [step_ign_ret hps h]; exact triv
      | false => rw [step_ign_next hps h]; exact ⟨hq, hk, triv⟩
  | parseCrate =>
    cases hps : s.psess with
    | false => rw [step_parse_stuck hps]; exact triv
    | true =>
      by_cases h : e.root.file.parse = .ok
      · rw [step_parse_ok hps h]
        refine ⟨?_, ?_, triv⟩
        · intro y hy
          simp only [List.mem_singleton] at hy
          subst hy
          cases e.root with
          | node f m => simp [Tree.file, allFilesT]
        · intro k hk'
          simp only [Option.some.injEq] at hk'
          exact hk'.symm
      · rw [step_parse_fault hps h]; exact triv
  | resolveModules =>
    cases hkr : s.krate with
    | none => rw [step_res_stuck hkr]; exact triv
    | some k =>
      have hke := hk k hkr
      subst hke
      cases hv : visitCrate (!e.cfg.skipChildren) e.root with
      | none => rw [step_res_err hkr hv]; exact triv
      | some files =>
        rw [step_res_ok hkr hv]
        exact ⟨visitCrate_mem _ _ _ hv, hk, triv⟩
  | filterFiles =>
    rw [step_filter]
    exact ⟨fun y hy => hq y (List.mem_filter.1 hy).1, hk, triv⟩
  | formatLoop =>
    have hl := formatLoop_log e.steps e.ops e.kind hsafe s.queue s.report s.log
    cases hfl : formatLoop e.steps e.ops e.kind s.queue s.report s.log with
    | mk o log =>
      rw [hfl] at hl
      have key : ∀ y ∈ log, y ∈ s.log ∨ FromFiles e.steps e.ops e.kind (allFilesT e.root) y := by
        intro y hy
        rcases hl y hy with h1 | ⟨g, hg, hw⟩
        · left; exact h1
        · right; exact ⟨g, hq g hg, hw⟩
      cases o with
      | none => rw [step_loop_err hfl]; exact key
      | some rep => rw [step_loop_ok hfl]; exact ⟨hq, hk, key⟩

/-- Every logged effect of a run is a complete, differing write of a file of the tree (any phase order). -/
theorem exec_log_complete (e : Env) (hsafe : fileStepsSafe e.steps = true) :
    ∀ (ps : List Phase) (s : St),
      (∀ x ∈ s.queue, x ∈ allFilesT e.root) →
      (∀ k, s.krate = some k → k = e.root) →
      ∀ x ∈ (exec e ps s).log, x ∈ s.log ∨ FromFiles e.steps e.ops e.kind (allFilesT e.root) x := by
  intro ps
  induction ps with
  | nil => intro s _ _ x hx; left; simpa [exec] using hx
  | cons p ps ih =>
    intro s hq hk x hx
    rw [exec_cons] at hx
    have hstep := step_log_complete e hsafe p s hq hk
    cases hs : step e p s with
    | next s' =>
      rw [hs] at hx hstep
      simp only at hx hstep
      obtain ⟨h1, h2, h3⟩ := hstep
      rcases ih s' h1 h2 x hx with h | h
      · exact h3 x h
      · right; exact h
    | done r =>
      rw [hs] at hx hstep
      exact hstep x hx

/-- a run that recorded a failure makes the command-line entry of its root exit with 1 -/
theorem exitFormat_of_flagged (r : Result) (check : Bool) (h : r.flagged = true) :
    exitFormat check (Entry.flags (.formatted ⟨some r.log, r.outcome.toReport⟩)) = 1 := by
  unfold Result.flagged at h
  cases ho : r.outcome with
  | err => simp [Entry.flags, Outcome.toReport, exitFormat]
  | stuck => rw [ho] at h; cases h
  | ok fl =>
    rw [ho] at h
    simp [Entry.flags, Outcome.toReport, exitFormat, show fl.parsing = true from h]

/-- Under a safe phase order a faulty root leaves the log as it was and the failure is
recorded (unless the root is on the ignore list under `skip_children`, in which case it is not even parsed). -/
theorem exec_fault (e : Env) (hf : faulty e.cfg e.root = true) :
    ∀ (ps : List Phase) (s : St) (psess krate filtered : Bool),
      safeFrom psess krate false filtered ps = true →
      (psess = true → s.psess = true) →
      (krate = true → s.krate = some e.root ∧ e.root.file.parse = .ok) →
      (exec e ps s).log = s.log ∧
      ((e.cfg.skipChildren && e.root.file.ignored) = false → (exec e ps s).flagged = true) := by
  intro ps
  induction ps with
  | nil => intro s psess krate filtered h; simp [safeFrom] at h
  | cons p ps ih =>
    intro s psess krate filtered hsafe hp hk
    cases p with
    | newParseSess =>
      simp only [safeFrom] at hsafe
      cases h : e.cfg.ignoreGlobOk with
      | true =>
        rw [exec_next (step_new_ok h)]
        exact ih { s with psess := true } true krate filtered hsafe (fun _ => rfl) hk
      | false => rw [exec_done (step_new_bad h)]; simp [Result.flagged]
    | ignoreRootCheck =>
      simp only [safeFrom, Bool.and_eq_true] at hsafe
      have hps := hp hsafe.1
      cases h : (e.cfg.skipChildren && e.root.file.ignored) with
      | true => rw [exec_done (step_ign_ret hps h)]; simp
      | false =>
        rw [exec_next (step_ign_next hps h)]
        have := ih s psess krate filtered hsafe.2 hp hk
        rw [h] at this
        exact this
    | parseCrate =>
      simp only [safeFrom, Bool.and_eq_true] at hsafe
      have hps := hp hsafe.1.1
      by_cases h : e.root.file.parse = .ok
      · rw [exec_next (step_parse_ok hps h)]
        exact ih { s with krate := some e.root, queue := [e.root.file] } psess true filtered hsafe.2
          hp (fun _ => ⟨rfl, h⟩)
      · rw [exec_done (step_parse_fault hps h)]; simp [Result.flagged]
    | resolveModules =>
      simp only [safeFrom, Bool.and_eq_true] at hsafe
      obtain ⟨hkr, hok⟩ := hk hsafe.1
      have hfault : visitCrate (!e.cfg.skipChildren) e.root = none := by
        rw [visitCrate_none_iff]
        simp only [faulty, hok, bne_self_eq_false, Bool.false_or] at hf
        exact hf
      rw [exec_done (step_res_err hkr hfault)]; simp [Result.flagged]
    | filterFiles =>
      simp only [safeFrom] at hsafe
      rw [exec_next step_filter]
      exact ih { s with queue := s.queue.filter fun f => !shouldSkip e.cfg e.root.file.path f }
        psess krate true hsafe hp hk
    | formatLoop =>
      simp [safeFrom] at hsafe

/-- A well-scoped phase list never uses a value before it is produced. -/
theorem exec_not_stuck (e : Env) :
    ∀ (ps : List Phase) (s : St) (psess krate resolved filtered : Bool),
      safeFrom psess krate resolved filtered ps = true →
      (psess = true → s.psess = true) →
      (krate = true → s.krate.isSome = true) →
      (exec e ps s).outcome ≠ .stuck := by
  intro ps
  induction ps with
  | nil => intro s _ _ _ _ _ _ _; simp [exec]
  | cons p ps ih =>
    intro s psess krate resolved filtered hsafe hp hk
    cases p with
    | newParseSess =>
      simp only [safeFrom] at hsafe
      cases h : e.cfg.ignoreGlobOk with
      | true =>
        rw [exec_next (step_new_ok h)]
        exact ih { s with psess := true } true krate resolved filtered hsafe (fun _ => rfl) hk
      | false => rw [exec_done (step_new_bad h)]; simp
    | ignoreRootCheck =>
      simp only [safeFrom, Bool.and_eq_true] at hsafe
      have hps := hp hsafe.1
      cases h : (e.cfg.skipChildren && e.root.file.ignored) with
      | true => rw [exec_done (step_ign_ret hps h)]; simp
      | false =>
        rw [exec_next (step_ign_next hps h)]
        exact ih s psess krate resolved filtered hsafe.2 hp hk
    | parseCrate =>
      simp only [safeFrom, Bool.and_eq_true] at hsafe
      have hps := hp hsafe.1.1
      by_cases h : e.root.file.parse = .ok
      · rw [exec_next (step_parse_ok hps h)]
        exact ih { s with krate := some e.root, queue := [e.root.file] } psess true resolved filtered
          hsafe.2 hp (fun _ => rfl)
      · rw [exec_done (step_parse_fault hps h)]; simp
    | resolveModules =>
      simp only [safeFrom, Bool.and_eq_true] at hsafe
      have hks := hk hsafe.1
      cases hkr : s.krate with
      | none => rw [hkr] at hks; cases hks
      | some k =>
        cases hv : visitCrate (!e.cfg.skipChildren) k with
        | none => rw [exec_done (step_res_err hkr hv)]; simp
        | some files =>
          rw [exec_next (step_res_ok hkr hv)]
          exact ih { s with queue := files } psess krate true false hsafe.2 hp hk
    | filterFiles =>
      simp only [safeFrom] at hsafe
      rw [exec_next step_filter]
      exact ih { s with queue := s.queue.filter fun f => !shouldSkip e.cfg e.root.file.path f }
        psess krate resolved true hsafe hp hk
    | formatLoop =>
      simp only [safeFrom, Bool.and_eq_true] at hsafe
      cases hfl : formatLoop e.steps e.ops e.kind s.queue s.report s.log with
      | mk o log =>
        cases o with
        | none => rw [exec_done (step_loop_err hfl)]; simp
        | some rep =>
          rw [exec_next (step_loop_ok hfl)]
          exact ih { s with report := rep, log := log } psess krate resolved filtered hsafe.2 hp hk

end RF.Lemmas.Project

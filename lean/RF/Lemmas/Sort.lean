import RF.Model.Sort

/-!
Lemmas about `RF.Model.Sort` (used by C11, and by the lemmas about import normalisation), in this
order.  Total preorders given by a three-way comparison (`TotalPreorder`, and `TotalPreorderOn`
relative to a predicate, needed for chunks and for the induction on the size of use trees); they
are closed under key functions, lexicographic products (`then`, `lexCmp`), `optCmp`.  The stable
sort: permutation, ascending, stable, determined by these.  `version_sort`: the chunk iterator, the
loop as a lexicographic product of two comparisons of chunk sequences.  `UseSegment::cmp`,
`UseTree::cmp`, `compare_items` as products of key comparisons.  When `version_sort` ranks two
identifiers equal (digit strings, chunks); which trees rank equal (canonical forms).  The grouping
loop of `visit_items_with_reordering`.
-/
namespace RF.Lemmas.Sort
open RF.Sort

/-- `cmp` is a consistent three-way comparison on the elements satisfying `P`: reflexive,
the two directions agree (`swap`, which gives totality), and `≤` (`≠ .gt`) is transitive. -/
structure TotalPreorderOn {α} (P : α → Prop) (cmp : α → α → Ordering) : Prop where
  refl : ∀ a, P a → cmp a a = .eq
  swap : ∀ a b, P a → P b → cmp b a = (cmp a b).swap
  trans : ∀ a b c, P a → P b → P c → cmp a b ≠ .gt → cmp b c ≠ .gt → cmp a c ≠ .gt

structure TotalPreorder {α} (cmp : α → α → Ordering) : Prop where
  refl : ∀ a, cmp a a = .eq
  swap : ∀ a b, cmp b a = (cmp a b).swap
  trans : ∀ a b c, cmp a b ≠ .gt → cmp b c ≠ .gt → cmp a c ≠ .gt

theorem TotalPreorder.on {α} {cmp : α → α → Ordering} (h : TotalPreorder cmp) (P : α → Prop) :
    TotalPreorderOn P cmp :=
  ⟨fun a _ => h.refl a, fun a b _ _ => h.swap a b, fun a b c _ _ _ => h.trans a b c⟩

theorem TotalPreorderOn.total {α} {P : α → Prop} {cmp : α → α → Ordering}
    (h : TotalPreorderOn P cmp) (hP : ∀ a, P a) : TotalPreorder cmp :=
  ⟨fun a => h.refl a (hP a), fun a b => h.swap a b (hP a) (hP b),
   fun a b c => h.trans a b c (hP a) (hP b) (hP c)⟩

theorem TotalPreorder.total {α} {cmp : α → α → Ordering} (h : TotalPreorder cmp) (a b : α) :
    cmp a b ≠ .gt ∨ cmp b a ≠ .gt := by
  rw [h.swap a b]
  cases cmp a b <;> decide

/-- An `Ordering` is known once it is known whether it and its converse are `≤`. -/
theorem ordering_ext {x y : Ordering} (h : x ≠ .gt ↔ y ≠ .gt) (h' : x.swap ≠ .gt ↔ y.swap ≠ .gt) :
    x = y := by
  cases x <;> cases y <;> simp at h h' ⊢

namespace TotalPreorderOn
variable {α : Sort _} {P : α → Prop} {cmp : α → α → Ordering}

theorem eq_symm (h : TotalPreorderOn P cmp) {a b : α} (ha : P a) (hb : P b)
    (hab : cmp a b = .eq) : cmp b a = .eq := by
  rw [h.swap a b ha hb, hab]; rfl

/-- Rank-equal elements compare alike with every third element (left argument): `a ≤ b ≤ a`
carries `≤ c` and `c ≤` from either to the other. -/
theorem congr_left (h : TotalPreorderOn P cmp) {a b c : α} (ha : P a) (hb : P b) (hc : P c)
    (hab : cmp a b = .eq) : cmp a c = cmp b c := by
  have le_ab : cmp a b ≠ .gt := by rw [hab]; decide
  have le_ba : cmp b a ≠ .gt := by rw [h.eq_symm ha hb hab]; decide
  apply ordering_ext
  · exact ⟨h.trans b a c hb ha hc le_ba, h.trans a b c ha hb hc le_ab⟩
  · rw [← h.swap a c ha hc, ← h.swap b c hb hc]
    exact ⟨fun hca => h.trans c a b hc ha hb hca le_ab, fun hcb => h.trans c b a hc hb ha hcb le_ba⟩

/-- Rank-equal elements compare alike with every third element (right argument). -/
theorem congr_right (h : TotalPreorderOn P cmp) {a b c : α} (ha : P a) (hb : P b) (hc : P c)
    (hbc : cmp b c = .eq) : cmp a b = cmp a c := by
  rw [h.swap b a hb ha, h.swap c a hc ha, h.congr_left hb hc ha hbc]

theorem lt_trans (h : TotalPreorderOn P cmp) {a b c : α} (ha : P a) (hb : P b) (hc : P c)
    (hab : cmp a b = .lt) (hbc : cmp b c = .lt) : cmp a c = .lt := by
  have hcb : cmp c b = .gt := by rw [h.swap b c hb hc, hbc]; rfl
  rw [← Ordering.swap_eq_gt, ← h.swap a c ha hc]
  -- otherwise `c ≤ a ≤ b`
  exact Decidable.byContradiction fun hca =>
    h.trans c a b hc ha hb hca (by rw [hab]; decide) hcb

/-- The step of every lexicographic comparison: `≤` of pairs is transitive when the first
components are compared by a total preorder and `≤` of the second components is transitive. -/
theorem then_trans (h : TotalPreorderOn P cmp) {a b c : α} (ha : P a) (hb : P b) (hc : P c)
    {x y z : Ordering} (hxyz : x ≠ .gt → y ≠ .gt → z ≠ .gt)
    (hab : (cmp a b).then x ≠ .gt) (hbc : (cmp b c).then y ≠ .gt) : (cmp a c).then z ≠ .gt := by
  cases e1 : cmp a b with
  | gt => rw [e1] at hab; exact absurd rfl hab
  | lt =>
    cases e2 : cmp b c with
    | gt => rw [e2] at hbc; exact absurd rfl hbc
    | lt => rw [h.lt_trans ha hb hc e1 e2]; exact Ordering.noConfusion
    | eq => rw [← h.congr_right ha hb hc e2, e1]; exact Ordering.noConfusion
  | eq =>
    rw [e1] at hab
    rw [h.congr_left ha hb hc e1]
    cases e2 : cmp b c with
    | gt => rw [e2] at hbc; exact absurd rfl hbc
    | lt => exact Ordering.noConfusion
    | eq => rw [e2] at hbc; exact hxyz hab hbc

end TotalPreorderOn

namespace TotalPreorder
variable {α : Sort _} {cmp : α → α → Ordering}

theorem congr_left (h : TotalPreorder cmp) {a b : α} (c : α) (hab : cmp a b = .eq) :
    cmp a c = cmp b c :=
  (h.on fun _ => True).congr_left trivial trivial trivial hab

theorem congr_right (h : TotalPreorder cmp) (a : α) {b c : α} (hbc : cmp b c = .eq) :
    cmp a b = cmp a c :=
  (h.on fun _ => True).congr_right trivial trivial trivial hbc

theorem lt_trans (h : TotalPreorder cmp) {a b c : α} (hab : cmp a b = .lt) (hbc : cmp b c = .lt) :
    cmp a c = .lt :=
  (h.on fun _ => True).lt_trans trivial trivial trivial hab hbc

theorem eq_symm (h : TotalPreorder cmp) {a b : α} (hab : cmp a b = .eq) : cmp b a = .eq :=
  (h.on fun _ => True).eq_symm trivial trivial hab

theorem eq_trans (h : TotalPreorder cmp) {a b c : α} (hab : cmp a b = .eq) (hbc : cmp b c = .eq) :
    cmp a c = .eq := by
  rw [h.congr_left c hab, hbc]

theorem eq_of_le_of_ge (h : TotalPreorder cmp) {a b : α} (hab : cmp a b ≠ .gt)
    (hba : cmp b a ≠ .gt) : cmp a b = .eq := by
  rw [h.swap a b] at hba
  cases e : cmp a b
  · rw [e] at hba; exact absurd rfl hba
  · rfl
  · exact absurd e hab

end TotalPreorder

theorem TotalPreorder.of_eq {α} {cmp cmp' : α → α → Ordering} (h : TotalPreorder cmp')
    (e : ∀ a b, cmp a b = cmp' a b) : TotalPreorder cmp := by
  rw [show cmp = cmp' from funext fun a => funext (e a)]
  exact h

theorem TotalPreorderOn.congr {α} {P : α → Prop} {cmp cmp' : α → α → Ordering}
    (h : TotalPreorderOn P cmp') (e : ∀ a b, P a → P b → cmp a b = cmp' a b) :
    TotalPreorderOn P cmp :=
  ⟨fun a ha => by rw [e a a ha ha]; exact h.refl a ha,
   fun a b ha hb => by rw [e a b ha hb, e b a hb ha]; exact h.swap a b ha hb,
   fun a b c ha hb hc => by rw [e a b ha hb, e b c hb hc, e a c ha hc]; exact h.trans a b c ha hb hc⟩

theorem TotalPreorderOn.pullback {α β} {P : β → Prop} {cmp : β → β → Ordering}
    (h : TotalPreorderOn P cmp) (f : α → β) (Q : α → Prop) (hQ : ∀ a, Q a → P (f a)) :
    TotalPreorderOn Q (fun a b => cmp (f a) (f b)) :=
  ⟨fun a ha => h.refl _ (hQ a ha), fun a b ha hb => h.swap _ _ (hQ a ha) (hQ b hb),
   fun _ _ _ ha hb hc => h.trans _ _ _ (hQ _ ha) (hQ _ hb) (hQ _ hc)⟩

theorem TotalPreorder.pullback {α β} {cmp : β → β → Ordering} (h : TotalPreorder cmp) (f : α → β) :
    TotalPreorder (fun a b => cmp (f a) (f b)) :=
  ⟨fun _ => h.refl _, fun _ _ => h.swap _ _, fun _ _ _ => h.trans _ _ _⟩

theorem TotalPreorderOn.then {α} {P : α → Prop} {c1 c2 : α → α → Ordering}
    (h1 : TotalPreorderOn P c1) (h2 : TotalPreorderOn P c2) :
    TotalPreorderOn P (fun a b => (c1 a b).then (c2 a b)) :=
  ⟨fun a ha => by rw [h1.refl a ha, h2.refl a ha]; rfl,
   fun a b ha hb => by rw [h1.swap a b ha hb, h2.swap a b ha hb, Ordering.swap_then],
   fun a b c ha hb hc => h1.then_trans ha hb hc (h2.trans a b c ha hb hc)⟩

theorem TotalPreorder.then {α} {c1 c2 : α → α → Ordering}
    (h1 : TotalPreorder c1) (h2 : TotalPreorder c2) :
    TotalPreorder (fun a b => (c1 a b).then (c2 a b)) :=
  ((h1.on _).then (h2.on _)).total (P := fun _ => True) (fun _ => trivial)

theorem TotalPreorder.flip {α} {cmp : α → α → Ordering} (h : TotalPreorder cmp) :
    TotalPreorder (fun a b => cmp b a) :=
  ⟨fun a => h.refl a, fun a b => h.swap b a, fun a b c hab hbc => h.trans c b a hbc hab⟩

theorem natCmp_tp : TotalPreorder (fun a b : Nat => compare a b) := by
  refine ⟨fun a => Nat.compare_eq_eq.mpr rfl, fun a b => (Nat.compare_swap a b).symm, ?_⟩
  intro a b c
  simp only [Nat.compare_ne_gt]
  exact Nat.le_trans

theorem lexCmp_cons {α} (cmp : α → α → Ordering) (a b : α) (as bs : List α) :
    lexCmp cmp (a :: as) (b :: bs) = (cmp a b).then (lexCmp cmp as bs) := by
  rw [lexCmp]
  cases cmp a b <;> rfl

/-- The lexicographic comparison of sequences inherits the laws of the element comparison. -/
theorem lexCmp_tpo {α} {P : α → Prop} {cmp : α → α → Ordering} (h : TotalPreorderOn P cmp) :
    TotalPreorderOn (fun l : List α => ∀ x ∈ l, P x) (lexCmp cmp) := by
  refine ⟨?_, ?_, ?_⟩
  · intro l hl
    induction l with
    | nil => rfl
    | cons x xs ih =>
      have ⟨hx, hxs⟩ := List.forall_mem_cons.mp hl
      rw [lexCmp_cons, h.refl x hx, ih hxs]; rfl
  · intro a
    induction a with
    | nil => intro b _ _; cases b <;> rfl
    | cons x xs ih =>
      intro b ha hb
      cases b with
      | nil => rfl
      | cons y ys =>
        have ⟨hx, hxs⟩ := List.forall_mem_cons.mp ha
        have ⟨hy, hys⟩ := List.forall_mem_cons.mp hb
        rw [lexCmp_cons, lexCmp_cons, Ordering.swap_then, h.swap x y hx hy, ih ys hxs hys]
  · intro a
    induction a with
    | nil => intro b c _ _ _ _ _; cases c <;> nofun
    | cons x xs ih =>
      intro b c ha hb hc hab hbc
      cases b with
      | nil => exact absurd rfl hab
      | cons y ys =>
        cases c with
        | nil => exact absurd rfl hbc
        | cons z zs =>
          have ⟨hx, hxs⟩ := List.forall_mem_cons.mp ha
          have ⟨hy, hys⟩ := List.forall_mem_cons.mp hb
          have ⟨hz, hzs⟩ := List.forall_mem_cons.mp hc
          rw [lexCmp_cons] at hab hbc ⊢
          exact h.then_trans hx hy hz (ih ys zs hxs hys hzs) hab hbc

theorem lexCmp_tp {α} {cmp : α → α → Ordering} (h : TotalPreorder cmp) :
    TotalPreorder (lexCmp cmp) :=
  (lexCmp_tpo (h.on fun _ => True)).total fun _ _ _ => trivial

/-- Sequences that rank equal under two comparisons which together tell their elements apart
are equal. -/
theorem lexCmp_eq_imp_eq {α} {c1 c2 : α → α → Ordering} (a b : List α)
    (hc : ∀ x ∈ a, ∀ y ∈ b, c1 x y = .eq → c2 x y = .eq → x = y)
    (h1 : lexCmp c1 a b = .eq) (h2 : lexCmp c2 a b = .eq) : a = b := by
  induction a generalizing b with
  | nil => cases b with
    | nil => rfl
    | cons y ys => cases h1
  | cons x xs ih =>
    cases b with
    | nil => cases h1
    | cons y ys =>
      rw [lexCmp_cons, Ordering.then_eq_eq] at h1 h2
      rw [hc x List.mem_cons_self y List.mem_cons_self h1.1 h2.1,
        ih ys (fun x hx y hy => hc x (List.mem_cons_of_mem _ hx) y (List.mem_cons_of_mem _ hy))
          h1.2 h2.2]

theorem lexCmp_eq_length {α} {cmp : α → α → Ordering} (a b : List α)
    (h : lexCmp cmp a b = .eq) : a.length = b.length := by
  induction a generalizing b with
  | nil => cases b with
    | nil => rfl
    | cons y ys => cases h
  | cons x xs ih =>
    cases b with
    | nil => cases h
    | cons y ys =>
      rw [lexCmp_cons, Ordering.then_eq_eq] at h
      rw [List.length_cons, List.length_cons, ih ys h.2]

/-- `l` is ascending for `cmp`: no element is greater than a later one. -/
def Sorted {α} (cmp : α → α → Ordering) (l : List α) : Prop :=
  l.Pairwise (fun a b => cmp a b ≠ .gt)

/-- The elements of `l` that rank equal to `c`, in their order in `l`. -/
def classOf {α} (cmp : α → α → Ordering) (c : α) (l : List α) : List α :=
  l.filter (fun y => cmp c y = .eq)

theorem insertSorted_perm {α} (cmp : α → α → Ordering) (x : α) (l : List α) :
    (insertSorted cmp x l).Perm (x :: l) := by
  induction l with
  | nil => exact List.Perm.refl _
  | cons y ys ih =>
    simp only [insertSorted]
    split
    · exact ((List.Perm.cons y ih).trans (List.Perm.swap x y ys))
    · exact List.Perm.refl _

theorem stableSort_perm {α} (cmp : α → α → Ordering) (l : List α) :
    (stableSort cmp l).Perm l := by
  induction l with
  | nil => exact List.Perm.refl _
  | cons x xs ih =>
    exact (insertSorted_perm cmp x _).trans (List.Perm.cons x ih)

theorem insertSorted_sorted {α} {cmp : α → α → Ordering} (tp : TotalPreorder cmp) (x : α)
    (l : List α) (h : Sorted cmp l) : Sorted cmp (insertSorted cmp x l) := by
  induction l with
  | nil => exact List.pairwise_singleton _ _
  | cons y ys ih =>
    have ⟨hy, hys⟩ := List.pairwise_cons.mp h
    rw [insertSorted]
    split
    · next hgt =>
      refine List.pairwise_cons.mpr ⟨fun w hw => ?_, ih hys⟩
      rcases List.mem_cons.mp ((insertSorted_perm cmp x ys).mem_iff.mp hw) with rfl | hw'
      · rw [tp.swap w y, hgt]; decide
      · exact hy w hw'
    · next hle =>
      refine List.pairwise_cons.mpr ⟨fun w hw => ?_, h⟩
      rcases List.mem_cons.mp hw with rfl | hw
      · exact hle
      · exact tp.trans x y w hle (hy w hw)

theorem stableSort_sorted {α} {cmp : α → α → Ordering} (tp : TotalPreorder cmp) (l : List α) :
    Sorted cmp (stableSort cmp l) := by
  induction l with
  | nil => simp [stableSort, Sorted]
  | cons x xs ih => exact insertSorted_sorted tp x _ ih

theorem insertSorted_classOf {α} {cmp : α → α → Ordering} (tp : TotalPreorder cmp) (c x : α)
    (l : List α) : classOf cmp c (insertSorted cmp x l) = classOf cmp c (x :: l) := by
  induction l with
  | nil => rfl
  | cons y ys ih =>
    simp only [insertSorted]
    split
    · next hgt =>
      simp only [classOf, List.filter_cons] at ih ⊢
      rw [ih]
      by_cases hx : cmp c x = .eq
      · have hy : cmp c y ≠ .eq := by
          rw [tp.congr_left y hx, hgt]; decide
        simp [hx, hy]
      · simp [hx]
    · rfl

/-- Stability: the sort keeps, for every rank, the elements of that rank in their input order. -/
theorem stableSort_classOf {α} {cmp : α → α → Ordering} (tp : TotalPreorder cmp) (c : α)
    (l : List α) : classOf cmp c (stableSort cmp l) = classOf cmp c l := by
  induction l with
  | nil => rfl
  | cons x xs ih =>
    simp only [stableSort]
    rw [insertSorted_classOf tp]
    simp only [classOf, List.filter_cons] at ih ⊢
    rw [ih]

theorem Sorted.head_le {α} {cmp : α → α → Ordering} (tp : TotalPreorder cmp) {a b : α}
    {s : List α} (h : Sorted cmp (a :: s)) (hb : b ∈ a :: s) : cmp a b ≠ .gt := by
  rcases List.mem_cons.mp hb with rfl | hb
  · rw [tp.refl]; decide
  · exact (List.pairwise_cons.mp h).1 b hb

private theorem head_rank_eq {α} {cmp : α → α → Ordering} (tp : TotalPreorder cmp)
    {a b : α} {s1 s2 : List α} (h1 : Sorted cmp (a :: s1)) (h2 : Sorted cmp (b :: s2))
    (ha : a ∈ b :: s2) (hb : b ∈ a :: s1) : cmp a b = .eq :=
  tp.eq_of_le_of_ge (h1.head_le tp hb) (h2.head_le tp ha)

theorem mem_of_classOf_eq {α} {cmp : α → α → Ordering} (tp : TotalPreorder cmp) {a : α} {s1 s2 : List α}
    (h : classOf cmp a s1 = classOf cmp a s2) (ha : a ∈ s1) : a ∈ s2 := by
  have : a ∈ classOf cmp a s1 := List.mem_filter.mpr ⟨ha, decide_eq_true (tp.refl a)⟩
  rw [h] at this
  exact (List.mem_filter.mp this).1

/-- Two ascending lists with the same elements of every rank, in the same order, are equal. -/
theorem sorted_classOf_unique {α} {cmp : α → α → Ordering} (tp : TotalPreorder cmp)
    (s1 s2 : List α) (h1 : Sorted cmp s1) (h2 : Sorted cmp s2)
    (h : ∀ c, classOf cmp c s1 = classOf cmp c s2) : s1 = s2 := by
  induction s1 generalizing s2 with
  | nil =>
    cases s2 with
    | nil => rfl
    | cons b s2 => exact absurd (mem_of_classOf_eq tp (h b).symm List.mem_cons_self) List.not_mem_nil
  | cons a s1 ih =>
    cases s2 with
    | nil => exact absurd (mem_of_classOf_eq tp (h a) List.mem_cons_self) List.not_mem_nil
    | cons b s2 =>
      have hab := head_rank_eq tp h1 h2 (mem_of_classOf_eq tp (h a) List.mem_cons_self)
        (mem_of_classOf_eq tp (h b).symm List.mem_cons_self)
      have e := h a
      simp only [classOf, List.filter_cons, tp.refl, hab, decide_true, if_true] at e
      cases (List.cons.inj e).1
      congr 1
      apply ih s2 (List.Pairwise.of_cons h1) (List.Pairwise.of_cons h2)
      intro c
      have e := h c
      simp only [classOf, List.filter_cons] at e ⊢
      split at e
      · exact (List.cons.inj e).2
      · exact e

/-- The result of the stable sort is determined by the per-rank subsequences of the input: two
inputs in which, for every rank, the elements of that rank appear in the same order (in
particular the inputs are permutations of each other) are sorted to the same list. -/
theorem stableSort_unique {α} {cmp : α → α → Ordering} (tp : TotalPreorder cmp) (l1 l2 : List α)
    (h : ∀ c, classOf cmp c l1 = classOf cmp c l2) : stableSort cmp l1 = stableSort cmp l2 := by
  apply sorted_classOf_unique tp _ _ (stableSort_sorted tp l1) (stableSort_sorted tp l2)
  intro c
  rw [stableSort_classOf tp, stableSort_classOf tp, h c]

/-- Any list that is ascending and keeps every rank's elements in input order (i.e. the result
of any stable sorting algorithm) is the list computed by `stableSort`. -/
theorem stableSort_spec_unique {α} {cmp : α → α → Ordering} (tp : TotalPreorder cmp)
    (l s : List α) (hs : Sorted cmp s) (h : ∀ c, classOf cmp c s = classOf cmp c l) :
    s = stableSort cmp l := by
  apply sorted_classOf_unique tp _ _ hs (stableSort_sorted tp l)
  intro c
  rw [stableSort_classOf tp, h c]

/-- Ascending lists that are permutations of each other are equal when rank-equal elements of
the list are equal. -/
theorem sorted_perm_unique {α} {cmp : α → α → Ordering} (tp : TotalPreorder cmp)
    (s1 s2 : List α) (h1 : Sorted cmp s1) (h2 : Sorted cmp s2) (hp : s1.Perm s2)
    (anti : ∀ a ∈ s1, ∀ b ∈ s1, cmp a b = .eq → a = b) : s1 = s2 := by
  induction s1 generalizing s2 with
  | nil => exact (List.Perm.nil_eq hp)
  | cons a s1 ih =>
    cases s2 with
    | nil => exact absurd hp.length_eq (by simp)
    | cons b s2 =>
      have ha : a ∈ b :: s2 := hp.mem_iff.mp (by simp)
      have hb : b ∈ a :: s1 := hp.mem_iff.mpr (by simp)
      have hab := head_rank_eq tp h1 h2 ha hb
      have hab' : a = b := anti a (by simp) b hb hab
      subst hab'
      congr 1
      exact ih s2 (List.Pairwise.of_cons h1) (List.Pairwise.of_cons h2) (List.Perm.cons_inv hp)
        (fun x hx y hy => anti x (by simp [hx]) y (by simp [hy]))

/-- When no two distinct elements of the input rank equal, the sorted list does not depend on
the input order. -/
theorem order_independent {α} {cmp : α → α → Ordering} (tp : TotalPreorder cmp) (l1 l2 : List α)
    (hp : l1.Perm l2) (anti : ∀ a ∈ l1, ∀ b ∈ l1, cmp a b = .eq → a = b) :
    stableSort cmp l1 = stableSort cmp l2 := by
  apply sorted_perm_unique tp _ _ (stableSort_sorted tp l1) (stableSort_sorted tp l2)
  · exact (stableSort_perm cmp l1).trans (hp.trans (stableSort_perm cmp l2).symm)
  · intro a ha b hb
    exact anti a ((stableSort_perm cmp l1).mem_iff.mp ha) b ((stableSort_perm cmp l1).mem_iff.mp hb)

theorem charCmp_tp : TotalPreorder charCmp := natCmp_tp.pullback Char.toNat

theorem charCmp_eq {a b : Char} (h : charCmp a b = .eq) : a = b :=
  Char.toNat_inj.mp (Nat.compare_eq_eq.mp h)

theorem strCmp_tp : TotalPreorder strCmp := lexCmp_tp charCmp_tp

/-- `str::cmp` returns `Equal` only on equal strings. -/
theorem strCmp_eq {a b : List Char} (h : strCmp a b = .eq) : a = b :=
  lexCmp_eq_imp_eq a b (fun _ _ _ _ e _ => charCmp_eq e) h h

theorem strCmp_cons_lt {c d : Char} (cs ds : List Char) (h : c.toNat < d.toNat) :
    strCmp (c :: cs) (d :: ds) = .lt := by
  rw [strCmp, lexCmp_cons, charCmp, Nat.compare_eq_lt.mpr h]; rfl

theorem strCmp_cons_gt {c d : Char} (cs ds : List Char) (h : d.toNat < c.toNat) :
    strCmp (c :: cs) (d :: ds) = .gt := by
  rw [strCmp, lexCmp_cons, charCmp, Nat.compare_eq_gt.mpr h]; rfl

/-- A string that starts with a character other than an ASCII digit compares with every string
that starts with an ASCII digit in the same way (48 is `'0'.toNat`, the least digit). -/
theorem strCmp_text_digit {c d : Char} (cs ds : List Char) (hc : isAsciiDigit c = false)
    (hd : isAsciiDigit d = true) :
    strCmp (c :: cs) (d :: ds) = (if c.toNat < 48 then .lt else .gt) ∧
    strCmp (d :: ds) (c :: cs) = (if c.toNat < 48 then .gt else .lt) := by
  simp only [isAsciiDigit, Bool.and_eq_false_iff, Bool.and_eq_true, decide_eq_false_iff_not,
    decide_eq_true_eq] at hc hd
  split
  · exact ⟨strCmp_cons_lt _ _ (by omega), strCmp_cons_gt _ _ (by omega)⟩
  · exact ⟨strCmp_cons_gt _ _ (by omega), strCmp_cons_lt _ _ (by omega)⟩

theorem parseUsize_digit {x : Char} (ds : List Char) (hx : isAsciiDigit x = true) :
    parseUsize (x :: ds) =
      match digitsVal 0 (x :: ds) with
      | some v => if v < usizeBound then some v else none
      | none => none := by
  have hne : x ≠ '+' := by
    intro e; subst e; simp [isAsciiDigit] at hx
  unfold parseUsize
  split
  · next rest heq => cases heq; exact absurd rfl hne
  · rfl

theorem parseUsize_eq_some {x : Char} {ds : List Char} {v : Nat} (hx : isAsciiDigit x = true)
    (h : parseUsize (x :: ds) = some v) : digitsVal 0 (x :: ds) = some v := by
  rw [parseUsize_digit ds hx] at h
  split at h
  · next hv =>
    split at h
    · cases h; exact hv
    · cases h
  · cases h

def leadingZeros (s : List Char) : Nat := (s.takeWhile (· = '0')).length

/-- What the chunk iterator guarantees about a chunk, as far as the comparison needs it: a text
chunk starts with a character that is not an ASCII digit, the source of a numeric chunk starts
with an ASCII digit. -/
def ChunkWF : Chunk → Prop
  | .underscore => True
  | .str s => ∃ c cs, s = c :: cs ∧ isAsciiDigit c = false
  | .number _ _ src => ∃ c cs, src = c :: cs ∧ isAsciiDigit c = true

/-- What the iterator guarantees about a numeric chunk beyond `ChunkWF`: value and zero count are
those of the source. -/
def ChunkExact : Chunk → Prop
  | .number v z src => digitsVal 0 src = some v ∧ z = leadingZeros src
  | _ => True

theorem nextChunk_spec {s rest : List Char} {c : Chunk} (h : nextChunk s = some (c, rest)) :
    ChunkWF c ∧ ChunkExact c ∧ c.source ++ rest = s := by
  cases s with
  | nil => cases h
  | cons x xs =>
    simp only [nextChunk] at h
    split at h
    · next hx => cases h; exact ⟨trivial, trivial, by rw [hx]; rfl⟩
    · split at h
      · next hd =>
        split at h
        · cases h
        · next v hv =>
          cases h
          exact ⟨⟨x, _, rfl, hd⟩, ⟨parseUsize_eq_some hd hv, rfl⟩,
            congrArg (x :: ·) List.takeWhile_append_dropWhile⟩
      · next hd =>
        cases h
        exact ⟨⟨x, _, rfl, by simpa using hd⟩, trivial,
          congrArg (x :: ·) List.takeWhile_append_dropWhile⟩

theorem nextChunk_wf {s rest : List Char} {c : Chunk} (h : nextChunk s = some (c, rest)) :
    ChunkWF c := (nextChunk_spec h).1

theorem nextChunk_exact {s rest : List Char} {c : Chunk} (h : nextChunk s = some (c, rest)) :
    ChunkExact c := (nextChunk_spec h).2.1

theorem nextChunk_source {s rest : List Char} {c : Chunk} (h : nextChunk s = some (c, rest)) :
    c.source ++ rest = s := (nextChunk_spec h).2.2

theorem nextChunk_length {s rest : List Char} {c : Chunk} (h : nextChunk s = some (c, rest)) :
    rest.length < s.length := by
  have hs := congrArg List.length (nextChunk_source h)
  have hw := nextChunk_wf h
  rw [List.length_append] at hs
  cases c with
  | underscore => simp only [Chunk.source, List.length_cons] at hs; omega
  | str t => obtain ⟨_, _, rfl, _⟩ := hw; simp only [Chunk.source, List.length_cons] at hs; omega
  | number v z src =>
    obtain ⟨_, _, rfl, _⟩ := hw; simp only [Chunk.source, List.length_cons] at hs; omega

theorem chunksFuel_forall {P : Chunk → Prop}
    (hP : ∀ {s c rest}, nextChunk s = some (c, rest) → P c) (n : Nat) (s : List Char) :
    ∀ c ∈ chunksFuel n s, P c := by
  induction n generalizing s with
  | zero => exact fun _ hc => absurd hc List.not_mem_nil
  | succ n ih =>
    rw [chunksFuel]
    split
    · exact fun _ hc => absurd hc List.not_mem_nil
    · next c rest h => exact List.forall_mem_cons.mpr ⟨hP h, ih rest⟩

theorem chunks_wf (s : List Char) : ∀ c ∈ chunks s, ChunkWF c := chunksFuel_forall nextChunk_wf _ s

theorem chunks_exact (s : List Char) : ∀ c ∈ chunks s, ChunkExact c :=
  chunksFuel_forall nextChunk_exact _ s

theorem chunksFuel_indep (n m : Nat) (s : List Char) (hn : s.length ≤ n) (hm : s.length ≤ m) :
    chunksFuel n s = chunksFuel m s := by
  induction n generalizing s m with
  | zero =>
    cases List.eq_nil_of_length_eq_zero (Nat.le_zero.mp hn)
    cases m <;> rfl
  | succ n ih =>
    cases m with
    | zero => cases List.eq_nil_of_length_eq_zero (Nat.le_zero.mp hm); rfl
    | succ m =>
      rw [chunksFuel, chunksFuel]
      split
      · rfl
      · next c rest hc =>
        have := nextChunk_length hc
        rw [ih m rest (by omega) (by omega)]

/-- Each call of `next` consumes at least one character, so `s.length` calls are enough. -/
theorem chunksFuel_enough (n : Nat) (s : List Char) (h : s.length ≤ n) :
    chunksFuel n s = chunks s :=
  chunksFuel_indep n s.length s h (Nat.le_refl _)

/-- The primary comparison of two chunks in `version_sort` (everything but leading zeros). -/
def chunkCmp : Chunk → Chunk → Ordering
  | .underscore, .underscore => .eq
  | .underscore, _ => .lt
  | _, .underscore => .gt
  | .str ca, .str cb | .str ca, .number _ _ cb | .number _ _ ca, .str cb => strCmp ca cb
  | .number va _ _, .number vb _ _ => compare va vb

def zerosOf : Chunk → Nat
  | .number _ z _ => z
  | _ => 0

/-- The secondary comparison: more leading zeros sorts first. -/
def zerosCmp (a b : Chunk) : Ordering := compare (zerosOf b) (zerosOf a)

def mlzOrd : MoreLeadingZeros → Ordering
  | .equal => .eq
  | .left => .lt
  | .right => .gt

/-- How one pair of numeric chunks updates `more_leading_zeros`: the flag keeps the first
difference. -/
def mlzStep : MoreLeadingZeros → Ordering → MoreLeadingZeros
  | .equal, .lt => .left
  | .equal, .gt => .right
  | m, _ => m

theorem mlzStep_eq (m : MoreLeadingZeros) : mlzStep m .eq = m := by cases m <;> rfl

theorem mlzOrd_step (m : MoreLeadingZeros) (o : Ordering) :
    mlzOrd (mlzStep m o) = (mlzOrd m).then o := by
  cases m <;> cases o <;> rfl

/-- Sort key of a well-formed chunk: `_` first, then text and numbers as strings, all numbers at
`"0"`, and numbers among themselves by value. -/
def chunkKey : Chunk → List Char × Nat
  | .underscore => ([], 0)
  | .str s => (s, 0)
  | .number v _ _ => (['0'], v)

def keyCmp (a b : List Char × Nat) : Ordering := (strCmp a.1 b.1).then (compare a.2 b.2)

theorem keyCmp_tp : TotalPreorder keyCmp :=
  (strCmp_tp.pullback Prod.fst).then (natCmp_tp.pullback Prod.snd)

theorem chunkCmp_eq_keyCmp (a b : Chunk) (ha : ChunkWF a) (hb : ChunkWF b) :
    chunkCmp a b = keyCmp (chunkKey a) (chunkKey b) := by
  cases a with
  | underscore =>
    cases b with
    | underscore => rfl
    | str t => obtain ⟨d, ds, rfl, hd⟩ := hb; rfl
    | number v z src => rfl
  | str s =>
    obtain ⟨c, cs, rfl, hc⟩ := ha
    cases b with
    | underscore => rfl
    | str t => exact Ordering.then_eq.symm
    | number v z src =>
      obtain ⟨d, ds, rfl, hd⟩ := hb
      simp only [chunkCmp, keyCmp, chunkKey, (strCmp_text_digit cs _ hc hd).1,
        (strCmp_text_digit cs [] hc (d := '0') rfl).1]
      split <;> rfl
  | number v z src =>
    cases b with
    | underscore => rfl
    | str t =>
      obtain ⟨c, cs, rfl, hc⟩ := ha
      obtain ⟨d, ds, rfl, hd⟩ := hb
      simp only [chunkCmp, keyCmp, chunkKey, (strCmp_text_digit ds _ hd hc).2,
        (strCmp_text_digit ds [] hd (d := '0') rfl).2]
      split <;> rfl
    | number w y src' => rfl

theorem chunkCmp_tpo : TotalPreorderOn ChunkWF chunkCmp :=
  ((keyCmp_tp.pullback chunkKey).on ChunkWF).congr chunkCmp_eq_keyCmp

theorem zerosCmp_tp : TotalPreorder zerosCmp := (natCmp_tp.flip).pullback zerosOf

/-- A text chunk and a numeric chunk never rank equal. -/
theorem strCmp_ne_eq_of_wf {s src : List Char}
    (hs : ∃ c cs, s = c :: cs ∧ isAsciiDigit c = false)
    (hn : ∃ c cs, src = c :: cs ∧ isAsciiDigit c = true) :
    strCmp s src ≠ .eq ∧ strCmp src s ≠ .eq := by
  obtain ⟨c, cs, rfl, hc⟩ := hs
  obtain ⟨d, ds, rfl, hd⟩ := hn
  rw [(strCmp_text_digit cs ds hc hd).1, (strCmp_text_digit cs ds hc hd).2]
  split <;> exact ⟨nofun, nofun⟩

/-- The three-way choice of `version_sort` on two numeric chunks of the same value. -/
theorem mlz_cascade {β} (f : MoreLeadingZeros → β) (m : MoreLeadingZeros) (z y : Nat) :
    (if z = y then f m else if m = .equal ∧ z > y then f .left
      else if m = .equal ∧ z < y then f .right else f m) = f (mlzStep m (compare y z)) := by
  rcases Nat.lt_trichotomy y z with h | h | h
  · rw [Nat.compare_eq_lt.mpr h, if_neg (by omega)]
    cases m <;> simp [mlzStep, h]
  · rw [Nat.compare_eq_eq.mpr h, if_pos h.symm, mlzStep_eq]
  · rw [Nat.compare_eq_gt.mpr h, if_neg (by omega)]
    cases m <;> simp [mlzStep, h, Nat.lt_asymm h]

/-- One round of `version_sort`'s loop: the chunks are compared, and the flag
`more_leading_zeros` takes up the comparison of their leading-zero counts. -/
theorem cmpChunks_cons (m : MoreLeadingZeros) (a b : Chunk) (as bs : List Chunk)
    (wa : ChunkWF a) (wb : ChunkWF b) :
    cmpChunks m (a :: as) (b :: bs) =
      (chunkCmp a b).then (cmpChunks (mlzStep m (zerosCmp a b)) as bs) := by
  cases a with
  | underscore =>
    cases b with
    | underscore => exact (congrArg (cmpChunks · as bs) (mlzStep_eq m)).symm
    | str t => rfl
    | number v z src => rfl
  | str s =>
    cases b with
    | underscore => rfl
    | str t =>
      simp only [cmpChunks, chunkCmp, zerosCmp, zerosOf]
      rw [show compare 0 0 = Ordering.eq from rfl, mlzStep_eq]
      cases strCmp s t <;> rfl
    | number v z src =>
      have := (strCmp_ne_eq_of_wf wa wb).1
      simp only [cmpChunks, chunkCmp]
      cases h : strCmp s src
      · rfl
      · exact absurd h this
      · rfl
  | number v z src =>
    cases b with
    | underscore => rfl
    | str t =>
      have := (strCmp_ne_eq_of_wf wb wa).2
      simp only [cmpChunks, chunkCmp]
      cases h : strCmp src t
      · rfl
      · exact absurd h this
      · rfl
    | number w y src' =>
      simp only [cmpChunks, chunkCmp, zerosCmp, zerosOf, mlz_cascade (cmpChunks · as bs)]
      cases compare v w <;> rfl

/-- `version_sort`'s loop is the lexicographic product of the primary comparison of the chunk
sequences and the comparison of their leading-zero counts (the flag `more_leading_zeros`
remembers the first difference of the latter). -/
theorem cmpChunks_eq (m : MoreLeadingZeros) (as bs : List Chunk)
    (ha : ∀ c ∈ as, ChunkWF c) (hb : ∀ c ∈ bs, ChunkWF c) :
    cmpChunks m as bs =
      (lexCmp chunkCmp as bs).then ((mlzOrd m).then (lexCmp zerosCmp as bs)) := by
  induction as generalizing bs m with
  | nil =>
    cases bs with
    | nil => cases m <;> rfl
    | cons b bs => rfl
  | cons a as ih =>
    cases bs with
    | nil => rfl
    | cons b bs =>
      have ⟨wa, was⟩ := List.forall_mem_cons.mp ha
      have ⟨wb, wbs⟩ := List.forall_mem_cons.mp hb
      simp only [cmpChunks_cons m a b as bs wa wb, ih _ bs was wbs, mlzOrd_step, lexCmp_cons,
        Ordering.then_assoc]

def seqCmp (as bs : List Chunk) : Ordering :=
  (lexCmp chunkCmp as bs).then (lexCmp zerosCmp as bs)

theorem seqCmp_tpo : TotalPreorderOn (fun l : List Chunk => ∀ c ∈ l, ChunkWF c) seqCmp :=
  (lexCmp_tpo chunkCmp_tpo).then ((lexCmp_tp zerosCmp_tp).on _)

theorem versionSort_eq (a b : List Char) : versionSort a b = seqCmp (chunks a) (chunks b) := by
  rw [versionSort, cmpChunks_eq _ _ _ (chunks_wf a) (chunks_wf b)]; rfl

theorem versionSort_tp : TotalPreorder versionSort :=
  ((seqCmp_tpo.pullback chunks (fun _ => True) (fun a _ => chunks_wf a)).total
    (fun _ => trivial)).of_eq versionSort_eq

theorem optCmp_tp {α} {cmp : α → α → Ordering} (h : TotalPreorder cmp) : TotalPreorder (optCmp cmp) := by
  refine ⟨?_, ?_, ?_⟩
  · intro a; cases a
    · rfl
    · exact h.refl _
  · intro a b
    cases a <;> cases b
    · rfl
    · rfl
    · rfl
    · exact h.swap _ _
  · intro a b c
    cases a <;> cases b <;> cases c <;> simp [optCmp]
    exact h.trans _ _ _

theorem boolCmp_then (p q : Bool) (x : Ordering) :
    (if p && !q then .gt else if !p && q then .lt else x) = (compare p.toNat q.toNat).then x := by
  cases p <;> cases q <;> rfl

theorem legacyIdentCmp_eq (a b : List Char) :
    legacyIdentCmp a b =
      (compare (startsUpper a).toNat (startsUpper b).toNat).then
        ((compare (isUpperSnakeCase a).toNat (isUpperSnakeCase b).toNat).then (strCmp a b)) := by
  rw [legacyIdentCmp, boolCmp_then, boolCmp_then]

theorem legacyIdentCmp_tp : TotalPreorder legacyIdentCmp :=
  ((natCmp_tp.pullback (fun s => (startsUpper s).toNat)).then
    ((natCmp_tp.pullback (fun s => (isUpperSnakeCase s).toNat)).then strCmp_tp)).of_eq
    legacyIdentCmp_eq

theorem legacyIdentCmp_eq_imp {a b : List Char} (h : legacyIdentCmp a b = .eq) : a = b := by
  rw [legacyIdentCmp_eq, Ordering.then_eq_eq, Ordering.then_eq_eq] at h
  exact strCmp_eq h.2.2

theorem identCmp_tp (v : Bool) : TotalPreorder (identCmp v) := by
  cases v
  · exact legacyIdentCmp_tp
  · exact versionSort_tp.pullback trimRaw

def aliasStrCmp (v2024 : Bool) (a b : List Char) : Ordering :=
  if v2024 then versionSort (trimRaw a) (trimRaw b) else strCmp a b

theorem aliasStrCmp_tp (v : Bool) : TotalPreorder (aliasStrCmp v) := by
  cases v
  · exact strCmp_tp
  · exact versionSort_tp.pullback trimRaw

theorem identAliasCmp_eq (v : Bool) (a b : Option (List Char)) :
    RF.Sort.identAliasCmp v a b = optCmp (aliasStrCmp v) a b := by
  cases a <;> cases b <;> rfl

theorem kwAliasCmp_eq (v : Bool) (a b : Option (List Char)) :
    RF.Sort.kwAliasCmp v a b = optCmp (aliasStrCmp v) a b := by
  cases a <;> cases b <;> cases v <;> rfl

open RF.Imports

def segRank : Seg → Nat
  | .slf _ => 0
  | .super _ => 1
  | .crate _ => 2
  | .ident _ _ => 3
  | .glob => 4
  | .list _ => 5

def segName : Seg → List Char
  | .ident n _ => n
  | _ => []

def segAlias (keep : Bool) : Seg → Option (List Char)
  | .ident _ a | .slf a | .super a | .crate a => if keep then a else none
  | _ => none

def segTrees : Seg → List Tree
  | .list ts => ts
  | _ => []

private theorem eq_then' (o : Ordering) : Ordering.eq.then o = o := rfl

/-- `UseSegment::cmp` as a lexicographic product: kind, then name, then alias, then nested list. -/
theorem segCmpCore_eq (v keep : Bool) (a b : Seg) :
    segCmpCore v keep a b =
      (compare (segRank a) (segRank b)).then
        ((identCmp v (segName a) (segName b)).then
          ((optCmp (aliasStrCmp v) (segAlias keep a) (segAlias keep b)).then
            (treesCmp v (segTrees a) (segTrees b)))) := by
  have hnil : identCmp v [] [] = .eq := (identCmp_tp v).refl []
  have h00 : ∀ n : Nat, compare n n = .eq := fun n => Nat.compare_eq_eq.mpr rfl
  -- segments of different kinds are told apart by the kind on both sides
  cases a <;> cases b <;> try rfl
  all_goals
    simp only [segCmpCore, segRank, segName, segAlias, segTrees, hnil, h00, treesCmp,
      kwAliasCmp_eq, identAliasCmp_eq, Ordering.then_eq, eq_then']
  case ident.ident =>
    cases keep <;> cases identCmp v _ _ <;> rfl
  all_goals cases keep <;> rfl

theorem segCmpCore_ne_of_rank (v keep : Bool) {a b : Seg} (h : segRank a ≠ segRank b) :
    segCmpCore v keep a b ≠ .eq := by
  rw [segCmpCore_eq, Ne, Ordering.then_eq_eq, Nat.compare_eq_eq]
  exact fun c => h c.1

/-- With aliases removed, `keep = false` computes the literal `a.remove_alias().cmp(&b.remove_alias())`. -/
theorem segCmpCore_false (v : Bool) (a b : Seg) :
    segCmpCore v false a b = segCmp v (removeAlias a) (removeAlias b) := by
  cases a <;> cases b <;> rfl

/-- Where two segments differ in more than their aliases, the aliases are not looked at. -/
theorem segCmpCore_of_false_ne (v : Bool) (a b : Seg) (h : segCmpCore v false a b ≠ .eq) :
    segCmpCore v true a b = segCmpCore v false a b := by
  cases a <;> cases b <;> try rfl
  case ident.ident n _ m _ =>
    by_cases he : identCmp v n m = .eq
    · exact absurd (if_neg (not_not_intro he)) h
    · exact (if_pos he).trans (if_pos he).symm
  -- `self`, `super`, `crate`, `*`: without aliases the two rank equal
  all_goals exact absurd rfl h

/-- The alias-insensitive "hack" of `UseTree::cmp` makes the loop compare the segments with
their aliases removed: the value returned is the one of the alias-free comparison. -/
theorem pathCmp_cons (v : Bool) (a b : Seg) (as bs : List Seg) :
    pathCmp v (a :: as) (b :: bs) = (segCmpCore v false a b).then (pathCmp v as bs) := by
  rw [pathCmp]
  by_cases h : segCmpCore v false a b = .eq
  · rw [if_neg (fun c => c.2 h), h]; rfl
  · rw [if_pos ⟨segCmpCore_of_false_ne v a b h ▸ h, h⟩, segCmpCore_of_false_ne v a b h]
    cases e : segCmpCore v false a b
    · rfl
    · exact absurd e h
    · rfl

theorem treesCmp_cons (v : Bool) (a b : Tree) (as bs : List Tree) :
    treesCmp v (a :: as) (b :: bs) = (treeCmp v a b).then (treesCmp v as bs) := by
  rw [treesCmp]
  cases treeCmp v a b <;> rfl

theorem eq_lexCmp {α} {cmp : α → α → Ordering} {f : List α → List α → Ordering}
    (h1 : f [] [] = .eq) (h2 : ∀ b bs, f [] (b :: bs) = .lt) (h3 : ∀ a as, f (a :: as) [] = .gt)
    (h4 : ∀ a b as bs, f (a :: as) (b :: bs) = (cmp a b).then (f as bs)) (p q : List α) :
    f p q = lexCmp cmp p q := by
  induction p generalizing q with
  | nil => cases q with
    | nil => exact h1
    | cons b bs => exact h2 b bs
  | cons a as ih => cases q with
    | nil => exact h3 a as
    | cons b bs => rw [h4, lexCmp_cons, ih]

theorem pathCmp_eq_lex (v : Bool) (p q : List Seg) :
    pathCmp v p q = lexCmp (segCmpCore v false) p q :=
  eq_lexCmp rfl (fun _ _ => rfl) (fun _ _ => rfl) (pathCmp_cons v) p q

theorem treesCmp_eq_lex (v : Bool) (p q : List Tree) :
    treesCmp v p q = lexCmp (treeCmp v) p q :=
  eq_lexCmp rfl (fun _ _ => rfl) (fun _ _ => rfl) (treesCmp_cons v) p q

def Tree.path : Tree → List Seg
  | .mk p => p

theorem treeCmp_eq_lex (v : Bool) (a b : Tree) :
    treeCmp v a b = lexCmp (segCmpCore v false) (Tree.path a) (Tree.path b) := by
  cases a; cases b; exact pathCmp_eq_lex v _ _

/-- `UseSegment::cmp` inherits the laws from `UseTree::cmp` on the trees nested in the segments. -/
theorem segCmpCore_tpo_of (v keep : Bool) {Q : Tree → Prop} (ih : TotalPreorderOn Q (treeCmp v)) :
    TotalPreorderOn (fun s : Seg => ∀ t ∈ segTrees s, Q t) (segCmpCore v keep) :=
  (((natCmp_tp.pullback segRank).on _).then
    ((((identCmp_tp v).pullback segName).on _).then
      (((((optCmp_tp (aliasStrCmp_tp v)).pullback (segAlias keep)).on _)).then
        (((lexCmp_tpo ih).congr fun a b _ _ => treesCmp_eq_lex v a b).pullback segTrees _
          fun _ h => h)))).congr
    fun a b _ _ => segCmpCore_eq v keep a b

/-- Induction on the size of the trees: the segments of a tree nest smaller trees only. -/
theorem treeCmp_tpo (v : Bool) (n : Nat) :
    TotalPreorderOn (fun t : Tree => sizeOf t < n) (treeCmp v) := by
  induction n with
  | zero => exact ⟨fun _ h => absurd h (Nat.not_lt_zero _), fun _ _ h => absurd h (Nat.not_lt_zero _),
      fun _ _ _ h => absurd h (Nat.not_lt_zero _)⟩
  | succ n ih =>
    refine ((lexCmp_tpo (segCmpCore_tpo_of v false ih)).pullback Tree.path _ ?_).congr
      fun a b _ _ => treeCmp_eq_lex v a b
    intro t ht s hs t' ht'
    cases t with
    | mk p =>
      have h1 := List.sizeOf_lt_of_mem (show s ∈ p from hs)
      simp only [Tree.mk.sizeOf_spec] at ht
      cases s <;> simp only [segTrees, List.not_mem_nil] at ht'
      have h2 := List.sizeOf_lt_of_mem ht'
      simp only [Seg.list.sizeOf_spec] at h1
      omega

/-- `UseTree::cmp` is a total preorder, for both style-edition families. -/
theorem treeCmp_tp (v : Bool) : TotalPreorder (treeCmp v) :=
  ⟨fun a => (treeCmp_tpo v (sizeOf a + 1)).refl a (by omega),
   fun a b => (treeCmp_tpo v (sizeOf a + sizeOf b + 1)).swap a b (by omega) (by omega),
   fun a b c => (treeCmp_tpo v (sizeOf a + sizeOf b + sizeOf c + 1)).trans a b c
     (by omega) (by omega) (by omega)⟩

theorem segCmpCore_tp (v keep : Bool) : TotalPreorder (segCmpCore v keep) :=
  (segCmpCore_tpo_of v keep ((treeCmp_tp v).on fun _ => True)).total fun _ _ _ => trivial

open RF.Reorder

theorem nameCmp_tp (v : Bool) : TotalPreorder (nameCmp v) := by
  cases v
  · exact strCmp_tp
  · exact versionSort_tp

theorem modCmp_tp (v : Bool) : TotalPreorder (modCmp v) := (nameCmp_tp v).pullback Item.name

private theorem ite_ne_then (x y : Ordering) : (if x ≠ .eq then x else y) = x.then y := by
  cases x <;> rfl

theorem externCmp_eq (v : Bool) (a b : Item) :
    externCmp v a b =
      (nameCmp v a.name b.name).then (optCmp (nameCmp v) a.rename b.rename) := by
  obtain ⟨ka, na, ra⟩ := a
  obtain ⟨kb, nb, rb⟩ := b
  cases ra <;> cases rb <;> exact ite_ne_then _ _

theorem externCmp_tp (v : Bool) : TotalPreorder (externCmp v) :=
  (((nameCmp_tp v).pullback Item.name).then
    ((optCmp_tp (nameCmp_tp v)).pullback Item.rename)).of_eq (externCmp_eq v)

/-- The comparison `compare_items` performs on two items of kind `k`. -/
def kindCmp (v : Bool) : ItemKind → Item → Item → Ordering
  | .mod => modCmp v
  | .externCrate => externCmp v

theorem kindCmp_tp (v : Bool) (k : ItemKind) : TotalPreorder (kindCmp v k) := by
  cases k
  · exact modCmp_tp v
  · exact externCmp_tp v

theorem compareItems_same (v : Bool) (a b : Item) (h : a.kind = b.kind) :
    compareItems v a b = some (kindCmp v a.kind a b) := by
  obtain ⟨ka, na, ra⟩ := a
  obtain ⟨kb, nb, rb⟩ := b
  cases ka <;> cases kb
  · rfl
  · cases h
  · cases h
  · rfl

theorem compareItems_none_iff (v : Bool) (a b : Item) :
    compareItems v a b = none ↔ a.kind ≠ b.kind := by
  obtain ⟨ka, na, ra⟩ := a
  obtain ⟨kb, nb, rb⟩ := b
  cases ka <;> cases kb <;> simp [compareItems]

/-- Value of a digit string read with accumulator `acc` (no digit check); 48 is `'0'.toNat`. -/
def dval (acc : Nat) (s : List Char) : Nat := s.foldl (fun a c => a * 10 + (c.toNat - 48)) acc

theorem dval_nil (acc : Nat) : dval acc [] = acc := rfl
theorem dval_cons (acc : Nat) (c : Char) (cs : List Char) :
    dval acc (c :: cs) = dval (acc * 10 + (c.toNat - 48)) cs := by
  simp only [dval, List.foldl_cons]

theorem dval_append (acc : Nat) (s t : List Char) : dval acc (s ++ t) = dval (dval acc s) t :=
  List.foldl_append

theorem digitsVal_some {acc v : Nat} {s : List Char} (h : digitsVal acc s = some v) :
    (∀ c ∈ s, isAsciiDigit c = true) ∧ dval acc s = v := by
  induction s generalizing acc with
  | nil => exact ⟨fun _ hc => absurd hc List.not_mem_nil, Option.some.inj h⟩
  | cons c cs ih =>
    simp only [digitsVal] at h
    split at h
    · next hc => exact ⟨List.forall_mem_cons.mpr ⟨hc, (ih h).1⟩, (ih h).2⟩
    · cases h

theorem digit_le {c : Char} (h : isAsciiDigit c = true) : c.toNat - 48 ≤ 9 ∧ 48 ≤ c.toNat := by
  simp only [isAsciiDigit, Bool.and_eq_true, decide_eq_true_eq] at h
  omega

theorem digit_inj {c d : Char} (hc : isAsciiDigit c = true) (hd : isAsciiDigit d = true)
    (h : c.toNat - 48 = d.toNat - 48) : c = d := by
  have := digit_le hc
  have := digit_le hd
  exact Char.toNat_inj.mp (by omega)

theorem base10_split {a b x y : Nat} (hx : x ≤ 9) (hy : y ≤ 9) (h : a * 10 + x = b * 10 + y) :
    a = b ∧ x = y := by omega

/-- Positional notation: digit strings of the same length, read from two accumulators to the
same value, are equal, and so are the accumulators. -/
theorem dval_inj_len {acc acc' : Nat} (s t : List Char) (hs : ∀ c ∈ s, isAsciiDigit c = true)
    (ht : ∀ c ∈ t, isAsciiDigit c = true) (hl : s.length = t.length)
    (hv : dval acc s = dval acc' t) : acc = acc' ∧ s = t := by
  induction s generalizing t acc acc' with
  | nil => cases t with
    | nil => exact ⟨hv, rfl⟩
    | cons d ds => cases hl
  | cons c cs ih => cases t with
    | nil => cases hl
    | cons d ds =>
      have ⟨hc, hcs⟩ := List.forall_mem_cons.mp hs
      have ⟨hd, hds⟩ := List.forall_mem_cons.mp ht
      rw [dval_cons, dval_cons] at hv
      have ⟨e, ecs⟩ := ih ds hcs hds (Nat.succ.inj hl) hv
      have ⟨e1, e2⟩ := base10_split (digit_le hc).1 (digit_le hd).1 e
      exact ⟨e1, by rw [digit_inj hc hd e2, ecs]⟩

theorem dval_eq_zero {acc : Nat} (s : List Char) (hs : ∀ c ∈ s, isAsciiDigit c = true)
    (h : dval acc s = 0) : acc = 0 ∧ ∀ c ∈ s, c = '0' := by
  induction s generalizing acc with
  | nil => exact ⟨h, fun _ hc => absurd hc List.not_mem_nil⟩
  | cons c cs ih =>
    have ⟨hc, hcs⟩ := List.forall_mem_cons.mp hs
    rw [dval_cons] at h
    have ⟨e, ecs⟩ := ih hcs h
    have ⟨e1, e2⟩ := Nat.add_eq_zero_iff.mp e
    exact ⟨by omega, List.forall_mem_cons.mpr ⟨digit_inj hc rfl e2, ecs⟩⟩

theorem leadingZeros_zeros_append (z s : List Char) (hz : ∀ c ∈ z, c = '0') :
    leadingZeros (z ++ s) = z.length + leadingZeros s := by
  induction z with
  | nil => rw [List.nil_append, List.length_nil, Nat.zero_add]
  | cons c cs ih =>
    have ⟨hc, hcs⟩ := List.forall_mem_cons.mp hz
    rw [hc, List.length_cons, Nat.add_right_comm, ← ih hcs]
    rfl

private theorem dval_inj_le (s t : List Char) (hs : ∀ x ∈ s, isAsciiDigit x = true)
    (ht : ∀ x ∈ t, isAsciiDigit x = true) (hl : s.length ≤ t.length)
    (hz : leadingZeros s = leadingZeros t) (hv : dval 0 s = dval 0 t) : s = t := by
  obtain ⟨z, r, rfl, hr⟩ : ∃ z r, t = z ++ r ∧ s.length = r.length :=
    ⟨t.take (t.length - s.length), t.drop (t.length - s.length),
      (List.take_append_drop _ t).symm, by rw [List.length_drop]; omega⟩
  have ⟨hz', hr'⟩ := List.forall_mem_append.mp ht
  -- the digits of `t` in front of the last `s.length` read to 0, so they are zeros
  rw [dval_append] at hv
  have ⟨h0, hsr⟩ := dval_inj_len s r hs hr' hr hv
  rw [leadingZeros_zeros_append z r (dval_eq_zero z hz' h0.symm).2, hsr] at hz
  rw [hsr, List.eq_nil_of_length_eq_zero (by omega : z.length = 0), List.nil_append]

/-- A digit string is determined by its value and its number of leading zeros: of two digit
strings with the same value, the longer is the shorter behind some zeros. -/
theorem dval_inj (s t : List Char) (hs : ∀ x ∈ s, isAsciiDigit x = true)
    (ht : ∀ x ∈ t, isAsciiDigit x = true) (hz : leadingZeros s = leadingZeros t)
    (hv : dval 0 s = dval 0 t) : s = t := by
  rcases Nat.le_total s.length t.length with h | h
  · exact dval_inj_le s t hs ht h hz hv
  · exact (dval_inj_le t s ht hs h hz.symm hv.symm).symm

theorem runsFitAux_digits (cur : Nat) (xs : List Char) (h : runsFitAux cur xs = true) :
    ∃ v, digitsVal cur (xs.takeWhile isAsciiDigit) = some v ∧ v < usizeBound ∧
      runsFitAux 0 (xs.dropWhile isAsciiDigit) = true := by
  induction xs generalizing cur with
  | nil => exact ⟨cur, rfl, by simpa [runsFitAux] using h, by simp [runsFitAux, usizeBound]⟩
  | cons c cs ih =>
    simp only [runsFitAux] at h
    by_cases hc : isAsciiDigit c = true
    · simp only [hc, if_true] at h
      obtain ⟨v, h1, h2, h3⟩ := ih _ h
      exact ⟨v, by simp [hc, digitsVal, h1], h2, by simp [hc, h3]⟩
    · simp only [hc, Bool.false_eq_true, if_false, Bool.and_eq_true, decide_eq_true_eq] at h
      refine ⟨cur, by simp [hc, digitsVal], h.1, ?_⟩
      simp [hc, runsFitAux, h.2, usizeBound]

theorem runsFitAux_dropWhile (p : Char → Bool) (hp : ∀ c, p c = true → isAsciiDigit c = false)
    (xs : List Char) (h : runsFitAux 0 xs = true) : runsFitAux 0 (xs.dropWhile p) = true := by
  induction xs with
  | nil => simpa using h
  | cons c cs ih =>
    by_cases hc : p c = true
    · simp only [List.dropWhile_cons, hc, if_true]
      apply ih
      simp only [runsFitAux, hp c hc, Bool.false_eq_true, if_false, Bool.and_eq_true] at h
      exact h.2
    · simpa [List.dropWhile_cons, hc] using h

/-- If every digit run fits, `next` succeeds on a non-empty rest and the property is kept. -/
theorem nextChunk_of_fit (x : Char) (xs : List Char) (h : runsFitAux 0 (x :: xs) = true) :
    ∃ c rest, nextChunk (x :: xs) = some (c, rest) ∧ runsFitAux 0 rest = true := by
  simp only [nextChunk]
  by_cases hu : x = '_'
  · subst hu
    refine ⟨.underscore, xs, by simp, ?_⟩
    simp only [runsFitAux, isAsciiDigit, Bool.and_eq_true] at h
    exact (by simpa using h : _ ∧ _).2
  · simp only [hu, if_false]
    by_cases hd : isAsciiDigit x = true
    · simp only [hd, if_true]
      simp only [runsFitAux, hd, if_true] at h
      obtain ⟨v, h1, h2, h3⟩ := runsFitAux_digits _ xs h
      rw [parseUsize_digit _ hd]
      simp only [digitsVal, hd, if_true, h1, h2]
      exact ⟨_, _, rfl, h3⟩
    · simp only [hd, Bool.false_eq_true, if_false]
      refine ⟨_, _, rfl, ?_⟩
      apply runsFitAux_dropWhile
      · intro c hc
        simp only [endsStrChunk, Bool.not_eq_true', Bool.or_eq_false_iff] at hc
        exact hc.2
      · simp only [runsFitAux, hd, Bool.false_eq_true, if_false, Bool.and_eq_true] at h
        exact h.2

theorem chunksFuel_source (n : Nat) (s : List Char) (hn : s.length ≤ n)
    (h : runsFitAux 0 s = true) : (chunksFuel n s).flatMap Chunk.source = s := by
  induction n generalizing s with
  | zero => cases s <;> simp_all [chunksFuel]
  | succ n ih =>
    cases s with
    | nil => simp [chunksFuel, nextChunk]
    | cons x xs =>
      obtain ⟨c, rest, hc, hr⟩ := nextChunk_of_fit x xs h
      simp only [chunksFuel, hc, List.flatMap_cons]
      have hs := nextChunk_source hc
      have hlen : rest.length ≤ n := by
        have := nextChunk_length hc
        simp only [List.length_cons] at this hn
        omega
      rw [ih rest hlen hr, hs]

/-- When every digit run fits `usize`, the chunks concatenate back to the identifier. -/
theorem chunks_source (s : List Char) (h : allRunsFit s = true) :
    (chunks s).flatMap Chunk.source = s :=
  chunksFuel_source _ s (Nat.le_refl _) h

/-- Two chunks produced by the iterator that rank equal in both comparisons are the same chunk. -/
theorem chunk_eq_of_rank_eq (a b : Chunk) (wa : ChunkWF a) (wb : ChunkWF b)
    (ea : ChunkExact a) (eb : ChunkExact b) (h1 : chunkCmp a b = .eq) (h2 : zerosCmp a b = .eq) :
    a = b := by
  cases a with
  | underscore => cases b <;> simp_all [chunkCmp]
  | str s =>
    cases b with
    | underscore => simp [chunkCmp] at h1
    | str t => simp only [chunkCmp] at h1; rw [strCmp_eq h1]
    | number v z src => exact absurd h1 (strCmp_ne_eq_of_wf wa wb).1
  | number v z src =>
    cases b with
    | underscore => simp [chunkCmp] at h1
    | str t => exact absurd h1 (strCmp_ne_eq_of_wf wb wa).2
    | number w y src' =>
      simp only [chunkCmp, Nat.compare_eq_eq] at h1
      simp only [zerosCmp, zerosOf, Nat.compare_eq_eq] at h2
      obtain ⟨ha1, ha2⟩ := ea
      obtain ⟨hb1, hb2⟩ := eb
      have da := digitsVal_some ha1
      have db := digitsVal_some hb1
      have : src = src' := dval_inj src src' da.1 db.1 (by omega) (by omega)
      subst this; subst h1; subst ha2; subst hb2; rfl

/-- `version_sort` ranks two identifiers equal exactly when the iterator cuts them into the same
chunks (it stops at the first number that does not fit `usize`). -/
theorem versionSort_eq_iff_chunks (a b : List Char) :
    versionSort a b = .eq ↔ chunks a = chunks b := by
  constructor
  · intro h
    rw [versionSort_eq, seqCmp, Ordering.then_eq_eq] at h
    exact lexCmp_eq_imp_eq _ _ (fun x hx y hy => chunk_eq_of_rank_eq x y (chunks_wf a x hx)
      (chunks_wf b y hy) (chunks_exact a x hx) (chunks_exact b y hy)) h.1 h.2
  · intro h
    rw [versionSort_eq, h]
    exact seqCmp_tpo.refl _ (chunks_wf b)

/-- `version_sort` returns `Equal` only on equal identifiers, provided every run of digits in
both identifiers has a value below 2^64. -/
theorem versionSort_eq_imp (a b : List Char) (ha : allRunsFit a = true) (hb : allRunsFit b = true)
    (h : versionSort a b = .eq) : a = b := by
  rw [← chunks_source a ha, ← chunks_source b hb, (versionSort_eq_iff_chunks a b).mp h]

theorem allRunsFit_trimRaw (n : List Char) : allRunsFit (trimRaw n) = allRunsFit n := by
  induction n using trimRaw.induct with
  | case1 rest ih =>
    rw [trimRaw, ih]
    simp [allRunsFit, runsFitAux, isAsciiDigit, usizeBound]
  | case2 s h => rw [trimRaw]; exact h

/-- Two identifier names rank equal exactly when their canonical names are equal (for style
edition 2024 provided their numbers fit `usize`). -/
theorem identCmp_eq_iff (v : Bool) (n m : List Char)
    (hn : v = true → allRunsFit n = true) (hm : v = true → allRunsFit m = true) :
    identCmp v n m = .eq ↔ canonName v n = canonName v m := by
  cases v
  · simp only [identCmp, canonName, Bool.false_eq_true, if_false]
    exact ⟨legacyIdentCmp_eq_imp, fun h => h ▸ legacyIdentCmp_tp.refl n⟩
  · simp only [identCmp, canonName, if_true]
    constructor
    · intro h
      exact versionSort_eq_imp _ _ (by rw [allRunsFit_trimRaw]; exact hn rfl)
        (by rw [allRunsFit_trimRaw]; exact hm rfl) h
    · intro h; rw [h]; exact versionSort_tp.refl _

theorem segRank_canonSeg (v : Bool) (a : Seg) : segRank (canonSeg v a) = segRank a := by
  cases a <;> rfl

/-- The segment case of the next theorems, given the same for the trees nested in the segments. -/
theorem segCmp_eq_iff_canon_of (v : Bool) {ok : List Char → Prop}
    (hid : ∀ n m, ok n → ok m → (identCmp v n m = .eq ↔ canonName v n = canonName v m))
    (a b : Seg) (ha : ∀ n ∈ segNames a, ok n) (hb : ∀ n ∈ segNames b, ok n)
    (htrees : ∀ as bs, a = .list as → b = .list bs →
      (treesCmp v as bs = .eq ↔ canonTrees v as = canonTrees v bs)) :
    segCmpCore v false a b = .eq ↔ canonSeg v a = canonSeg v b := by
  by_cases hr : segRank a = segRank b
  -- segments of different kinds neither rank equal nor have the same canonical form
  case neg =>
    exact iff_of_false (segCmpCore_ne_of_rank v false hr) fun h =>
      hr (by rw [← segRank_canonSeg v a, h, segRank_canonSeg])
  cases a <;> cases b <;> try (cases hr; done)
  case list.list as bs =>
    show treesCmp v as bs = .eq ↔ Seg.list (canonTrees v as) = .list (canonTrees v bs)
    rw [Seg.list.injEq]
    exact htrees as bs rfl rfl
  case ident.ident n _ m _ =>
    show (if identCmp v n m ≠ .eq then identCmp v n m else .eq) = .eq ↔
      Seg.ident (canonName v n) none = .ident (canonName v m) none
    rw [Seg.ident.injEq, and_iff_left rfl,
      ← hid n m (ha n (List.mem_singleton.mpr rfl)) (hb m (List.mem_singleton.mpr rfl))]
    by_cases he : identCmp v n m = .eq
    · rw [if_neg (not_not_intro he)]; exact iff_of_true rfl he
    · rw [if_pos he]
  all_goals exact iff_of_true rfl rfl

mutual
theorem segCmp_eq_iff_canon (v : Bool) (ok : List Char → Prop)
    (hid : ∀ n m, ok n → ok m → (identCmp v n m = .eq ↔ canonName v n = canonName v m)) :
    ∀ (a b : Seg), (∀ n ∈ segNames a, ok n) → (∀ n ∈ segNames b, ok n) →
      (segCmpCore v false a b = .eq ↔ canonSeg v a = canonSeg v b)
  | .list as, b, ha, hb => segCmp_eq_iff_canon_of v hid _ b ha hb fun _ bs e e' => by
    cases e; subst e'; exact treesCmp_eq_iff_canon v ok hid as bs ha hb
  | .slf _, b, ha, hb | .super _, b, ha, hb | .crate _, b, ha, hb | .ident _ _, b, ha, hb
  | .glob, b, ha, hb => segCmp_eq_iff_canon_of v hid _ b ha hb fun _ _ e => Seg.noConfusion e
termination_by structural a => a
theorem treesCmp_eq_iff_canon (v : Bool) (ok : List Char → Prop)
    (hid : ∀ n m, ok n → ok m → (identCmp v n m = .eq ↔ canonName v n = canonName v m)) :
    ∀ (a b : List Tree), (∀ n ∈ treesNames a, ok n) → (∀ n ∈ treesNames b, ok n) →
      (treesCmp v a b = .eq ↔ canonTrees v a = canonTrees v b)
  | [], [], _, _ => iff_of_true rfl rfl
  | [], _ :: _, _, _ => iff_of_false Ordering.noConfusion fun h => List.cons_ne_nil _ _ h.symm
  | _ :: _, [], _, _ => iff_of_false Ordering.noConfusion (List.cons_ne_nil _ _)
  | a :: as, b :: bs, ha, hb => by
    rw [treesCmp_cons, Ordering.then_eq_eq, canonTrees, canonTrees, List.cons.injEq,
      treeCmp_eq_iff_canon v ok hid a b (fun n h => ha n (List.mem_append_left _ h))
        (fun n h => hb n (List.mem_append_left _ h)),
      treesCmp_eq_iff_canon v ok hid as bs (fun n h => ha n (List.mem_append_right _ h))
        (fun n h => hb n (List.mem_append_right _ h))]
termination_by structural a => a
theorem treeCmp_eq_iff_canon (v : Bool) (ok : List Char → Prop)
    (hid : ∀ n m, ok n → ok m → (identCmp v n m = .eq ↔ canonName v n = canonName v m)) :
    ∀ (a b : Tree), (∀ n ∈ treeNames a, ok n) → (∀ n ∈ treeNames b, ok n) →
      (treeCmp v a b = .eq ↔ canonTree v a = canonTree v b)
  | .mk p, .mk q, ha, hb => by
    simp only [treeCmp, canonTree, Tree.mk.injEq]
    exact pathCmp_eq_iff_canon v ok hid p q ha hb
termination_by structural a => a
theorem pathCmp_eq_iff_canon (v : Bool) (ok : List Char → Prop)
    (hid : ∀ n m, ok n → ok m → (identCmp v n m = .eq ↔ canonName v n = canonName v m)) :
    ∀ (a b : List Seg), (∀ n ∈ pathNames a, ok n) → (∀ n ∈ pathNames b, ok n) →
      (pathCmp v a b = .eq ↔ canonPath v a = canonPath v b)
  | [], [], _, _ => iff_of_true rfl rfl
  | [], _ :: _, _, _ => iff_of_false Ordering.noConfusion fun h => List.cons_ne_nil _ _ h.symm
  | _ :: _, [], _, _ => iff_of_false Ordering.noConfusion (List.cons_ne_nil _ _)
  | a :: as, b :: bs, ha, hb => by
    rw [pathCmp_cons, Ordering.then_eq_eq, canonPath, canonPath, List.cons.injEq,
      segCmp_eq_iff_canon v ok hid a b (fun n h => ha n (List.mem_append_left _ h))
        (fun n h => hb n (List.mem_append_left _ h)),
      pathCmp_eq_iff_canon v ok hid as bs (fun n h => ha n (List.mem_append_right _ h))
        (fun n h => hb n (List.mem_append_right _ h))]
termination_by structural a => a
end

theorem trimRaw_idem (n : List Char) : trimRaw (trimRaw n) = trimRaw n := by
  induction n using trimRaw.induct with
  | case1 rest ih => rw [trimRaw, ih]
  | case2 s h =>
    have e : trimRaw s = s := by rw [trimRaw]; exact h
    rw [e, e]

theorem identCmp_canonName (v : Bool) (n : List Char) : identCmp v n (canonName v n) = .eq := by
  cases v
  · exact legacyIdentCmp_tp.refl n
  · simp only [identCmp, canonName, if_true, trimRaw_idem]
    exact versionSort_tp.refl _

mutual
theorem segCmp_canon (v : Bool) : ∀ a : Seg, segCmpCore v false a (canonSeg v a) = .eq
  | .ident n _ => by
    simp only [segCmpCore, canonSeg, identCmp_canonName, ne_eq, not_true_eq_false, if_false]
    rfl
  | .slf _ | .super _ | .crate _ | .glob => rfl
  | .list ts => by simp only [segCmpCore, canonSeg]; exact treesCmp_canon v ts
termination_by structural a => a
theorem treesCmp_canon (v : Bool) : ∀ a : List Tree, treesCmp v a (canonTrees v a) = .eq
  | [] => rfl
  | t :: ts => by rw [canonTrees, treesCmp_cons, treeCmp_canon v t, treesCmp_canon v ts]; rfl
termination_by structural a => a
theorem treeCmp_canon (v : Bool) : ∀ a : Tree, treeCmp v a (canonTree v a) = .eq
  | .mk p => by simp only [treeCmp, canonTree]; exact pathCmp_canon v p
termination_by structural a => a
theorem pathCmp_canon (v : Bool) : ∀ a : List Seg, pathCmp v a (canonPath v a) = .eq
  | [] => rfl
  | s :: ss => by rw [canonPath, pathCmp_cons, segCmp_canon v s, pathCmp_canon v ss]; rfl
termination_by structural a => a
end

/-- Consecutive items are at most one line apart: each starts before `hi + 2` of the previous
one (`lastHi` is the `hi` before the first item). -/
def Adjacent : Nat → List GItem → Prop
  | _, [] => True
  | lastHi, i :: is => i.lo < lastHi + 2 ∧ Adjacent i.hi is

/-- The run counted by `groupLen` is a prefix of items of the one kind and, where blank lines
separate groups, of adjacent items. -/
theorem groupLen_spec (kind : RKind) (ig : Bool) (h : Nat) (l : List GItem) :
    groupLen kind ig h l ≤ l.length ∧
    (∀ i ∈ l.take (groupLen kind ig h l), RKind.ofItem i = kind) ∧
    (ig = true → Adjacent h (l.take (groupLen kind ig h l))) := by
  induction l generalizing h with
  | nil => exact ⟨Nat.le_refl 0, fun _ hi => absurd hi List.not_mem_nil, fun _ => trivial⟩
  | cons i is ih =>
    rw [groupLen]
    by_cases hc : RKind.ofItem i = kind ∧ (!ig ∨ i.lo < h + 2)
    · rw [if_pos hc, Nat.add_comm, List.take_succ_cons]
      have ⟨h1, h2, h3⟩ := ih i.hi
      exact ⟨Nat.succ_le_succ h1, List.forall_mem_cons.mpr ⟨hc.1, h2⟩,
        fun hig => ⟨hc.2.resolve_left (by rw [hig]; decide), h3 hig⟩⟩
    · rw [if_neg hc]
      exact ⟨Nat.zero_le _, fun _ hi => absurd hi List.not_mem_nil, fun _ => trivial⟩

/-- What `visit_items_with_reordering` guarantees about one group. -/
def GroupOK (c : GConfig) : Group → Prop
  | .run kind is =>
    is ≠ [] ∧ (kind.isReorderable c = true ∨ kind.isRegroupable c = true) ∧
    (∀ i ∈ is, RKind.ofItem i = kind) ∧
    (kind.inGroup c = true → ∀ i rest, is = i :: rest → Adjacent i.hi rest)
  | .single i =>
    (RKind.ofItem i).isReorderable c = false ∧ (RKind.ofItem i).isRegroupable c = false

theorem groupLen_pos (ig : Bool) (i : GItem) (is : List GItem) (hi : i.lo ≤ i.hi) :
    groupLen (RKind.ofItem i) ig i.hi (i :: is) ≠ 0 := by
  rw [groupLen, if_pos ⟨rfl, Or.inr (by omega)⟩]
  omega

theorem splitGroupsFuel_spec (c : GConfig) (n : Nat) (items : List GItem) (gs : List Group)
    (h : splitGroupsFuel c n items = some gs) :
    gs.flatMap Group.items = items ∧ ∀ g ∈ gs, GroupOK c g := by
  induction n generalizing items gs with
  | zero =>
    cases items with
    | nil => cases h; exact ⟨rfl, fun _ hg => absurd hg List.not_mem_nil⟩
    | cons i is => cases h
  | succ n ih =>
    cases items with
    | nil => cases h; exact ⟨rfl, fun _ hg => absurd hg List.not_mem_nil⟩
    | cons i is =>
      simp only [splitGroupsFuel] at h
      split at h
      · next hk =>
        split at h
        · cases h
        · next hn =>
          obtain ⟨gs', hgs', rfl⟩ := Option.map_eq_some_iff.mp h
          obtain ⟨h1, h2⟩ := ih _ _ hgs'
          -- the run is the first item and `m` more
          obtain ⟨m, hm⟩ := Nat.exists_eq_succ_of_ne_zero hn
          refine ⟨by rw [List.flatMap_cons, h1]; exact List.take_append_drop _ _,
            List.forall_mem_cons.mpr ⟨⟨?_, by simpa using hk, (groupLen_spec _ _ _ _).2.1, ?_⟩, h2⟩⟩
          · rw [hm]; exact List.cons_ne_nil _ _
          · intro hin j rest hj
            have hadj := (groupLen_spec (RKind.ofItem i) _ i.hi (i :: is)).2.2 hin
            rw [hm] at hj hadj
            cases hj
            exact hadj.2
      · next hk =>
        obtain ⟨gs', hgs', rfl⟩ := Option.map_eq_some_iff.mp h
        obtain ⟨h1, h2⟩ := ih _ _ hgs'
        exact ⟨by rw [List.flatMap_cons, h1]; rfl,
          List.forall_mem_cons.mpr ⟨by simpa [GroupOK] using hk, h2⟩⟩

/-- Every real span has `lo ≤ hi`; then the loop always makes progress. -/
theorem splitGroupsFuel_some (c : GConfig) (n : Nat) (items : List GItem)
    (hn : items.length ≤ n) (hw : ∀ i ∈ items, i.lo ≤ i.hi) :
    ∃ gs, splitGroupsFuel c n items = some gs := by
  induction n generalizing items with
  | zero => cases List.eq_nil_of_length_eq_zero (Nat.le_zero.mp hn); exact ⟨_, rfl⟩
  | succ n ih =>
    cases items with
    | nil => exact ⟨_, rfl⟩
    | cons i is =>
      have ⟨hi, his⟩ := List.forall_mem_cons.mp hw
      rw [List.length_cons] at hn
      rw [splitGroupsFuel]
      split
      · have hpos := groupLen_pos ((RKind.ofItem i).inGroup c) i is hi
        generalize groupLen _ _ _ _ = g at hpos ⊢
        rw [if_neg hpos]
        obtain ⟨gs, hgs⟩ := ih ((i :: is).drop g)
          (by rw [List.length_drop, List.length_cons]; omega)
          (fun j hj => hw j (List.mem_of_mem_drop hj))
        exact ⟨_, by rw [hgs]; rfl⟩
      · obtain ⟨gs, hgs⟩ := ih is (by omega) his
        exact ⟨_, by rw [hgs]; rfl⟩

end RF.Lemmas.Sort

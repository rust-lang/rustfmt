import RF.Model.Session
/-! Lemmas about `RF.Session` (C15; reused by C05 for the multi-root statements): `Flags` under `add`; the output of one
input as a function of configuration and input (`outOf`); the command-line loop described without a session
(`pureLoop`, `cliLoop_eq`) and what follows for entries, abort and exit status. -/
namespace RF.Lemmas.Session
open RF.Session

variable {κ ι ρ : Type}

theorem foldr_max_perm {l l' : List Nat} (h : l.Perm l') : l.foldr max 0 = l'.foldr max 0 :=
  h.foldr_eq' (fun x _ y _ z => Nat.max_left_comm y x z) 0

theorem foldr_max_ge {l : List Nat} {x : Nat} (h : x ∈ l) : x ≤ l.foldr max 0 := by
  induction l with
  | nil => cases h
  | cons y r ih =>
    simp only [List.mem_cons] at h
    simp only [List.foldr_cons]
    rcases h with h | h
    · subst h; omega
    · have := ih h; omega

theorem foldr_max_le_one {l : List Nat} (h : ∀ x ∈ l, x ≤ 1) : l.foldr max 0 ≤ 1 := by
  induction l with
  | nil => simp
  | cons y r ih =>
    simp only [List.foldr_cons]
    have h1 := h y (by simp)
    have h2 := ih (fun x hx => h x (by simp [hx]))
    omega

theorem add_none (a : Flags) : a.add Flags.none = a := by
  cases a; simp [Flags.add, Flags.none]

theorem none_add (a : Flags) : Flags.none.add a = a := by
  cases a; simp [Flags.add, Flags.none]

theorem add_assoc (a b c : Flags) : (a.add b).add c = a.add (b.add c) := by
  cases a; cases b; cases c; simp [Flags.add, Bool.or_assoc]

theorem add_comm (a b : Flags) : a.add b = b.add a := by
  cases a; cases b; simp [Flags.add, Bool.or_comm]

theorem add_self (a : Flags) : a.add a = a := by
  cases a; simp [Flags.add]

theorem le_add (a b : Flags) : a.le (a.add b) = true := by
  have h : ∀ x y : Bool, (!x || (x || y)) = true := by decide
  cases a; cases b; simp [Flags.le, Flags.add, h]

theorem le_refl (a : Flags) : a.le a = true := by
  cases a; simp [Flags.le]

theorem le_trans {a b c : Flags} (h1 : a.le b = true) (h2 : b.le c = true) : a.le c = true := by
  cases a; cases b; cases c
  simp only [Flags.le, Bool.and_eq_true, Bool.or_eq_true, Bool.not_eq_true'] at *
  grind

theorem addOperational_eq (s : Session κ) :
    s.addOperational = { s with errors := s.errors.add { operational := true } } := by
  cases s with | mk c e => cases e; simp [Session.addOperational, Flags.add]

theorem exitFormat_add (check : Bool) (a b : Flags) :
    exitFormat check (a.add b) = max (exitFormat check a) (exitFormat check b) := by
  cases a; cases b; cases check <;> simp only [exitFormat, Flags.add] <;> grind

theorem exitFormat_le_one (check : Bool) (a : Flags) : exitFormat check a ≤ 1 := by
  unfold exitFormat; split <;> omega

theorem exitFormat_none (check : Bool) : exitFormat check Flags.none = 0 := by
  cases check <;> rfl

/-- What `Session::format` returns for input `i` under configuration `c`: no session in sight. -/
def outOf (F : Config κ → ι → ρ × Option Flags) (c : Config κ) (i : ι) : Out ρ :=
  if !c.versionOk then ⟨none, none⟩
  else if c.disableAll then ⟨none, some Flags.none⟩
  else ⟨some (F c i).1, (F c i).2⟩

/-- the flags `format_and_emit_report` ORs into the session for an output -/
def outFlags (o : Out ρ) : Flags :=
  match o.report with
  | some fl => fl
  | none => { operational := true }

theorem formatInput_snd (F : Config κ → ι → ρ × Option Flags) (s : Session κ) (i : ι) :
    (formatInput F s i).2 = outOf F s.config i := by
  unfold formatInput outOf
  split
  · rfl
  · split
    · rfl
    · split <;> simp_all

theorem formatInput_fst (F : Config κ → ι → ρ × Option Flags) (s : Session κ) (i : ι) :
    (formatInput F s i).1 =
      { s with errors := s.errors.add (((outOf F s.config i).report).getD Flags.none) } := by
  unfold formatInput outOf
  split
  · simp [add_none]
  · split
    · simp [add_none]
    · split <;> simp_all [add_none]

theorem formatAndEmitReport_snd (F : Config κ → ι → ρ × Option Flags) (s : Session κ) (i : ι) :
    (formatAndEmitReport F s i).2 = outOf F s.config i := by
  have h := formatInput_snd F s i
  unfold formatAndEmitReport
  split
  rename_i s' o heq
  rw [heq] at h
  simp only at h
  subst h
  split <;> rfl

theorem formatAndEmitReport_fst (F : Config κ → ι → ρ × Option Flags) (s : Session κ) (i : ι) :
    (formatAndEmitReport F s i).1 =
      { s with errors := s.errors.add (outFlags (outOf F s.config i)) } := by
  have h1 := formatInput_fst F s i
  have h2 := formatInput_snd F s i
  unfold formatAndEmitReport
  split
  rename_i s' o heq
  rw [heq] at h1 h2
  simp only at h1 h2
  subst h2
  subst h1
  unfold outFlags
  cases hr : (outOf F s.config i).report with
  | none => simp [addOperational_eq, add_none]
  | some fl => simp

/-- What the loop body records for one path: a function of the global configuration and the path. -/
def argOut (F : Config κ → ι → ρ × Option Flags) (g : Config κ) (usePath : Bool) :
    Arg κ ι → Option (Entry ρ)
  | .missing => some .missing
  | .file lc i =>
    if usePath then some (.formatted (outOf F g i))
    else match lc with
      | none => none
      | some c => some (.formatted (outOf F c i))

theorem entry_flags_formatted (o : Out ρ) : (Entry.formatted o).flags = outFlags o := rfl

theorem argStep_eq (F : Config κ → ι → ρ × Option Flags) (usePath : Bool) (s : Session κ) (a : Arg κ ι) :
    argStep F usePath s a =
      (argOut F s.config usePath a).map fun e => ({ s with errors := s.errors.add e.flags }, e) := by
  cases a with
  | missing => simp [argStep, argOut, addOperational_eq, Entry.flags]
  | file lc i =>
    cases usePath with
    | true =>
      simp [argStep, argOut, formatAndEmitReport_fst, formatAndEmitReport_snd, entry_flags_formatted]
    | false =>
      cases lc with
      | none => simp [argStep, argOut]
      | some c =>
        simp [argStep, argOut, overrideConfig, formatAndEmitReport_fst, formatAndEmitReport_snd,
          entry_flags_formatted]

/-- The loop without a session: entries up to the first failing `load_config`, and whether one failed. -/
def pureLoop (F : Config κ → ι → ρ × Option Flags) (g : Config κ) (usePath : Bool) :
    List (Arg κ ι) → List (Entry ρ) × Bool
  | [] => ([], false)
  | a :: rest =>
    match argOut F g usePath a with
    | none => ([], true)
    | some e => (e :: (pureLoop F g usePath rest).1, (pureLoop F g usePath rest).2)

def sumFlags (es : List (Entry ρ)) : Flags := es.foldr (fun e acc => e.flags.add acc) Flags.none

theorem cliLoop_eq (F : Config κ → ι → ρ × Option Flags) (usePath : Bool) (args : List (Arg κ ι)) :
    ∀ s : Session κ,
      (cliLoop F usePath s args).entries = (pureLoop F s.config usePath args).1 ∧
      (cliLoop F usePath s args).aborted = (pureLoop F s.config usePath args).2 ∧
      (cliLoop F usePath s args).sess =
        { s with errors := s.errors.add (sumFlags (pureLoop F s.config usePath args).1) } := by
  induction args with
  | nil => intro s; simp [cliLoop, pureLoop, sumFlags, add_none]
  | cons a rest ih =>
    intro s
    unfold cliLoop pureLoop
    rw [argStep_eq]
    cases h : argOut F s.config usePath a with
    | none => simp [sumFlags, add_none]
    | some e =>
      simp only [Option.map_some]
      have := ih { s with errors := s.errors.add e.flags }
      simp only at this
      obtain ⟨h1, h2, h3⟩ := this
      refine ⟨by simp [h1], by simp [h2], ?_⟩
      simp [h3, sumFlags, add_assoc]

theorem runCli_entries (F : Config κ → ι → ρ × Option Flags) (g : Config κ) (usePath : Bool) (args : List (Arg κ ι)) :
    (runCli F g usePath args).entries = (pureLoop F g usePath args).1 :=
  (cliLoop_eq F usePath args (Session.new g)).1

theorem runCli_aborted (F : Config κ → ι → ρ × Option Flags) (g : Config κ) (usePath : Bool) (args : List (Arg κ ι)) :
    (runCli F g usePath args).aborted = (pureLoop F g usePath args).2 :=
  (cliLoop_eq F usePath args (Session.new g)).2.1

theorem pureLoop_single (F : Config κ → ι → ρ × Option Flags) (g : Config κ) (usePath : Bool) (a : Arg κ ι) :
    pureLoop F g usePath [a] =
      match argOut F g usePath a with
      | none => ([], true)
      | some e => ([e], false) := by
  simp only [pureLoop]

/-- entry `i` of the loop is what the loop records for `args[i]` alone -/
theorem pureLoop_getElem (F : Config κ → ι → ρ × Option Flags) (g : Config κ) (usePath : Bool) :
    ∀ (args : List (Arg κ ι)) (i : Nat) (e : Entry ρ),
      (pureLoop F g usePath args).1[i]? = some e →
      ∃ a, args[i]? = some a ∧ argOut F g usePath a = some e := by
  intro args
  induction args with
  | nil => intro i e h; simp [pureLoop] at h
  | cons a rest ih =>
    intro i e h
    simp only [pureLoop] at h
    cases ha : argOut F g usePath a with
    | none => simp [ha] at h
    | some e0 =>
      simp only [ha] at h
      cases i with
      | zero => simp at h; exact ⟨a, by simp, by rw [ha, h]⟩
      | succ n =>
        simp only [List.getElem?_cons_succ] at h
        obtain ⟨a', h1, h2⟩ := ih n e h
        exact ⟨a', by simpa using h1, h2⟩

theorem pureLoop_length (F : Config κ → ι → ρ × Option Flags) (g : Config κ) (usePath : Bool) :
    ∀ (args : List (Arg κ ι)),
      ((pureLoop F g usePath args).2 = false ∧ (pureLoop F g usePath args).1.length = args.length) ∨
      ((pureLoop F g usePath args).2 = true ∧
        ∃ a, args[(pureLoop F g usePath args).1.length]? = some a ∧ argOut F g usePath a = none) := by
  intro args
  induction args with
  | nil => simp [pureLoop]
  | cons a rest ih =>
    simp only [pureLoop]
    cases ha : argOut F g usePath a with
    | none => simp [ha]
    | some e0 =>
      simp only [List.length_cons, List.getElem?_cons_succ]
      rcases ih with ⟨h1, h2⟩ | ⟨h1, h2⟩
      · left; simp [h1, h2]
      · right; exact ⟨h1, h2⟩

/-- no path fails to load its configuration -/
def noAbort (F : Config κ → ι → ρ × Option Flags) (g : Config κ) (usePath : Bool) (args : List (Arg κ ι)) : Prop :=
  ∀ a ∈ args, argOut F g usePath a ≠ none

theorem pureLoop_noAbort (F : Config κ → ι → ρ × Option Flags) (g : Config κ) (usePath : Bool) :
    ∀ (args : List (Arg κ ι)), noAbort F g usePath args →
      (pureLoop F g usePath args).1 = args.filterMap (argOut F g usePath) ∧
      (pureLoop F g usePath args).2 = false := by
  intro args
  induction args with
  | nil => intro _; simp [pureLoop]
  | cons a rest ih =>
    intro h
    have ha : argOut F g usePath a ≠ none := h a (by simp)
    have hr : noAbort F g usePath rest := fun x hx => h x (by simp [hx])
    obtain ⟨h1, h2⟩ := ih hr
    simp only [pureLoop]
    cases hao : argOut F g usePath a with
    | none => exact absurd hao ha
    | some e => simp [hao, h1, h2]

/-- exit status of a finished or aborted loop from its pure description -/
def pureExit (check : Bool) (r : List (Entry ρ) × Bool) : Nat :=
  if r.2 then 1 else exitFormat check (sumFlags r.1)

theorem exit_eq_pure (F : Config κ → ι → ρ × Option Flags) (g : Config κ) (usePath check : Bool)
    (args : List (Arg κ ι)) :
    (runCli F g usePath args).exit check = pureExit check (pureLoop F g usePath args) := by
  obtain ⟨_, h2, h3⟩ := cliLoop_eq F usePath args (Session.new g)
  simp only [Session.new] at h2 h3
  simp only [Run.exit, runCli, pureExit, Session.new, h2, h3, none_add]

theorem pureExit_le_one (check : Bool) (r : List (Entry ρ) × Bool) : pureExit check r ≤ 1 := by
  unfold pureExit; split
  · omega
  · exact exitFormat_le_one _ _

theorem pureExit_cons (F : Config κ → ι → ρ × Option Flags) (g : Config κ) (usePath check : Bool)
    (a : Arg κ ι) (rest : List (Arg κ ι)) :
    pureExit check (pureLoop F g usePath (a :: rest)) =
      max (pureExit check (pureLoop F g usePath [a])) (pureExit check (pureLoop F g usePath rest)) := by
  have hle := pureExit_le_one check (pureLoop F g usePath rest)
  simp only [pureExit] at hle
  rw [pureLoop_single]
  simp only [pureLoop]
  cases ha : argOut F g usePath a with
  | none => simp only [pureExit]; simp; omega
  | some e =>
    simp only [pureExit]
    by_cases hb : (pureLoop F g usePath rest).2 = true
    · simp only [hb, if_true]
      have := exitFormat_le_one check (sumFlags [e])
      simp; omega
    · simp only [hb]
      simp only [sumFlags, List.foldr_cons, List.foldr_nil, add_none, exitFormat_add]
      simp

theorem exit_is_max (F : Config κ → ι → ρ × Option Flags) (g : Config κ) (usePath check : Bool) :
    ∀ (args : List (Arg κ ι)),
      pureExit check (pureLoop F g usePath args) =
        (args.map fun a => pureExit check (pureLoop F g usePath [a])).foldr max 0 := by
  intro args
  induction args with
  | nil => simp [pureLoop, pureExit, sumFlags, exitFormat_none]
  | cons a rest ih =>
    rw [pureExit_cons, ih]
    simp

theorem formatAll_eq (F : Config κ → ι → ρ × Option Flags) (inputs : List ι) :
    ∀ s : Session κ,
      (formatAll F s inputs).2 = inputs.map (outOf F s.config) ∧
      (formatAll F s inputs).1.config = s.config ∧
      s.errors.le (formatAll F s inputs).1.errors = true := by
  induction inputs with
  | nil => intro s; simp [formatAll, le_refl]
  | cons i rest ih =>
    intro s
    have h1 := formatInput_fst F s i
    have h2 := formatInput_snd F s i
    unfold formatAll
    split
    rename_i s' o heq
    rw [heq] at h1 h2
    simp only at h1 h2
    have := ih s'
    split
    rename_i s'' os heq'
    rw [heq'] at this
    simp only at this
    obtain ⟨a, b, c⟩ := this
    subst h1
    refine ⟨by simp [h2, a], by simp [b], ?_⟩
    exact le_trans (le_add _ _) c

theorem pureLoop_append (F : Config κ → ι → ρ × Option Flags) (g : Config κ) (usePath : Bool)
    (l1 l2 : List (Arg κ ι)) (h : (pureLoop F g usePath l1).2 = false) :
    pureLoop F g usePath (l1 ++ l2) =
      ((pureLoop F g usePath l1).1 ++ (pureLoop F g usePath l2).1, (pureLoop F g usePath l2).2) := by
  induction l1 with
  | nil => simp [pureLoop]
  | cons a rest ih =>
    simp only [pureLoop, List.cons_append] at h ⊢
    cases ha : argOut F g usePath a with
    | none => simp [ha] at h
    | some e =>
      simp only [ha] at h ⊢
      rw [ih h]
      simp

/-- If nothing before position `i` aborts, entry `i` is the entry of the run on `args[i]` alone. -/
theorem pureLoop_frame (F : Config κ → ι → ρ × Option Flags) (g : Config κ) (usePath : Bool)
    (args : List (Arg κ ι)) (i : Nat) (a : Arg κ ι) (ha : args[i]? = some a)
    (h : (pureLoop F g usePath (args.take i)).2 = false) :
    (pureLoop F g usePath args).1[i]? = (pureLoop F g usePath [a]).1[0]? := by
  have hi : i < args.length := by
    rcases Nat.lt_or_ge i args.length with h' | h'
    · exact h'
    · rw [List.getElem?_eq_none h'] at ha; cases ha
  have hsplit : args = args.take i ++ a :: args.drop (i + 1) := by
    have h1 : args.drop i = a :: args.drop (i + 1) := by
      rw [List.drop_eq_getElem_cons hi]
      congr 1
      rw [List.getElem?_eq_getElem hi] at ha
      exact Option.some.inj ha
    rw [← h1, List.take_append_drop]
  have hlen : (pureLoop F g usePath (args.take i)).1.length = i := by
    rcases pureLoop_length F g usePath (args.take i) with ⟨_, h2⟩ | ⟨h1, _⟩
    · rw [h2, List.length_take]; omega
    · rw [h] at h1; cases h1
  rw [hsplit, pureLoop_append _ _ _ _ _ h]
  simp only
  rw [List.getElem?_append_right (by omega), hlen, Nat.sub_self, pureLoop_single]
  simp only [pureLoop]
  cases argOut F g usePath a <;> simp

/-- A path whose configuration fails to load: the loop is aborted and records nothing for it or after it. -/
theorem pureLoop_abort (F : Config κ → ι → ρ × Option Flags) (g : Config κ) (usePath : Bool) :
    ∀ (args : List (Arg κ ι)) (i : Nat) (a : Arg κ ι), args[i]? = some a → argOut F g usePath a = none →
      (pureLoop F g usePath args).1.length ≤ i ∧ (pureLoop F g usePath args).2 = true := by
  intro args
  induction args with
  | nil => intro i a h; simp at h
  | cons b rest ih =>
    intro i a ha hn
    simp only [pureLoop]
    cases i with
    | zero =>
      simp only [List.getElem?_cons_zero, Option.some.injEq] at ha
      subst ha
      simp [hn]
    | succ n =>
      simp only [List.getElem?_cons_succ] at ha
      cases hb : argOut F g usePath b with
      | none => simp
      | some e =>
        obtain ⟨h1, h2⟩ := ih n a ha hn
        simp only [List.length_cons]
        exact ⟨by omega, h2⟩

/-- a run is 1 as soon as the run on one of its paths alone is 1 -/
theorem pureExit_one_of_mem (F : Config κ → ι → ρ × Option Flags) (g : Config κ) (usePath check : Bool)
    (args : List (Arg κ ι)) (a : Arg κ ι) (ha : a ∈ args)
    (h1 : pureExit check (pureLoop F g usePath [a]) = 1) :
    pureExit check (pureLoop F g usePath args) = 1 := by
  have hle := pureExit_le_one check (pureLoop F g usePath args)
  rw [exit_is_max] at hle ⊢
  have : pureExit check (pureLoop F g usePath [a]) ≤
      (args.map fun a => pureExit check (pureLoop F g usePath [a])).foldr max 0 :=
    foldr_max_ge (List.mem_map.2 ⟨a, ha, rfl⟩)
  omega

end RF.Lemmas.Session

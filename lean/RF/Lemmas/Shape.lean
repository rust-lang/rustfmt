import RF.Model.Shape
/-!
About `RF.Model.Shape` (C16 arithmetic part, C08 `indent_shape`): the string an indentation denotes (`indentChars`),
`to_string*` in closed form for both offsets, and the exact failure condition of every `Except Panic` operation.
-/
namespace RF.Lemmas.Shape
open RF.Shape

/-- The string an indentation is meant to be: under hard tabs one tab per `tab_spaces` of block
indent (a remainder `block_indent % tab_spaces` is silently dropped) then `alignment` spaces; otherwise
`block_indent + alignment` spaces. -/
def indentChars (i : Indent) (c : Config) : List Char :=
  if c.hard_tabs then
    List.replicate (i.block_indent / c.tab_spaces) '\t' ++ List.replicate i.alignment ' '
  else List.replicate (i.block_indent + i.alignment) ' '

/-- the fast path of `to_string_inner`: the static buffer sliced at one of the two offsets in use -/
theorem slice_buffer (off n : Nat) (ho : off = 0 ∨ off = 1) (h : n + off ≤ 80) :
    sliceInclusive INDENT_BUFFER off n = .ok ((if off = 0 then ['\n'] else []) ++ List.replicate n ' ') := by
  unfold sliceInclusive INDENT_BUFFER
  rw [if_pos ⟨by omega, by simp only [List.length_cons, List.length_replicate]; omega⟩]
  rcases ho with rfl | rfl
  · rw [List.drop_zero, Nat.sub_zero, List.take_succ_cons, List.take_replicate, Nat.min_eq_left (by omega)]; rfl
  · rw [List.drop_succ_cons, List.drop_zero, Nat.add_sub_cancel, List.take_replicate, Nat.min_eq_left (by omega)]; rfl

/-- `to_string_inner` for the two offsets the public API uses: fast path and slow path produce the
same string, for every width. -/
theorem to_string_inner_eq (i : Indent) (c : Config) (off : Nat) (hoff : off = 0 ∨ off = 1)
    (hts : c.hard_tabs = true → 1 ≤ c.tab_spaces) :
    i.to_string_inner c off =
      .ok ((if off = 0 then ['\n'] else []) ++ indentChars i c) := by
  unfold Indent.to_string_inner indentChars udiv INDENT_BUFFER_LEN
  cases hh : c.hard_tabs with
  | false =>
    simp only [Bool.false_eq_true, if_false, true_and, Nat.zero_add]
    split
    · rw [slice_buffer off _ hoff ‹_›]; rfl
    · simp [Indent.width]
  | true =>
    simp only [if_true, if_neg (Nat.ne_of_gt (hts hh))]
    split
    · next hle =>
      obtain ⟨ht, hle⟩ := hle
      rw [ht, Nat.zero_add] at hle ⊢
      rw [slice_buffer off _ hoff hle]
      simp
    · simp

theorem to_string_eq (i : Indent) (c : Config) (hts : c.hard_tabs = true → 1 ≤ c.tab_spaces) :
    i.to_string c = .ok (indentChars i c) := by
  simpa [Indent.to_string] using to_string_inner_eq i c 1 (Or.inr rfl) hts

theorem to_string_with_newline_eq (i : Indent) (c : Config)
    (hts : c.hard_tabs = true → 1 ≤ c.tab_spaces) :
    i.to_string_with_newline c = .ok ('\n' :: indentChars i c) := by
  simpa [Indent.to_string_with_newline] using to_string_inner_eq i c 0 (Or.inl rfl) hts

theorem shape_to_string_with_newline_eq (s : Shape) (c : Config)
    (hts : c.hard_tabs = true → 1 ≤ c.tab_spaces) :
    s.to_string_with_newline c =
      .ok ('\n' :: indentChars { s.indent with alignment := s.offset } c) := by
  simpa [Shape.to_string_with_newline] using
    to_string_inner_eq { s.indent with alignment := s.offset } c 0 (Or.inl rfl) hts

/-! ### Exact panic conditions -/

theorem usub_error_iff (a b : Nat) : (∃ e, usub a b = .error e) ↔ a < b := by
  unfold usub; split <;> simp_all

theorem usub_lt {a b : Nat} (h : a < b) : usub a b = .error .subOverflow := by
  simp [usub, h]

theorem usub_ge {a b : Nat} (h : b ≤ a) : usub a b = .ok (a - b) := by
  have : ¬ a < b := by omega
  simp [usub, this]

theorem indent_sub_error_iff (a b : Indent) :
    a.sub b = .error .subOverflow ↔ (a.block_indent < b.block_indent ∨ a.alignment < b.alignment) := by
  unfold Indent.sub
  by_cases h1 : a.block_indent < b.block_indent
  · simp [usub_lt h1, h1]
  · rw [usub_ge (by omega)]
    by_cases h2 : a.alignment < b.alignment
    · simp [usub_lt h2, h2]
    · rw [usub_ge (by omega)]; simp [h1, h2]

theorem indent_sub_ok_iff (a b : Indent) :
    a.sub b = .ok ⟨a.block_indent - b.block_indent, a.alignment - b.alignment⟩ ↔
      (b.block_indent ≤ a.block_indent ∧ b.alignment ≤ a.alignment) := by
  unfold Indent.sub
  by_cases h1 : a.block_indent < b.block_indent
  · simp [usub_lt h1]; omega
  · rw [usub_ge (by omega)]
    by_cases h2 : a.alignment < b.alignment
    · simp [usub_lt h2]; omega
    · rw [usub_ge (by omega)]; simp [Indent.new]; omega

theorem indent_sub_usize_error_iff (a : Indent) (n : Nat) :
    a.sub_usize n = .error .subOverflow ↔ a.alignment < n := by
  unfold Indent.sub_usize
  by_cases h : a.alignment < n
  · simp [usub_lt h, h]
  · rw [usub_ge (by omega)]; simp [h]

theorem indent_sub_usize_ok_iff (a : Indent) (n : Nat) :
    a.sub_usize n = .ok ⟨a.block_indent, a.alignment - n⟩ ↔ n ≤ a.alignment := by
  unfold Indent.sub_usize
  by_cases h : a.alignment < n
  · simp [usub_lt h]; omega
  · rw [usub_ge (by omega)]; simp [Indent.new]; omega

theorem from_width_error_iff (c : Config) (w : Nat) :
    Indent.from_width c w = .error .divByZero ↔ (c.hard_tabs = true ∧ c.tab_spaces = 0) := by
  unfold Indent.from_width udiv umod
  cases c.hard_tabs with
  | false => simp
  | true =>
    by_cases hz : c.tab_spaces = 0
    · simp [hz]
    · simp [hz]

theorem from_width_ok (c : Config) (w : Nat) (h : c.hard_tabs = true → 1 ≤ c.tab_spaces) :
    Indent.from_width c w = .ok
      (if c.hard_tabs then ⟨c.tab_spaces * (w / c.tab_spaces), w % c.tab_spaces⟩ else ⟨w, 0⟩) := by
  unfold Indent.from_width udiv umod Indent.new
  cases hh : c.hard_tabs with
  | false => simp
  | true =>
    have : c.tab_spaces ≠ 0 := by have := h hh; omega
    simp [this]

theorem block_unindent_ok (i : Indent) (c : Config) :
    i.block_unindent c = .ok
      (if i.block_indent < c.tab_spaces then ⟨i.block_indent, 0⟩
       else ⟨i.block_indent - c.tab_spaces, i.alignment⟩) := by
  unfold Indent.block_unindent usub Indent.new
  split
  · rfl
  · simp

theorem sliceInclusive_error_iff (s : List Char) (a b : Nat) :
    (∃ e, sliceInclusive s a b = .error e) ↔ ¬(a ≤ b + 1 ∧ b + 1 ≤ s.length) := by
  unfold sliceInclusive
  split <;> simp [*]

/-- `to_string_inner` at an arbitrary offset: the complete panic condition. -/
theorem to_string_inner_error_iff (i : Indent) (c : Config) (off : Nat) :
    (∃ e, i.to_string_inner c off = .error e) ↔
      (c.hard_tabs = true ∧ c.tab_spaces = 0) ∨
      ((c.hard_tabs = true → c.tab_spaces ≠ 0) ∧
        (if c.hard_tabs then i.block_indent / c.tab_spaces = 0 ∧ i.alignment + off ≤ 80 ∧
            i.alignment + 1 < off
         else i.width + off ≤ 80 ∧ i.width + 1 < off)) := by
  have hlen : INDENT_BUFFER.length = 81 := rfl
  unfold Indent.to_string_inner udiv INDENT_BUFFER_LEN
  cases c.hard_tabs with
  | false =>
    simp only [Bool.false_eq_true, if_false, false_and, false_or, false_implies, true_and, Nat.zero_add]
    split
    · rw [sliceInclusive_error_iff, hlen]; omega
    · simp; omega
  | true =>
    by_cases hz : c.tab_spaces = 0
    · simp [hz]
    · simp only [hz, if_false, if_true, true_and, and_false, false_or, ne_eq, not_false_eq_true, forall_const]
      generalize i.block_indent / c.tab_spaces = q
      split
      · rw [sliceInclusive_error_iff, hlen]; omega
      · simp; omega

end RF.Lemmas.Shape

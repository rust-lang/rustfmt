import RF.Model.CargoFmt
import RF.Model.Shape -- `DecidableEq (Except ε α)`, for the evaluations of C18
/-!
Lemmas about `RF.Model.CargoFmt` (C18), in this order.  The sorted-list set `sinsert` (what
`BTreeSet::insert` keeps) and `insertTargets` as a fold of it over the built targets (first
insertion wins).  `--all`: one step of the dependency loop (`followed`, `depsLoop_cons`); the
recursion collects exactly the reachable closure when names determine manifests (`Ext`,
`recursive_paths_iff`); fuel: as many levels as dependency names suffice, and more fuel changes
nothing; finite worlds (`world_namesBound`, `world_edge_allDeps`).  `-p` (`hitlist_spec`) and the
root strategy (`rootOnly_spec`).  The edition map in closed form (`byEdition_eq`).  Status folding and `run_rustfmt` (`runRustfmt_cases`).  `Grown`: every
strategy only inserts targets that some `cargo metadata` answer lists, hence sortedness and
provenance of the result.  The command line.
-/
namespace RF.Lemmas.CargoFmt
open RF.CargoFmt

theorem Comp.key_injective : ∀ a b : Comp, a.key = b.key → a = b := by
  intro a b h
  cases a <;> cases b <;> simp [Comp.key] at h ⊢
  rename_i s t
  exact (List.map_inj_right (f := Char.toNat) (fun x y h => Char.ext (UInt32.toNat_inj.mp h))).mp h

instance : Std.OrientedCmp cmpPath := ⟨fun {a b} => by unfold cmpPath; exact Std.OrientedCmp.eq_swap⟩
instance : Std.TransCmp cmpPath := ⟨fun {a b c} h1 h2 => by
  unfold cmpPath at *; exact Std.TransCmp.isLE_trans h1 h2⟩
instance : Std.LawfulEqCmp cmpPath := ⟨fun {a b} h => by
  unfold cmpPath at h
  have := Std.LawfulEqCmp.eq_of_compare h
  exact (List.map_inj_right Comp.key_injective).mp this⟩

instance : Std.OrientedCmp Target.cmp := ⟨fun {a b} => by unfold Target.cmp; exact Std.OrientedCmp.eq_swap⟩
instance : Std.TransCmp Target.cmp := ⟨fun {a b c} h1 h2 => by
  unfold Target.cmp at *; exact Std.TransCmp.isLE_trans h1 h2⟩

instance : Std.TransCmp cmpStr := inferInstanceAs (Std.TransCmp (compare : Str → Str → Ordering))
instance : Std.LawfulEqCmp cmpStr := inferInstanceAs (Std.LawfulEqCmp (compare : Str → Str → Ordering))

theorem Target.cmp_eq_iff (a b : Target) : Target.cmp a b = .eq ↔ a.path = b.path := by
  unfold Target.cmp; exact Std.LawfulEqCmp.compare_eq_iff_eq

theorem cmpStr_eq_iff (a b : Str) : cmpStr a b = .eq ↔ a = b :=
  Std.LawfulEqCmp.compare_eq_iff_eq

/-! ## The sorted-list set -/

/-- Strictly ascending. -/
def Sorted {α} (cmp : α → α → Ordering) (l : List α) : Prop := l.Pairwise (fun a b => cmp a b = .lt)

section SSet
variable {α : Type} {cmp : α → α → Ordering}

theorem mem_sinsert_imp {x y : α} {l : List α} (h : y ∈ sinsert cmp x l) : y = x ∨ y ∈ l := by
  induction l with
  | nil => exact .inl (List.mem_singleton.mp h)
  | cons z zs ih =>
    rw [sinsert] at h
    split at h
    · exact List.mem_cons.mp h
    · exact .inr h
    · rcases List.mem_cons.mp h with h | h
      · exact .inr (h ▸ List.mem_cons_self)
      · exact (ih h).imp_right (List.mem_cons_of_mem _)

theorem subset_sinsert {x : α} {l : List α} : ∀ y ∈ l, y ∈ sinsert cmp x l := by
  induction l with
  | nil => exact fun _ h => nomatch h
  | cons z zs ih =>
    intro y hy
    rw [sinsert]
    split
    · exact List.mem_cons_of_mem _ hy
    · exact hy
    · exact (List.mem_cons.mp hy).elim (· ▸ List.mem_cons_self) (List.mem_cons_of_mem _ ∘ ih y)

theorem sinsert_new_or_equal (x : α) (l : List α) :
    (x ∈ sinsert cmp x l) ∨ (∃ y ∈ l, cmp x y = .eq) := by
  induction l with
  | nil => exact .inl List.mem_cons_self
  | cons z zs ih =>
    rw [sinsert]
    split
    · exact .inl List.mem_cons_self
    · exact .inr ⟨z, List.mem_cons_self, ‹_›⟩
    · exact ih.imp (List.mem_cons_of_mem _) fun ⟨y, hy, h⟩ => ⟨y, List.mem_cons_of_mem _ hy, h⟩

theorem lt_of_lt_head [Std.TransCmp cmp] {x z : α} {zs : List α} (hlt : cmp x z = .lt)
    (h : Sorted cmp (z :: zs)) : ∀ a ∈ z :: zs, cmp x a = .lt := fun a ha =>
  (List.mem_cons.mp ha).elim (· ▸ hlt) fun ha =>
    Std.TransCmp.lt_trans hlt ((List.pairwise_cons.mp h).1 a ha)

theorem not_mem_of_lt_head [Std.TransCmp cmp] {x z : α} {zs : List α} (hlt : cmp x z = .lt)
    (h : Sorted cmp (z :: zs)) : x ∉ z :: zs := fun hx => by
  have := lt_of_lt_head hlt h x hx
  rw [Std.ReflCmp.compare_self (cmp := cmp)] at this
  cases this

theorem sinsert_sorted [Std.TransCmp cmp] {x : α} {l : List α} (h : Sorted cmp l) :
    Sorted cmp (sinsert cmp x l) := by
  induction l with
  | nil => exact List.pairwise_singleton _ _
  | cons z zs ih =>
    obtain ⟨hz, hzs⟩ := List.pairwise_cons.mp h
    rw [sinsert]
    split
    · exact List.pairwise_cons.mpr ⟨lt_of_lt_head ‹_› h, h⟩
    · exact h
    · refine List.pairwise_cons.mpr ⟨fun a ha => ?_, ih hzs⟩
      rcases mem_sinsert_imp ha with rfl | ha
      · exact Std.OrientedCmp.gt_iff_lt.mp ‹_›
      · exact hz a ha

theorem sinsert_mem_cases [Std.TransCmp cmp] {x y : α} {l : List α} (hs : Sorted cmp l)
    (h : y ∈ sinsert cmp x l) : y ∈ l ∨ (y = x ∧ ∀ z ∈ l, cmp x z ≠ .eq) := by
  induction l with
  | nil => exact .inr ⟨List.mem_singleton.mp h, fun _ h => nomatch h⟩
  | cons z zs ih =>
    rw [sinsert] at h
    split at h
    · rename_i hlt
      rcases List.mem_cons.mp h with rfl | h
      · exact .inr ⟨rfl, fun w hw => by simp [lt_of_lt_head hlt hs w hw]⟩
      · exact .inl h
    · exact .inl h
    · rename_i hgt
      rcases List.mem_cons.mp h with rfl | h
      · exact .inl List.mem_cons_self
      · rcases ih (List.pairwise_cons.mp hs).2 h with h | ⟨rfl, h⟩
        · exact .inl (List.mem_cons_of_mem _ h)
        · exact .inr ⟨rfl, List.forall_mem_cons.mpr ⟨by simp [hgt], h⟩⟩

theorem mem_map_sinsert {κ : Type} (f : α → κ) (hf : ∀ a b, cmp a b = .eq ↔ f a = f b)
    (x : α) (l : List α) (k : κ) :
    k ∈ (sinsert cmp x l).map f ↔ k = f x ∨ k ∈ l.map f := by
  simp only [List.mem_map]
  constructor
  · rintro ⟨y, hy, rfl⟩
    exact (mem_sinsert_imp hy).imp (congrArg f) fun hy => ⟨y, hy, rfl⟩
  · rintro (rfl | ⟨y, hy, rfl⟩)
    · rcases sinsert_new_or_equal (cmp := cmp) x l with h | ⟨y, hy, h⟩
      · exact ⟨x, h, rfl⟩
      · exact ⟨y, subset_sinsert y hy, ((hf x y).mp h).symm⟩
    · exact ⟨y, subset_sinsert y hy, rfl⟩

theorem mem_sinsert [Std.LawfulEqCmp cmp] (x y : α) (l : List α) :
    y ∈ sinsert cmp x l ↔ y = x ∨ y ∈ l := by
  simpa using mem_map_sinsert (cmp := cmp) id (fun _ _ => Std.LawfulEqCmp.compare_eq_iff_eq) x l y

end SSet

/-! ## `BTreeSet<Target>` -/

/-- The paths of a target set. -/
def paths (s : TSet) : List Path := s.map (·.path)

theorem mem_paths_insert (t : Target) (s : TSet) (p : Path) :
    p ∈ paths (TSet.insert t s) ↔ p = t.path ∨ p ∈ paths s :=
  mem_map_sinsert (cmp := Target.cmp) (·.path) Target.cmp_eq_iff t s p

theorem Target.path_ne_of_lt {a b : Target} (h : Target.cmp a b = .lt) : a.path ≠ b.path := fun heq => by
  rw [(Target.cmp_eq_iff a b).mpr heq] at h
  cases h

theorem sorted_paths_nodup {s : TSet} (h : Sorted Target.cmp s) : (paths s).Nodup :=
  List.pairwise_map.mpr (h.imp Target.path_ne_of_lt)

theorem sorted_path_unique {s : TSet} (hs : Sorted Target.cmp s) :
    ∀ a ∈ s, ∀ b ∈ s, a.path = b.path → a = b := fun _ ha _ hb =>
  List.Pairwise.forall_of_forall_of_flip (R := fun a b => a.path = b.path → a = b) (fun _ _ _ => rfl)
    (hs.imp fun h heq => absurd heq (Target.path_ne_of_lt h))
    (hs.imp fun h heq => absurd heq.symm (Target.path_ne_of_lt h)) ha hb

abbrev insertAll (l : List Target) (s : TSet) : TSet := l.foldl (fun acc tg => TSet.insert tg acc) s

theorem fromTarget_ok {env : Env} {t : MTarget} {tg : Target} (h : Target.fromTarget env t = .ok tg) :
    tg.path = srcCanon env t ∧ tg.edition = t.edition ∧ t.kind.head? = some tg.kind := by
  unfold Target.fromTarget at h
  split at h
  · cases h
  · rename_i k ks hk
    cases h
    simp [hk]

theorem fromTarget_isOk_iff (env : Env) (t : MTarget) :
    (∃ tg, Target.fromTarget env t = .ok tg) ↔ t.kind ≠ [] := by
  unfold Target.fromTarget
  split <;> simp_all

/-- What `Target::from_target` builds when `kind` is not empty. -/
def built (env : Env) (t : MTarget) : Target := ⟨srcCanon env t, t.kind.headD [], t.edition⟩

theorem fromTarget_eq (env : Env) (t : MTarget) :
    Target.fromTarget env t = if t.kind = [] then .error .kindPanic else .ok (built env t) := by
  unfold Target.fromTarget built
  split <;> simp [*]

theorem fromTarget_built {env : Env} {t : MTarget} (h : t.kind ≠ []) :
    Target.fromTarget env t = .ok (built env t) := by
  rw [fromTarget_eq, if_neg h]

theorem insertTargets_eq (env : Env) (ts : List MTarget) (s : TSet) :
    insertTargets env ts s =
      if ∀ t ∈ ts, t.kind ≠ [] then .ok (insertAll (ts.map (built env)) s) else .error .kindPanic := by
  induction ts generalizing s with
  | nil => simp [insertTargets]
  | cons t ts ih =>
    rw [insertTargets, fromTarget_eq]
    by_cases hk : t.kind = []
    · simp [hk]
    · simp [hk, ih]

theorem insertTargets_ok_iff {env : Env} {ts : List MTarget} {s s' : TSet} :
    insertTargets env ts s = .ok s' ↔
      (∀ t ∈ ts, t.kind ≠ []) ∧ s' = insertAll (ts.map (built env)) s := by
  rw [insertTargets_eq]
  split
  · simpa [eq_comm] using fun _ => ‹∀ t ∈ ts, t.kind ≠ []›
  · simp [*]

theorem insertTargets_ok_kinds {env : Env} {ts : List MTarget} {s s' : TSet}
    (h : insertTargets env ts s = .ok s') : ∀ t ∈ ts, t.kind ≠ [] :=
  (insertTargets_ok_iff.mp h).1

theorem insertTargets_err {env : Env} {ts : List MTarget} {s : TSet} {e : Err}
    (h : insertTargets env ts s = .error e) : e = .kindPanic ∧ ∃ t ∈ ts, t.kind = [] := by
  rw [insertTargets_eq] at h
  split at h
  · cases h
  · cases h
    exact ⟨rfl, by simpa using ‹¬ ∀ t ∈ ts, t.kind ≠ []›⟩

theorem insertTargets_isOk {env : Env} {ts : List MTarget} (s : TSet) (h : ∀ t ∈ ts, t.kind ≠ []) :
    ∃ s', insertTargets env ts s = .ok s' :=
  ⟨_, insertTargets_ok_iff.mpr ⟨h, rfl⟩⟩

theorem foldl_insert_sorted (l : List Target) (s : TSet) (h : Sorted Target.cmp s) :
    Sorted Target.cmp (insertAll l s) := by
  induction l generalizing s with
  | nil => exact h
  | cons t l ih => exact ih _ (sinsert_sorted h)

theorem mem_paths_foldl_insert (l : List Target) (s : TSet) (p : Path) :
    p ∈ paths (insertAll l s) ↔ p ∈ paths s ∨ p ∈ l.map (·.path) := by
  induction l generalizing s with
  | nil => simp
  | cons t l ih =>
    simp only [List.foldl_cons, ih, mem_paths_insert, List.map_cons, List.mem_cons, or_assoc,
      or_left_comm]

theorem subset_foldl_insert (l : List Target) (s : TSet) :
    ∀ y ∈ s, y ∈ insertAll l s := by
  induction l generalizing s with
  | nil => exact fun _ h => h
  | cons t l ih => exact fun y hy => ih _ y (subset_sinsert y hy)

theorem mem_foldl_insert_imp (l : List Target) (s : TSet) :
    ∀ y ∈ insertAll l s, y ∈ s ∨ y ∈ l := by
  induction l generalizing s with
  | nil => exact fun _ h => .inl h
  | cons t l ih =>
    intro y hy
    rcases ih _ y hy with h | h
    · exact (mem_sinsert_imp h).symm.imp_right fun (e : y = t) => e ▸ List.mem_cons_self
    · exact .inr (List.mem_cons_of_mem _ h)

/-- First insertion wins: an element of the final set is an old one, or the *first* of the
inserted targets with its path, and then no old element had that path. -/
theorem foldl_insert_first_wins (l : List Target) (s : TSet) (hs : Sorted Target.cmp s) :
    ∀ y ∈ l.foldl (fun acc tg => TSet.insert tg acc) s,
      y ∈ s ∨ ((∀ z ∈ s, z.path ≠ y.path) ∧
        ∃ pre post, l = pre ++ y :: post ∧ ∀ z ∈ pre, z.path ≠ y.path) := by
  induction l generalizing s with
  | nil => intro y hy; exact .inl hy
  | cons t l ih =>
    intro y hy
    rcases ih _ (sinsert_sorted hs) y hy with h | ⟨h1, pre, post, h2, h3⟩
    · rcases sinsert_mem_cases hs h with h | ⟨rfl, h⟩
      · exact .inl h
      · exact .inr ⟨fun z hz heq => h z hz ((Target.cmp_eq_iff _ _).mpr heq.symm), [], l, rfl, nofun⟩
    · -- `t`'s path is in the set after the first insertion, so it is not `y`'s
      have ht : t.path ≠ y.path := fun heq => by
        obtain ⟨z, hz, hzp⟩ := List.mem_map.mp ((mem_paths_insert t s _).mpr (.inl rfl))
        exact h1 z hz (hzp.trans heq)
      exact .inr ⟨fun z hz => h1 z (subset_sinsert z hz), t :: pre, post, by rw [h2]; rfl,
        List.forall_mem_cons.mpr ⟨ht, h3⟩⟩

theorem insertTargets_sorted {env : Env} {ts : List MTarget} {s s' : TSet}
    (h : insertTargets env ts s = .ok s') (hs : Sorted Target.cmp s) : Sorted Target.cmp s' := by
  rw [(insertTargets_ok_iff.mp h).2]; exact foldl_insert_sorted _ _ hs

theorem mem_paths_insertTargets {env : Env} {ts : List MTarget} {s s' : TSet}
    (h : insertTargets env ts s = .ok s') (p : Path) :
    p ∈ paths s' ↔ p ∈ paths s ∨ ∃ t ∈ ts, srcCanon env t = p := by
  rw [(insertTargets_ok_iff.mp h).2, mem_paths_foldl_insert]
  simp [built, eq_comm]

theorem insertTargets_subset {env : Env} {ts : List MTarget} {s s' : TSet}
    (h : insertTargets env ts s = .ok s') : ∀ y ∈ s, y ∈ s' := by
  rw [(insertTargets_ok_iff.mp h).2]; exact subset_foldl_insert _ _

/-! ## The dependency loop, one step -/

/-- The manifest the dependency loop recurses into for `d` in state `st` (main.rs 420-430), if any:
`d` has a path, its name is not visited yet, and the manifest is followable. -/
def followed (env : Env) (md : Metadata) (st : RecState) (d : Dep) : Option Path :=
  match d.path with
  | none => none
  | some p =>
    if st.visited.contains d.name then none
    else if followable env md (depManifest p) then some (depManifest p) else none

theorem depsLoop_cons (env : Env) (call : Path → RecState → Option (Except Err RecState))
    (md : Metadata) (d : Dep) (ds : List Dep) (st : RecState) :
    depsLoop env call md (d :: ds) st =
      match followed env md st d with
      | none => depsLoop env call md ds st
      | some m =>
        match call m { st with visited := d.name :: st.visited } with
        | some (.ok st') => depsLoop env call md ds st'
        | r => r := by
  rw [depsLoop, followed]
  cases d.path with
  | none => rfl
  | some p =>
    dsimp only
    by_cases hv : st.visited.contains d.name = true
    · rw [if_pos hv, if_pos hv]
    · rw [if_neg hv, if_neg hv]
      by_cases hf : followable env md (depManifest p) = true
      · rw [if_pos hf, if_pos hf]
        rfl
      · rw [if_neg hf, if_neg hf]

theorem followed_eq_some {env : Env} {md : Metadata} {st : RecState} {d : Dep} {m : Path}
    (h : followed env md st d = some m) :
    ∃ p, d.path = some p ∧ d.name ∉ st.visited ∧ followable env md m = true ∧ m = depManifest p := by
  unfold followed at h
  split at h
  · cases h
  · rename_i p hp
    split at h
    · cases h
    · rename_i hv
      split at h
      · cases h
        exact ⟨p, hp, by simpa using hv, ‹_›, rfl⟩
      · cases h

theorem followed_eq_none {env : Env} {md : Metadata} {st : RecState} {d : Dep} {p : Str}
    (h : followed env md st d = none) (hp : d.path = some p)
    (hf : followable env md (depManifest p) = true) : d.name ∈ st.visited := by
  rw [followed, hp] at h
  dsimp only at h
  rw [if_pos hf] at h
  split at h
  · simpa using ‹st.visited.contains d.name = true›
  · cases h

/-! ## `--all`: the recursion computes the reachable closure -/

/-- A path dependency named `n` in the answer `md` whose manifest `m'` the code follows. -/
def MdEdge (env : Env) (md : Metadata) (n : Str) (m' : Path) : Prop :=
  ∃ pkg ∈ md.packages, ∃ d ∈ pkg.deps, ∃ p, d.path = some p ∧ d.name = n ∧ m' = depManifest p ∧
    followable env md m' = true

/-- The answer for manifest `m` has a followed dependency named `n` with manifest `m'`. -/
def EdgeN (env : Env) (m : Option Path) (n : Str) (m' : Path) : Prop :=
  ∃ md, env.metadata m = .ok md ∧ MdEdge env md n m'

/-- Manifests reachable from the starting one along followed path dependencies. -/
inductive Reach (env : Env) (root : Option Path) : Option Path → Prop
  | root : Reach env root root
  | step {m n m'} : Reach env root m → EdgeN env m n m' → Reach env root (some m')

/-- The paths `--all` should collect: every target of every package of every reachable answer. -/
def SpecPath (env : Env) (root : Option Path) (p : Path) : Prop :=
  ∃ m md, Reach env root m ∧ env.metadata m = .ok md ∧
    ∃ pkg ∈ md.packages, ∃ t ∈ pkg.targets, srcCanon env t = p

/-- Among the followed dependencies reachable from `root`, the name determines the manifest. -/
def NameFun (env : Env) (root : Option Path) : Prop :=
  ∀ m₁ m₂ n m₁' m₂', Reach env root m₁ → Reach env root m₂ →
    EdgeN env m₁ n m₁' → EdgeN env m₂ n m₂' → m₁' = m₂'

/-- Every target of `m`'s answer is collected and every followed dependency name of it is visited. -/
def Closed (env : Env) (st : RecState) (m : Option Path) : Prop :=
  ∀ md, env.metadata m = .ok md →
    (∀ pkg ∈ md.packages, ∀ t ∈ pkg.targets, srcCanon env t ∈ paths st.targets) ∧
    (∀ n m', MdEdge env md n m' → n ∈ st.visited)

/-- The manifest of every reachable followed dependency named `n` is `Closed`. -/
def ClosedName (env : Env) (root : Option Path) (n : Str) (st : RecState) : Prop :=
  ∀ m m', Reach env root m → EdgeN env m n m' → Closed env st (some m')

/-- `st'` extends `st`: both components grow, what is new is justified, and every name that
became visited has its manifest completely processed. -/
structure Ext (env : Env) (root : Option Path) (st st' : RecState) : Prop where
  vis : ∀ n ∈ st.visited, n ∈ st'.visited
  tgt : ∀ p ∈ paths st.targets, p ∈ paths st'.targets
  sound : ∀ p ∈ paths st'.targets, p ∈ paths st.targets ∨ SpecPath env root p
  sorted : Sorted Target.cmp st.targets → Sorted Target.cmp st'.targets
  newClosed : ∀ n ∈ st'.visited, n ∉ st.visited → ClosedName env root n st'

theorem Closed.mono {env : Env} {st st' : RecState} {m : Option Path} (h : Closed env st m)
    (hv : ∀ n ∈ st.visited, n ∈ st'.visited) (ht : ∀ p ∈ paths st.targets, p ∈ paths st'.targets) :
    Closed env st' m := by
  intro md hmd
  obtain ⟨h1, h2⟩ := h md hmd
  exact ⟨fun pkg hp t ht' => ht _ (h1 pkg hp t ht'), fun n m' he => hv _ (h2 n m' he)⟩

theorem Ext.refl (env : Env) (root : Option Path) (st : RecState) : Ext env root st st :=
  ⟨fun _ h => h, fun _ h => h, fun _ h => .inl h, fun h => h, fun _ h h' => absurd h h'⟩

theorem Ext.trans {env : Env} {root : Option Path} {a b c : RecState}
    (h1 : Ext env root a b) (h2 : Ext env root b c) : Ext env root a c where
  vis := fun n h => h2.vis n (h1.vis n h)
  tgt := fun p h => h2.tgt p (h1.tgt p h)
  sound := fun p h => by
    rcases h2.sound p h with h | h
    · exact h1.sound p h
    · exact .inr h
  sorted := fun h => h2.sorted (h1.sorted h)
  newClosed := fun n hn hna => by
    by_cases hb : n ∈ b.visited
    · intro m m' hr he
      exact (h1.newClosed n hb hna m m' hr he).mono h2.vis h2.tgt
    · exact h2.newClosed n hn hb

/-- What a (recursive) call on a reachable manifest guarantees. -/
def CallSpec (env : Env) (root : Option Path)
    (call : Path → RecState → Option (Except Err RecState)) : Prop :=
  ∀ m st st', Reach env root (some m) → call m st = some (.ok st') →
    Ext env root st st' ∧ Closed env st' (some m)

theorem depsLoop_spec {env : Env} {root : Option Path}
    {call : Path → RecState → Option (Except Err RecState)} (hcall : CallSpec env root call)
    (hfun : NameFun env root) {m : Option Path} (hm : Reach env root m) {md : Metadata}
    (hmd : env.metadata m = .ok md) {pkg : Package} (hpkg : pkg ∈ md.packages)
    (ds : List Dep) (hds : ∀ d ∈ ds, d ∈ pkg.deps) :
    ∀ st st', depsLoop env call md ds st = some (.ok st') →
      Ext env root st st' ∧ ∀ d ∈ ds, ∀ p, d.path = some p →
        followable env md (depManifest p) = true → d.name ∈ st'.visited := by
  induction ds with
  | nil => intro st st' h; cases h; exact ⟨.refl _ _ _, nofun⟩
  | cons d ds ih =>
    obtain ⟨hd, hds⟩ := List.forall_mem_cons.mp hds
    intro st st'
    rw [depsLoop_cons]
    split
    · rename_i hnone
      intro h
      obtain ⟨h1, h2⟩ := ih hds st st' h
      exact ⟨h1, List.forall_mem_cons.mpr
        ⟨fun p hp hf => h1.vis _ (followed_eq_none hnone hp hf), h2⟩⟩
    · rename_i m' hsome
      obtain ⟨p, hp, -, hfol, rfl⟩ := followed_eq_some hsome
      split
      · rename_i st1 hc
        intro h
        have hedge : EdgeN env m d.name (depManifest p) :=
          ⟨md, hmd, pkg, hpkg, d, hd, p, hp, rfl, rfl, hfol⟩
        obtain ⟨hc1, hc2⟩ := hcall _ _ _ (.step hm hedge) hc
        obtain ⟨h1, h2⟩ := ih hds st1 st' h
        -- the call closed `d.name`'s manifest; by `NameFun` that is the manifest of every
        -- reachable dependency of that name
        have hext : Ext env root st st1 :=
          { vis := fun n hn => hc1.vis n (List.mem_cons_of_mem _ hn)
            tgt := hc1.tgt, sound := hc1.sound, sorted := hc1.sorted
            newClosed := fun n hn hna => by
              by_cases hnd : n = d.name
              · subst hnd
                intro m2 m2' hr2 he2
                exact hfun _ _ _ _ _ hr2 hm he2 hedge ▸ hc2
              · exact hc1.newClosed n hn (by simp [hnd, hna]) }
        exact ⟨hext.trans h1, List.forall_mem_cons.mpr
          ⟨fun _ _ _ => h1.vis _ (hc1.vis _ List.mem_cons_self), h2⟩⟩
      · rename_i hne
        exact fun h => (hne _ h).elim

theorem pkgsLoop_spec {env : Env} {root : Option Path}
    {call : Path → RecState → Option (Except Err RecState)} (hcall : CallSpec env root call)
    (hfun : NameFun env root) {m : Option Path} (hm : Reach env root m) {md : Metadata}
    (hmd : env.metadata m = .ok md) (ps : List Package) (hps : ∀ p ∈ ps, p ∈ md.packages) :
    ∀ st st', pkgsLoop env call md ps st = some (.ok st') →
      Ext env root st st' ∧
      (∀ pkg ∈ ps, ∀ t ∈ pkg.targets, srcCanon env t ∈ paths st'.targets) ∧
      (∀ pkg ∈ ps, ∀ d ∈ pkg.deps, ∀ p, d.path = some p →
        followable env md (depManifest p) = true → d.name ∈ st'.visited) := by
  induction ps with
  | nil => intro st st' h; cases h; exact ⟨.refl _ _ _, nofun, nofun⟩
  | cons pkg ps ih =>
    obtain ⟨hpkg, hps⟩ := List.forall_mem_cons.mp hps
    intro st st'
    rw [pkgsLoop]
    split
    · exact nofun
    · rename_i ts hins
      split
      · rename_i st1 hdl
        intro h
        obtain ⟨hd1, hd2⟩ := depsLoop_spec hcall hfun hm hmd hpkg pkg.deps (fun _ h => h) _ _ hdl
        obtain ⟨h1, h2, h3⟩ := ih hps st1 st' h
        have hmem := mem_paths_insertTargets hins
        have hext0 : Ext env root st { st with targets := ts } :=
          { vis := fun _ h => h
            tgt := fun p hp => (hmem p).mpr (.inl hp)
            sound := fun p hp => ((hmem p).mp hp).imp_right
              fun ⟨t, ht, hp⟩ => ⟨m, md, hm, hmd, pkg, hpkg, t, ht, hp⟩
            sorted := insertTargets_sorted hins
            newClosed := fun _ h h' => absurd h h' }
        exact ⟨(hext0.trans hd1).trans h1,
          List.forall_mem_cons.mpr
            ⟨fun t ht => h1.tgt _ (hd1.tgt _ ((hmem _).mpr (.inr ⟨t, ht, rfl⟩))), h2⟩,
          List.forall_mem_cons.mpr ⟨fun d hd p hdp hf => h1.vis _ (hd2 d hd p hdp hf), h3⟩⟩
      · rename_i hne
        exact fun h => (hne _ h).elim

theorem recursive_spec {env : Env} {root : Option Path} (hfun : NameFun env root) (fuel : Nat) :
    ∀ (m : Option Path) (st st' : RecState), Reach env root m →
      getTargetsRecursive env fuel m st = some (.ok st') →
      Ext env root st st' ∧ Closed env st' m := by
  induction fuel with
  | zero => exact fun _ _ _ _ => nofun
  | succ fuel ih =>
    intro m st st' hm
    rw [getTargetsRecursive]
    split
    · exact nofun
    · rename_i md hmd
      intro h
      obtain ⟨h1, h2, h3⟩ := pkgsLoop_spec (fun m st st' => ih (some m) st st') hfun hm hmd
        md.packages (fun _ h => h) st st' h
      refine ⟨h1, fun md' hmd' => ?_⟩
      cases hmd.symm.trans hmd'
      exact ⟨h2, fun n m' ⟨pkg, hpkg, d, hd, p, hdp, hn, hm', hf⟩ => hn ▸ h3 pkg hpkg d hd p hdp (hm' ▸ hf)⟩

theorem recursive_closed_all {env : Env} {root : Option Path} (hfun : NameFun env root) {fuel : Nat}
    {st' : RecState} (h : getTargetsRecursive env fuel root ⟨[], []⟩ = some (.ok st')) :
    ∀ m, Reach env root m → Closed env st' m := by
  obtain ⟨hext, hcl⟩ := recursive_spec hfun fuel root _ _ .root h
  intro m hm
  induction hm with
  | root => exact hcl
  | step hr he ih =>
    rename_i m n m'
    obtain ⟨md, hmd, hedge⟩ := he
    have hn : n ∈ st'.visited := (ih md hmd).2 n m' hedge
    exact hext.newClosed n hn (by simp) _ _ hr ⟨md, hmd, hedge⟩

theorem recursive_paths_iff {env : Env} {root : Option Path} (hfun : NameFun env root) {fuel : Nat}
    {st' : RecState} (h : getTargetsRecursive env fuel root ⟨[], []⟩ = some (.ok st')) (p : Path) :
    p ∈ paths st'.targets ↔ SpecPath env root p := by
  constructor
  · intro hp
    rcases (recursive_spec hfun fuel root _ _ .root h).1.sound p hp with h | h
    · simp [paths] at h
    · exact h
  · rintro ⟨m, md, hm, hmd, pkg, hpkg, t, ht, rfl⟩
    exact (recursive_closed_all hfun h m hm md hmd).1 pkg hpkg t ht

/-- Number of (occurrences of) names not yet visited: the measure of the recursion. -/
def unv (names V : List Str) : Nat := names.countP (· ∉ V)

theorem unv_le_length (names V : List Str) : unv names V ≤ names.length := List.countP_le_length

theorem unv_le {names V V' : List Str} (h : ∀ n ∈ V, n ∈ V') : unv names V' ≤ unv names V :=
  List.countP_mono_left fun a _ ha => decide_eq_true fun hv => of_decide_eq_true ha (h a hv)

theorem unv_lt {names V : List Str} {n : Str} (hn : n ∈ names) (hv : n ∉ V) :
    unv names (n :: V) < unv names V := by
  obtain ⟨pre, post, rfl⟩ := List.append_of_mem hn
  have hle : ∀ l, unv l (n :: V) ≤ unv l V := fun l => unv_le fun x hx => List.mem_cons_of_mem _ hx
  rw [unv, unv, List.countP_append, List.countP_append,
    List.countP_cons_of_neg (by simp), List.countP_cons_of_pos (by simpa using hv)]
  exact Nat.add_lt_add_of_le_of_lt (hle pre) (Nat.lt_succ_of_le (hle post))

/-- Every path dependency of every answer has its name in `names`. -/
def NamesBound (env : Env) (names : List Str) : Prop :=
  ∀ m md, env.metadata m = .ok md → ∀ pkg ∈ md.packages, ∀ d ∈ pkg.deps, d.path.isSome → d.name ∈ names

/-- The call does not run out of fuel, and on success only adds to `visited`. -/
def Answers (x : Option (Except Err RecState)) (st : RecState) : Prop :=
  ∃ r, x = some r ∧ ∀ st', r = .ok st' → ∀ n ∈ st.visited, n ∈ st'.visited

theorem Answers.error (e : Err) (st : RecState) : Answers (some (.error e)) st := ⟨_, rfl, nofun⟩

/-- "`call` answers whenever fewer than `k` names are unvisited". -/
def CallTotal (names : List Str) (k : Nat) (call : Path → RecState → Option (Except Err RecState)) : Prop :=
  ∀ m st, unv names st.visited < k → Answers (call m st) st

theorem depsLoop_total {env : Env} {names : List Str} {k : Nat}
    {call : Path → RecState → Option (Except Err RecState)} (hcall : CallTotal names k call)
    (md : Metadata) (ds : List Dep) (hds : ∀ d ∈ ds, d.path.isSome → d.name ∈ names) :
    ∀ st, unv names st.visited ≤ k → Answers (depsLoop env call md ds st) st := by
  induction ds with
  | nil => exact fun st _ => ⟨.ok st, rfl, fun _ h => by cases h; exact fun _ h => h⟩
  | cons d ds ih =>
    obtain ⟨hd, hds⟩ := List.forall_mem_cons.mp hds
    intro st hk
    rw [depsLoop_cons]
    split
    · exact ih hds st hk
    · rename_i m hm
      obtain ⟨p, hp, hvis, -, -⟩ := followed_eq_some hm
      -- the recursive call sees one unvisited name less
      have hlt := unv_lt (hd (by rw [hp]; rfl)) hvis
      obtain ⟨r, hr1, hr2⟩ := hcall m { st with visited := d.name :: st.visited }
        (Nat.lt_of_lt_of_le hlt hk)
      rw [hr1]
      cases r with
      | error e => exact .error e st
      | ok st1 =>
        have hsub := hr2 st1 rfl
        obtain ⟨r', h1, h2⟩ := ih hds st1
          (Nat.le_trans (unv_le hsub) (Nat.le_trans (Nat.le_of_lt hlt) hk))
        exact ⟨r', h1, fun st' hst' n hn => h2 st' hst' n (hsub n (List.mem_cons_of_mem _ hn))⟩

theorem pkgsLoop_total {env : Env} {names : List Str} {k : Nat}
    {call : Path → RecState → Option (Except Err RecState)} (hcall : CallTotal names k call)
    (md : Metadata) (ps : List Package)
    (hps : ∀ p ∈ ps, ∀ d ∈ p.deps, d.path.isSome → d.name ∈ names) :
    ∀ st, unv names st.visited ≤ k → Answers (pkgsLoop env call md ps st) st := by
  induction ps with
  | nil => exact fun st _ => ⟨.ok st, rfl, fun _ h => by cases h; exact fun _ h => h⟩
  | cons p ps ih =>
    obtain ⟨hp, hps⟩ := List.forall_mem_cons.mp hps
    intro st hk
    rw [pkgsLoop]
    split
    · exact .error _ st
    · rename_i ts _
      obtain ⟨r, hr1, hr2⟩ := depsLoop_total (env := env) hcall md p.deps hp { st with targets := ts } hk
      rw [hr1]
      cases r with
      | error e => exact .error e st
      | ok st1 =>
        have hsub := hr2 st1 rfl
        obtain ⟨r', h1, h2⟩ := ih hps st1 (Nat.le_trans (unv_le hsub) hk)
        exact ⟨r', h1, fun st' hst' n hn => h2 st' hst' n (hsub n hn)⟩

/-- The recursion needs at most one level per unvisited dependency name, plus one. -/
theorem recursive_total {env : Env} {names : List Str} (hb : NamesBound env names) (fuel : Nat) :
    ∀ (m : Option Path) (st : RecState), unv names st.visited < fuel →
      Answers (getTargetsRecursive env fuel m st) st := by
  induction fuel with
  | zero => exact fun _ _ h => absurd h (Nat.not_lt_zero _)
  | succ fuel ih =>
    intro m st h
    rw [getTargetsRecursive]
    split
    · exact .error _ st
    · exact pkgsLoop_total (fun m => ih (some m)) _ _ (hb m _ ‹_›) st (Nat.le_of_lt_succ h)

theorem recursive_fuel_suffices {env : Env} {names : List Str} (hb : NamesBound env names)
    (fuel : Nat) (hf : names.length < fuel) (m : Option Path) (ts : TSet) :
    (getTargetsRecursive env fuel m ⟨ts, []⟩).isSome = true := by
  obtain ⟨r, hr, _⟩ := recursive_total hb fuel m ⟨ts, []⟩ (Nat.lt_of_le_of_lt (unv_le_length names []) hf)
  rw [hr]
  rfl

/-- A `call` that answers wherever the old one did gives the same loop result. -/
theorem depsLoop_call_mono {env : Env} {call call' : Path → RecState → Option (Except Err RecState)}
    (hc : ∀ m st r, call m st = some r → call' m st = some r) (md : Metadata) (ds : List Dep) :
    ∀ st r, depsLoop env call md ds st = some r → depsLoop env call' md ds st = some r := by
  induction ds with
  | nil => exact fun _ _ h => h
  | cons d ds ih =>
    intro st r
    rw [depsLoop_cons, depsLoop_cons]
    split
    · exact ih st r
    · rename_i m _
      cases hcall : call m { st with visited := d.name :: st.visited } with
      | none => exact nofun
      | some r1 =>
        rw [hc _ _ _ hcall]
        cases r1 with
        | error e => exact id
        | ok st1 => exact ih st1 r

theorem pkgsLoop_call_mono {env : Env} {call call' : Path → RecState → Option (Except Err RecState)}
    (hc : ∀ m st r, call m st = some r → call' m st = some r) (md : Metadata) (ps : List Package) :
    ∀ st r, pkgsLoop env call md ps st = some r → pkgsLoop env call' md ps st = some r := by
  induction ps with
  | nil => exact fun _ _ h => h
  | cons p ps ih =>
    intro st r
    rw [pkgsLoop, pkgsLoop]
    split
    · exact id
    · rename_i ts _
      cases hd : depsLoop env call md p.deps { st with targets := ts } with
      | none => exact nofun
      | some r1 =>
        rw [depsLoop_call_mono hc md _ _ _ hd]
        cases r1 with
        | error e => exact id
        | ok st1 => exact ih st1 r

/-- More fuel never changes an answer. -/
theorem recursive_fuel_mono {env : Env} (fuel : Nat) :
    ∀ (m : Option Path) (st : RecState) (r : Except Err RecState),
      getTargetsRecursive env fuel m st = some r → getTargetsRecursive env (fuel + 1) m st = some r := by
  induction fuel with
  | zero => exact nofun
  | succ fuel ih =>
    intro m st r
    rw [getTargetsRecursive, getTargetsRecursive]
    split
    · exact id
    · exact pkgsLoop_call_mono (fun m => ih (some m)) _ _ _ _

theorem recursive_fuel_indep {env : Env} {f f' : Nat} {m : Option Path} {st : RecState}
    {r r' : Except Err RecState} (h : getTargetsRecursive env f m st = some r)
    (h' : getTargetsRecursive env f' m st = some r') : r = r' := by
  have mono : ∀ k f r, getTargetsRecursive env f m st = some r →
      getTargetsRecursive env (f + k) m st = some r := by
    intro k
    induction k with
    | zero => intro f r h; exact h
    | succ k ih => intro f r h; exact recursive_fuel_mono _ _ _ _ (ih f r h)
  have h1 := mono f' f r h
  have h2 := mono f f' r' h'
  rw [Nat.add_comm] at h2
  rw [h1] at h2
  cases h2; rfl

theorem world_metadata_mem {w : World} {m : Option Path} {md : Metadata}
    (h : w.env.metadata m = .ok md) : ∃ a ∈ w.answers, a.2 = .ok md := by
  simp only [World.env] at h
  split at h
  · exact ⟨_, List.mem_of_find?_eq_some ‹_›, h⟩
  · cases h

theorem world_namesBound (w : World) : NamesBound w.env w.depNames := by
  intro m md hmd pkg hpkg d hd hp
  obtain ⟨a, ha, hmd⟩ := world_metadata_mem hmd
  simp only [World.depNames, List.mem_flatMap]
  refine ⟨a, ha, ?_⟩
  rw [hmd]
  exact List.mem_flatMap.mpr ⟨pkg, hpkg, List.mem_map.mpr ⟨d, List.mem_filter.mpr ⟨hd, hp⟩, rfl⟩⟩

theorem world_edge_allDeps {w : World} {m : Option Path} {n : Str} {m' : Path}
    (h : EdgeN w.env m n m') : ∃ q, (n, q) ∈ w.allDeps ∧ m' = depManifest q := by
  obtain ⟨md, hmd, pkg, hpkg, d, hd, q, hq, hn, hm', _⟩ := h
  obtain ⟨a, ha, hmd⟩ := world_metadata_mem hmd
  refine ⟨q, ?_, hm'⟩
  simp only [World.allDeps, List.mem_flatMap]
  refine ⟨a, ha, ?_⟩
  rw [hmd]
  exact List.mem_flatMap.mpr ⟨pkg, hpkg, List.mem_filterMap.mpr ⟨d, hd, by rw [hq, ← hn]; rfl⟩⟩

theorem world_fuel_suffices (w : World) (m : Option Path) (ts : TSet) :
    (getTargetsRecursive w.env w.fuel m ⟨ts, []⟩).isSome = true :=
  recursive_fuel_suffices (world_namesBound w) _ (by simp [World.fuel]) m ts

/-! ## `-p`: the hit list -/

theorem hitSet_spec (l : List Str) : Sorted cmpStr (hitSet l) ∧ ∀ n, n ∈ hitSet l ↔ n ∈ l := by
  suffices H : ∀ acc, Sorted cmpStr acc →
      Sorted cmpStr (l.foldl (fun s n => sinsert cmpStr n s) acc) ∧
      ∀ n, n ∈ l.foldl (fun s n => sinsert cmpStr n s) acc ↔ n ∈ acc ∨ n ∈ l by
    simpa [hitSet] using H [] .nil
  induction l with
  | nil => exact fun acc h => ⟨h, by simp⟩
  | cons a l ih =>
    intro acc h
    obtain ⟨h1, h2⟩ := ih _ (sinsert_sorted (x := a) h)
    refine ⟨h1, fun n => ?_⟩
    simp only [List.foldl_cons, h2, mem_sinsert, List.mem_cons, or_assoc, or_left_comm]

theorem scontains_str (x : Str) (l : List Str) : scontains cmpStr x l = true ↔ x ∈ l := by
  simp [scontains]

theorem mem_sremove_str (x y : Str) (l : List Str) : y ∈ sremove cmpStr x l ↔ y ∈ l ∧ y ≠ x := by
  simp only [sremove, List.mem_filter, bne_iff_ne, ne_eq, cmpStr_eq_iff]
  constructor
  · rintro ⟨h1, h2⟩; exact ⟨h1, fun h => h2 h.symm⟩
  · rintro ⟨h1, h2⟩; exact ⟨h1, fun h => h2 h.symm⟩

theorem sremove_sorted (x : Str) {l : List Str} (h : Sorted cmpStr l) : Sorted cmpStr (sremove cmpStr x l) :=
  List.Pairwise.filter _ h

/-- The targets of the first package called `n`. -/
def FirstNamed (env : Env) (ps : List Package) (n : Str) (p : Path) : Prop :=
  ∃ pkg, ps.find? (fun q => q.name == n) = some pkg ∧ ∃ t ∈ pkg.targets, srcCanon env t = p

theorem firstNamed_cons (env : Env) (q : Package) (ps : List Package) (n : Str) (p : Path) :
    FirstNamed env (q :: ps) n p ↔
      if q.name = n then ∃ t ∈ q.targets, srcCanon env t = p else FirstNamed env ps n p := by
  unfold FirstNamed
  rw [List.find?_cons]
  by_cases h : q.name = n
  · simp [h]
  · simp [h, beq_eq_false_iff_ne.mpr h]

/-- A name leaves the hit list at the first package that bears it, so only that package's targets
are inserted for it. -/
theorem hitlistLoop_spec {env : Env} (ps : List Package) (hit : List Str) (s : TSet)
    {hit' : List Str} {s' : TSet} (h : hitlistLoop env ps hit s = .ok (hit', s')) :
    (∀ n, n ∈ hit' ↔ n ∈ hit ∧ ∀ q ∈ ps, q.name ≠ n) ∧
    (Sorted cmpStr hit → Sorted cmpStr hit') ∧
    (∀ p, p ∈ paths s' ↔ p ∈ paths s ∨ ∃ n ∈ hit, FirstNamed env ps n p) := by
  induction ps generalizing hit s with
  | nil =>
    cases h
    simp [FirstNamed]
  | cons q ps ih =>
    rw [hitlistLoop] at h
    split at h
    · rename_i hc
      rw [scontains_str] at hc
      split at h
      · cases h
      · rename_i s1 hins
        obtain ⟨h1, h2, h4⟩ := ih _ _ h
        refine ⟨fun n => ?_, fun hs => h2 (sremove_sorted _ hs), fun p => ?_⟩
        · rw [h1, mem_sremove_str, List.forall_mem_cons, and_assoc, ne_comm]
        · rw [h4, mem_paths_insertTargets hins, or_assoc]
          refine or_congr_right ⟨?_, ?_⟩
          · rintro (ht | ⟨n, hn, hf⟩)
            · exact ⟨q.name, hc, (firstNamed_cons ..).mpr (by rwa [if_pos rfl])⟩
            · obtain ⟨hn, hne⟩ := (mem_sremove_str ..).mp hn
              exact ⟨n, hn, (firstNamed_cons ..).mpr (by rwa [if_neg (Ne.symm hne)])⟩
          · rintro ⟨n, hn, hf⟩
            rw [firstNamed_cons] at hf
            by_cases hqn : q.name = n
            · rw [if_pos hqn] at hf
              exact .inl hf
            · rw [if_neg hqn] at hf
              exact .inr ⟨n, (mem_sremove_str ..).mpr ⟨hn, Ne.symm hqn⟩, hf⟩
    · rename_i hc
      rw [scontains_str] at hc
      obtain ⟨h1, h2, h4⟩ := ih _ _ h
      have hne : ∀ n ∈ hit, q.name ≠ n := fun n hn e => hc (e ▸ hn)
      refine ⟨fun n => ?_, h2, fun p => ?_⟩
      · rw [h1, List.forall_mem_cons]
        exact and_congr_right fun hn => (and_iff_right (hne n hn)).symm
      · rw [h4]
        refine or_congr_right (exists_congr fun n => and_congr_right fun hn => ?_)
        rw [firstNamed_cons, if_neg (hne n hn)]

theorem hitlistLoop_err {env : Env} (ps : List Package) (hit : List Str) (s : TSet) {e : Err}
    (h : hitlistLoop env ps hit s = .error e) :
    e = .kindPanic ∧ ∃ q ∈ ps, ∃ t ∈ q.targets, t.kind = [] := by
  induction ps generalizing hit s with
  | nil => simp [hitlistLoop] at h
  | cons q ps ih =>
    simp only [hitlistLoop] at h
    split at h
    · split at h
      · rename_i e' he
        cases h
        obtain ⟨h1, t, ht, hk⟩ := insertTargets_err he
        exact ⟨h1, q, by simp, t, ht, hk⟩
      · obtain ⟨h1, x, hx, h2⟩ := ih _ _ h
        exact ⟨h1, x, by simp [hx], h2⟩
    · obtain ⟨h1, x, hx, h2⟩ := ih _ _ h
      exact ⟨h1, x, by simp [hx], h2⟩

theorem sorted_head_le {n : Str} {r : List Str} (hs : Sorted cmpStr (n :: r)) :
    ∀ x ∈ n :: r, cmpStr n x ≠ .gt := by
  intro x hx
  rcases List.mem_cons.mp hx with rfl | hx
  · simp [Std.ReflCmp.compare_self]
  · simp [(List.pairwise_cons.mp hs).1 x hx]

theorem hitlist_spec {env : Env} {mp : Option Path} {names : List Str} {md : Metadata}
    (hmd : env.metadata mp = .ok md) :
    match getTargetsWithHitlist env mp names [] with
    | .ok s =>
        (∀ n ∈ names, ∃ q ∈ md.packages, q.name = n) ∧
        ∀ p, p ∈ paths s ↔ ∃ n ∈ names, FirstNamed env md.packages n p
    | .error e =>
        (e = .kindPanic ∧ ∃ q ∈ md.packages, ∃ t ∈ q.targets, t.kind = []) ∨
        (∃ n, e = .notMember n ∧ n ∈ names ∧ (∀ q ∈ md.packages, q.name ≠ n) ∧
          ∀ n' ∈ names, (∀ q ∈ md.packages, q.name ≠ n') → cmpStr n n' ≠ .gt) := by
  obtain ⟨hs0, hm0⟩ := hitSet_spec names
  unfold getTargetsWithHitlist
  simp only [hmd]
  cases hl : hitlistLoop env md.packages (hitSet names) [] with
  | error e => exact .inl (hitlistLoop_err _ _ _ hl)
  | ok r =>
    obtain ⟨hit', s'⟩ := r
    obtain ⟨h1, h2, h4⟩ := hitlistLoop_spec _ _ _ hl
    simp only [hm0] at h1 h4
    cases hit' with
    | nil =>
      refine ⟨fun n hn => Classical.byContradiction fun hc => ?_, fun p => by rw [h4]; simp [paths]⟩
      exact List.not_mem_nil ((h1 n).mpr ⟨hn, fun q hq e => hc ⟨q, hq, e⟩⟩)
    | cons n r =>
      have hn := (h1 n).mp List.mem_cons_self
      exact .inr ⟨n, rfl, hn.1, hn.2, fun n' hn' hmiss =>
        sorted_head_le (h2 hs0) n' ((h1 n').mpr ⟨hn', hmiss⟩)⟩

/-! ## The root strategy -/

/-- `current_dir_manifest`. -/
def currentManifest (env : Env) : Option Path → Option Path
  | some tm => env.canon tm
  | none => (env.canon env.cwd).map Path.joinCargoToml

/-- `in_workspace_root`. -/
def inWsRoot (env : Env) (wsRoot : Path) : Option Path → Bool
  | some tm => wsRoot == tm
  | none => env.canon env.cwd == some wsRoot

/-- Which packages `get_targets_root_only` takes. -/
def RootSelected (env : Env) (mp : Option Path) (md : Metadata) (wsRoot here : Path) (pkg : Package) : Prop :=
  md.packages.length = 1 ∨ inWsRoot env wsRoot mp = true ∨
    (env.canon (parsePath pkg.manifestPath)).getD [] = here

theorem rootOnly_ok {env : Env} {mp : Option Path} {s : TSet}
    (h : getTargetsRootOnly env mp [] = .ok s) :
    ∃ md wsRoot here, env.metadata mp = .ok md ∧ env.canon (parsePath md.workspaceRoot) = some wsRoot ∧
      currentManifest env mp = some here ∧
      insertTargets env (rootPackageTargets env md (inWsRoot env wsRoot mp) here) [] = .ok s := by
  unfold getTargetsRootOnly at h
  split at h
  · cases h
  · rename_i md hmd
    split at h
    · cases h
    · rename_i wsRoot hws
      cases mp with
      | some tm =>
        dsimp only at h
        split at h
        · cases h
        · exact ⟨md, wsRoot, _, hmd, hws, ‹_›, h⟩
      | none =>
        dsimp only at h
        split at h
        · cases h
        · rename_i cd hc
          -- the model compares `wsRoot == cd`, `inWsRoot` the canonicalisation result
          have : inWsRoot env wsRoot none = (wsRoot == cd) := by
            rw [inWsRoot, hc, Bool.eq_iff_iff, beq_iff_eq, beq_iff_eq]
            exact ⟨fun h => (Option.some.inj h).symm, fun h => h ▸ rfl⟩
          exact ⟨md, wsRoot, cd.joinCargoToml, hmd, hws, by rw [currentManifest, hc]; rfl, this ▸ h⟩

theorem mem_rootPackageTargets {env : Env} {md : Metadata} {inRoot : Bool} {here : Path} (t : MTarget) :
    t ∈ rootPackageTargets env md inRoot here ↔
      ∃ pkg ∈ md.packages, (md.packages.length = 1 ∨ inRoot = true ∨
        (env.canon (parsePath pkg.manifestPath)).getD [] = here) ∧ t ∈ pkg.targets := by
  unfold rootPackageTargets
  split
  · rename_i q hq
    simp [hq]
  · rename_i hne
    have hlen : md.packages.length ≠ 1 := by
      intro hl
      match hp : md.packages, hl with
      | [q], _ => exact hne q hp
    simp only [List.mem_flatMap, List.mem_filter, Bool.or_eq_true, beq_iff_eq, hlen, false_or]
    constructor
    · rintro ⟨q, ⟨hq, hsel⟩, ht⟩; exact ⟨q, hq, hsel, ht⟩
    · rintro ⟨q, hq, hsel, ht⟩; exact ⟨q, ⟨hq, hsel⟩, ht⟩

theorem rootOnly_spec {env : Env} {mp : Option Path} {s : TSet}
    (h : getTargetsRootOnly env mp [] = .ok s) :
    ∃ md wsRoot here, env.metadata mp = .ok md ∧ env.canon (parsePath md.workspaceRoot) = some wsRoot ∧
      currentManifest env mp = some here ∧
      ∀ p, p ∈ paths s ↔ ∃ pkg ∈ md.packages, RootSelected env mp md wsRoot here pkg ∧
        ∃ t ∈ pkg.targets, srcCanon env t = p := by
  obtain ⟨md, wsRoot, here, h1, h2, h3, hins⟩ := rootOnly_ok h
  refine ⟨md, wsRoot, here, h1, h2, h3, fun p => ?_⟩
  rw [mem_paths_insertTargets hins, paths, List.map_nil, or_iff_right List.not_mem_nil]
  constructor
  · rintro ⟨t, ht, hp⟩
    obtain ⟨pkg, hpkg, hsel, ht⟩ := (mem_rootPackageTargets t).mp ht
    exact ⟨pkg, hpkg, hsel, t, ht, hp⟩
  · rintro ⟨pkg, hpkg, hsel, t, ht, hp⟩
    exact ⟨t, (mem_rootPackageTargets t).mpr ⟨pkg, hpkg, hsel, ht⟩, hp⟩

/-! ## Grouping by edition -/

theorem Edition.year_inj {a b : Edition} (h : a.year = b.year) : a = b := by
  cases a <;> cases b <;> simp [Edition.year] at h <;> rfl

/-- `Edition`'s derived `Ord`. -/
def cmpEd (a b : Edition) : Ordering := compare a.year b.year

instance : Std.OrientedCmp cmpEd := ⟨fun {a b} => by unfold cmpEd; exact Std.OrientedCmp.eq_swap⟩
instance : Std.TransCmp cmpEd := ⟨fun {a b c} h1 h2 => by
  unfold cmpEd at *; exact Std.TransCmp.isLE_trans h1 h2⟩

abbrev EMap := List (Edition × List Path)

instance : Std.LawfulEqCmp cmpEd := ⟨fun h => Edition.year_inj (Nat.compare_eq_eq.mp h)⟩

theorem mapPush_cases (e : Edition) (p : Path) (k : Edition) (ps : List Path) (m : EMap) :
    (cmpEd e k = .lt ∧ mapPush e p ((k, ps) :: m) = (e, [p]) :: (k, ps) :: m) ∨
    (e = k ∧ mapPush e p ((k, ps) :: m) = (k, ps ++ [p]) :: m) ∨
    (cmpEd e k = .gt ∧ e ≠ k ∧ mapPush e p ((k, ps) :: m) = (k, ps) :: mapPush e p m) := by
  rw [mapPush]
  by_cases h1 : e.year < k.year
  · exact .inl ⟨Nat.compare_eq_lt.mpr h1, if_pos h1⟩
  · by_cases h2 : e = k
    · exact .inr (.inl ⟨h2, by rw [if_neg h1, if_pos h2]⟩)
    · have := mt Edition.year_inj h2
      exact .inr (.inr ⟨Nat.compare_eq_gt.mpr (by omega), h2, by rw [if_neg h1, if_neg h2]⟩)

theorem mapPush_flat_perm (e : Edition) (p : Path) (m : EMap) :
    ((mapPush e p m).flatMap (·.2)).Perm (p :: m.flatMap (·.2)) := by
  induction m with
  | nil => exact .refl _
  | cons y m ih =>
    obtain ⟨k, ps⟩ := y
    rcases mapPush_cases e p k ps m with ⟨_, hp⟩ | ⟨_, hp⟩ | ⟨_, _, hp⟩
    · exact hp ▸ .refl _
    · rw [hp, List.flatMap_cons, List.flatMap_cons, List.append_assoc]
      exact List.perm_middle
    · rw [hp, List.flatMap_cons, List.flatMap_cons]
      exact (List.Perm.append_left ps ih).trans List.perm_middle

/-- The paths of the targets of edition `e`, in order. -/
def filesIn (ts : List Target) (e : Edition) : List Path := (ts.filter (·.edition = e)).map (·.path)

theorem filesIn_append (ts : List Target) (t : Target) (e : Edition) :
    filesIn (ts ++ [t]) e = if e = t.edition then filesIn ts e ++ [t.path] else filesIn ts e := by
  unfold filesIn
  by_cases h : e = t.edition
  · simp [List.filter_append, h]
  · simp [List.filter_append, h, Ne.symm h]

theorem mapPush_map {ks : List Edition} (hs : Sorted cmpEd ks) (g : Edition → List Path) (e : Edition)
    (p : Path) (hg : e ∉ ks → g e = []) :
    mapPush e p (ks.map fun k => (k, g k)) =
      (sinsert cmpEd e ks).map fun k => (k, if k = e then g k ++ [p] else g k) := by
  -- away from `e` the content is unchanged
  have hcongr : ∀ l : List Edition, e ∉ l →
      (l.map fun k => (k, if k = e then g k ++ [p] else g k)) = l.map fun k => (k, g k) :=
    fun l hl => List.map_congr_left fun k hk => by rw [if_neg fun (h : k = e) => hl (h ▸ hk)]
  induction ks with
  | nil => simp [mapPush, sinsert, hg]
  | cons k ks ih =>
    rw [List.map_cons, sinsert]
    rcases mapPush_cases e p k (g k) (ks.map fun k => (k, g k)) with ⟨h1, h⟩ | ⟨rfl, h⟩ | ⟨h1, hne, h⟩
    · have hn := not_mem_of_lt_head h1 hs
      rw [h, h1, List.map_cons, hcongr _ hn, if_pos rfl, hg hn]
      rfl
    · have hn : e ∉ ks := fun hk => by
        have := (List.pairwise_cons.mp hs).1 e hk
        rw [Std.ReflCmp.compare_self (cmp := cmpEd)] at this
        cases this
      rw [h, Std.ReflCmp.compare_self (cmp := cmpEd), List.map_cons, hcongr _ hn, if_pos rfl]
    · rw [h, h1, List.map_cons, if_neg (Ne.symm hne),
        ih (List.pairwise_cons.mp hs).2 fun hn => hg fun hk => (List.mem_cons.mp hk).elim hne hn]

/-- Closed form of the fold: under each edition that occurs, in ascending order, the paths of its
targets. -/
theorem foldl_mapPush_eq (ts pre : List Target) (ks : List Edition) (hs : Sorted cmpEd ks)
    (hk : ∀ e, e ∈ ks ↔ ∃ t ∈ pre, t.edition = e) :
    ∃ ks', Sorted cmpEd ks' ∧ (∀ e, e ∈ ks' ↔ ∃ t ∈ pre ++ ts, t.edition = e) ∧
      ts.foldl (fun h t => mapPush t.edition t.path h) (ks.map fun e => (e, filesIn pre e)) =
        ks'.map fun e => (e, filesIn (pre ++ ts) e) := by
  induction ts generalizing pre ks with
  | nil => exact ⟨ks, hs, by simpa using hk, by rw [List.append_nil]; rfl⟩
  | cons t ts ih =>
    have hstep : mapPush t.edition t.path (ks.map fun e => (e, filesIn pre e)) =
        (sinsert cmpEd t.edition ks).map fun e => (e, filesIn (pre ++ [t]) e) := by
      rw [mapPush_map hs]
      · exact List.map_congr_left fun e _ => by rw [filesIn_append]
      · intro hn
        rw [filesIn, List.filter_eq_nil_iff.mpr fun u hu => by simpa using fun h => hn ((hk _).mpr ⟨u, hu, h⟩)]
        rfl
    obtain ⟨ks', h1, h2, h3⟩ := ih (pre ++ [t]) (sinsert cmpEd t.edition ks) (sinsert_sorted hs)
      fun e => by
        rw [mem_sinsert, hk]
        constructor
        · rintro (rfl | ⟨u, hu, he⟩)
          · exact ⟨t, List.mem_append_right _ (List.mem_singleton.mpr rfl), rfl⟩
          · exact ⟨u, List.mem_append_left _ hu, he⟩
        · rintro ⟨u, hu, rfl⟩
          rcases List.mem_append.mp hu with hu | hu
          · exact .inr ⟨u, hu, rfl⟩
          · exact .inl (List.mem_singleton.mp hu ▸ rfl)
    rw [List.append_assoc] at h2 h3
    exact ⟨ks', h1, h2, by rw [List.foldl_cons, hstep]; exact h3⟩

theorem byEdition_eq (ts : TSet) :
    ∃ ks, Sorted cmpEd ks ∧ (∀ e, e ∈ ks ↔ ∃ t ∈ ts, t.edition = e) ∧
      byEdition ts = ks.map fun e => (e, filesIn ts e) :=
  foldl_mapPush_eq ts [] [] .nil (by simp)

theorem foldl_mapPush_flat_perm (ts : List Target) (m : EMap) :
    ((ts.foldl (fun h t => mapPush t.edition t.path h) m).flatMap (·.2)).Perm
      (m.flatMap (·.2) ++ ts.map (·.path)) := by
  induction ts generalizing m with
  | nil => rw [List.map_nil, List.append_nil]; exact .refl _
  | cons t ts ih =>
    rw [List.foldl_cons, List.map_cons]
    exact ((ih _).trans (List.Perm.append_right _ (mapPush_flat_perm ..))).trans List.perm_middle.symm

/-- `by_edition`: ascending distinct editions; under each, exactly the paths of the targets of that
edition in path order; nothing empty; every target's edition is present. -/
theorem byEdition_spec (ts : TSet) :
    (byEdition ts).Pairwise (fun a b => a.1.year < b.1.year) ∧
    (∀ e fs, (e, fs) ∈ byEdition ts → fs ≠ [] ∧ fs = (ts.filter (fun t => t.edition = e)).map (·.path)) ∧
    (∀ t ∈ ts, ∃ fs, (t.edition, fs) ∈ byEdition ts) ∧
    ((byEdition ts).flatMap (·.2)).Perm (paths ts) := by
  obtain ⟨ks, hs, hk, heq⟩ := byEdition_eq ts
  refine ⟨?_, fun e fs hm => ?_, fun t ht => ⟨filesIn ts t.edition, ?_⟩, foldl_mapPush_flat_perm ts []⟩
  · rw [heq]
    exact List.pairwise_map.mpr (hs.imp Nat.compare_eq_lt.mp)
  · rw [heq] at hm
    obtain ⟨k, hk', h⟩ := List.mem_map.mp hm
    cases h
    obtain ⟨t, ht, rfl⟩ := (hk _).mp hk'
    exact ⟨List.ne_nil_of_mem (List.mem_map_of_mem (List.mem_filter.mpr ⟨ht, by simp⟩)), rfl⟩
  · rw [heq]
    exact List.mem_map.mpr ⟨_, (hk _).mpr ⟨t, ht, rfl⟩, rfl⟩

/-! ## Status folding and `run_rustfmt` -/

theorem foldStatus_cons_code {n : Nat} (hn : n ≠ 0) (r : List Status) :
    foldStatus (.code n :: r) = n := by
  cases n with
  | zero => exact absurd rfl hn
  | succ n => rfl

theorem foldStatus_cons_skip {s : Status} (h : ∀ k, s = .code k → k = 0) (r : List Status) :
    foldStatus (s :: r) = foldStatus r := by
  cases s with
  | code k => cases h k rfl; rfl
  | signal => rfl
  | spawnErr => rfl

theorem foldStatus_ne_zero (ss : List Status) :
    foldStatus ss ≠ 0 ↔ ∃ n, Status.code n ∈ ss ∧ n ≠ 0 := by
  induction ss with
  | nil => exact ⟨fun h => absurd rfl h, nofun⟩
  | cons s r ih =>
    by_cases hs : ∀ k, s = .code k → k = 0
    · rw [foldStatus_cons_skip hs, ih]
      refine exists_congr fun n => and_congr_left fun hn => ?_
      rw [List.mem_cons, or_iff_right fun e => hn (hs n e.symm)]
    · obtain ⟨k, hsk⟩ := Classical.not_forall.mp hs
      obtain ⟨rfl, hk⟩ := Classical.not_imp.mp hsk
      rw [foldStatus_cons_code hk]
      exact ⟨fun _ => ⟨k, List.mem_cons_self, hk⟩, fun _ => hk⟩

theorem spawnLoop_spec (run : List Str → Status) (as : List (List Str)) :
    let r := spawnLoop run as
    (∀ x ∈ r.1, x.2 = run x.1) ∧
    (r.1.map (·.1) <+: as) ∧
    (r.2 = true → r.1.map (·.1) = as ∧ ∀ x ∈ r.1, x.2 ≠ .spawnErr) ∧
    (r.2 = false → ∃ a, (a, Status.spawnErr) ∈ r.1) := by
  induction as with
  | nil => exact ⟨nofun, List.prefix_refl _, fun _ => ⟨rfl, nofun⟩, nofun⟩
  | cons a as ih =>
    rw [spawnLoop]
    split
    · rename_i hr
      exact ⟨List.forall_mem_cons.mpr ⟨hr.symm, nofun⟩, (List.prefix_cons_inj a).mpr (List.nil_prefix),
        nofun, fun _ => ⟨a, List.mem_cons_self⟩⟩
    · rename_i hne
      obtain ⟨h1, h2, h3, h4⟩ := ih
      exact ⟨List.forall_mem_cons.mpr ⟨rfl, h1⟩, (List.prefix_cons_inj a).mpr h2,
        fun hok => ⟨congrArg (a :: ·) (h3 hok).1, List.forall_mem_cons.mpr ⟨hne, (h3 hok).2⟩⟩,
        fun hok => (h4 hok).imp fun b hb => List.mem_cons_of_mem _ hb⟩

/-- The exit code `handle_command_status(run_rustfmt(..))` yields. -/
def runExit (r : Except Err Nat) : Nat :=
  match r with
  | .ok c => c
  | .error e => errExit e

/-- `run_rustfmt` runs a prefix of the planned invocations: all of them, and then folds their
statuses, or up to the first that fails to spawn. -/
theorem runRustfmt_cases (run : List Str → Status) (ts : TSet) (args : List Str) :
    let r := runRustfmt run ts args
    (∀ x ∈ r.1, x.2 = run x.1) ∧
    (r.1.map (·.1) <+: (planInvocations ts args).map Invocation.argv) ∧
    ((r.1.map (·.1) = (planInvocations ts args).map Invocation.argv ∧
        (∀ x ∈ r.1, x.2 ≠ .spawnErr) ∧ r.2 = .ok (foldStatus (r.1.map (·.2)))) ∨
      ((∃ a, (a, Status.spawnErr) ∈ r.1) ∧ r.2 = .error .spawn)) := by
  obtain ⟨h1, h2, h3, h4⟩ := spawnLoop_spec run ((planInvocations ts args).map Invocation.argv)
  rw [runRustfmt]
  generalize spawnLoop run ((planInvocations ts args).map Invocation.argv) = r at *
  obtain ⟨tr, ok⟩ := r
  cases ok with
  | true => exact ⟨h1, h2, .inl ⟨(h3 rfl).1, (h3 rfl).2, rfl⟩⟩
  | false => exact ⟨h1, h2, .inr ⟨h4 rfl, rfl⟩⟩

theorem runRustfmt_exit (run : List Str → Status) (ts : TSet) (args : List Str) :
    let r := runRustfmt run ts args
    runExit r.2 ≠ 0 ↔ (∃ a, (a, Status.spawnErr) ∈ r.1) ∨ (∃ a n, (a, Status.code n) ∈ r.1 ∧ n ≠ 0) := by
  intro r
  rcases (runRustfmt_cases run ts args).2.2 with ⟨_, hns, hr⟩ | ⟨hs, hr⟩
  · rw [hr, runExit, foldStatus_ne_zero]
    constructor
    · rintro ⟨n, hn, hne⟩
      obtain ⟨x, hx, hxs⟩ := List.mem_map.mp hn
      exact .inr ⟨x.1, n, hxs ▸ hx, hne⟩
    · rintro (⟨a, ha⟩ | ⟨a, n, ha, hne⟩)
      · exact absurd rfl (hns _ ha)
      · exact ⟨n, List.mem_map.mpr ⟨_, ha, rfl⟩, hne⟩
  · rw [hr]
    exact ⟨fun _ => .inl hs, fun _ => nofun⟩

theorem runRustfmt_trace (run : List Str → Status) (ts : TSet) (args : List Str) :
    let r := runRustfmt run ts args
    (r.1.map (·.1) <+: (planInvocations ts args).map Invocation.argv) ∧
    (∀ x ∈ r.1, x.2 = run x.1) ∧
    ((∀ a, run a ≠ .spawnErr) → r.1.map (·.1) = (planInvocations ts args).map Invocation.argv) := by
  obtain ⟨h1, h2, h3⟩ := runRustfmt_cases run ts args
  refine ⟨h2, h1, fun hrun => ?_⟩
  rcases h3 with ⟨h, _⟩ | ⟨⟨a, ha⟩, _⟩
  · exact h
  · exact absurd (h1 _ ha).symm (hrun a)

/-- When no process is killed by a signal, the run exits 0 exactly when every planned invocation
was run and exited 0. -/
theorem runRustfmt_exit_zero (run : List Str → Status) (ts : TSet) (args : List Str)
    (hsig : ∀ x ∈ (runRustfmt run ts args).1, x.2 ≠ .signal) :
    runExit (runRustfmt run ts args).2 = 0 ↔
      (runRustfmt run ts args).1.map (·.1) = (planInvocations ts args).map Invocation.argv ∧
      ∀ x ∈ (runRustfmt run ts args).1, x.2 = .code 0 := by
  have hex := runRustfmt_exit run ts args
  constructor
  · intro h0
    have hno := fun hc => hex.mpr hc h0
    have hall : ∀ x ∈ (runRustfmt run ts args).1, x.2 = .code 0 := fun x hx => by
      match hx2 : x.2 with
      | .code 0 => rfl
      | .code (n + 1) => exact absurd (.inr ⟨x.1, n + 1, by rw [← hx2]; exact hx, nofun⟩) hno
      | .signal => exact absurd hx2 (hsig x hx)
      | .spawnErr => exact absurd (.inl ⟨x.1, by rw [← hx2]; exact hx⟩) hno
    exact ⟨(runRustfmt_cases run ts args).2.2.elim (·.1) fun h => absurd (.inl h.1) hno, hall⟩
  · rintro ⟨_, hall⟩
    refine Classical.byContradiction fun hne => ?_
    rcases hex.mp hne with ⟨a, ha⟩ | ⟨a, n, ha, hn0⟩
    · cases hall _ ha
    · cases hall _ ha
      exact hn0 rfl

/-! ## Every strategy grows the set by inserting declared targets -/

/-- First insertion wins, at the level of `cargo metadata` targets. -/
theorem insertTargets_first_wins {env : Env} (ts : List MTarget) (s : TSet) {s' : TSet}
    (h : insertTargets env ts s = .ok s') (hs : Sorted Target.cmp s) :
    ∀ y ∈ s', y ∈ s ∨ ((∀ z ∈ s, z.path ≠ y.path) ∧
      ∃ pre t post, ts = pre ++ t :: post ∧ Target.fromTarget env t = .ok y ∧
        ∀ u ∈ pre, srcCanon env u ≠ y.path) := by
  obtain ⟨hk, rfl⟩ := insertTargets_ok_iff.mp h
  intro y hy
  refine (foldl_insert_first_wins _ s hs y hy).imp_right fun ⟨h1, pre, post, h2, h3⟩ => ⟨h1, ?_⟩
  obtain ⟨pre', r, rfl, rfl, hr⟩ := List.map_eq_append_iff.mp h2
  obtain ⟨t, post', rfl, rfl, rfl⟩ := List.map_eq_cons_iff.mp hr
  exact ⟨pre', t, post', rfl, fromTarget_built (hk t (by simp)),
    fun u hu => h3 _ (List.mem_map_of_mem hu)⟩

theorem insertTargets_mem {env : Env} {ts : List MTarget} {s s' : TSet}
    (h : insertTargets env ts s = .ok s') :
    ∀ y ∈ s', y ∈ s ∨ ∃ t ∈ ts, Target.fromTarget env t = .ok y := by
  obtain ⟨hk, rfl⟩ := insertTargets_ok_iff.mp h
  intro y hy
  refine (mem_foldl_insert_imp _ s y hy).imp_right fun hy => ?_
  obtain ⟨t, ht, rfl⟩ := List.mem_map.mp hy
  exact ⟨t, ht, fromTarget_built (hk t ht)⟩

/-- `t` is a target of a package of some `cargo metadata` answer. -/
def Listed (env : Env) (t : MTarget) : Prop :=
  ∃ m md, env.metadata m = .ok md ∧ ∃ pkg ∈ md.packages, t ∈ pkg.targets

/-- `y` was built from a target that some `cargo metadata` answer declares. -/
def Declared (env : Env) (y : Target) : Prop :=
  ∃ m md, env.metadata m = .ok md ∧ ∃ pkg ∈ md.packages, ∃ t ∈ pkg.targets, Target.fromTarget env t = .ok y

/-- `s'` comes from `s` by successful runs of the insertion loop over listed targets. -/
inductive Grown (env : Env) : TSet → TSet → Prop
  | refl (s : TSet) : Grown env s s
  | step {s s₁ s₂ : TSet} {ts : List MTarget} : Grown env s s₁ → (∀ t ∈ ts, Listed env t) →
      insertTargets env ts s₁ = .ok s₂ → Grown env s s₂

theorem Grown.trans {env : Env} {a b c : TSet} (h₁ : Grown env a b) (h₂ : Grown env b c) :
    Grown env a c := by
  induction h₂ with
  | refl => exact h₁
  | step _ hl hi ih => exact .step ih hl hi

theorem Grown.sorted {env : Env} {s s' : TSet} (h : Grown env s s') (hs : Sorted Target.cmp s) :
    Sorted Target.cmp s' := by
  induction h with
  | refl => exact hs
  | step _ _ hi ih => exact insertTargets_sorted hi ih

theorem Grown.declared {env : Env} {s s' : TSet} (h : Grown env s s') :
    ∀ y ∈ s', y ∈ s ∨ Declared env y := by
  induction h with
  | refl => exact fun _ h => .inl h
  | step _ hl hi ih =>
    intro y hy
    rcases insertTargets_mem hi y hy with h | ⟨t, ht, h⟩
    · exact ih y h
    · obtain ⟨m, md, hmd, pkg, hpkg, htp⟩ := hl t ht
      exact .inr ⟨m, md, hmd, pkg, hpkg, t, htp, h⟩

theorem depsLoop_grown {env : Env} {call : Path → RecState → Option (Except Err RecState)}
    (hcall : ∀ m st st', call m st = some (.ok st') → Grown env st.targets st'.targets)
    (md : Metadata) (ds : List Dep) :
    ∀ st st', depsLoop env call md ds st = some (.ok st') → Grown env st.targets st'.targets := by
  induction ds with
  | nil => intro st st' h; cases h; exact .refl _
  | cons d ds ih =>
    intro st st'
    rw [depsLoop_cons]
    split
    · exact ih st st'
    · split
      · rename_i st1 hc
        exact fun h => (hcall _ _ _ hc).trans (ih st1 st' h)
      · rename_i hne
        exact fun h => (hne _ h).elim

theorem pkgsLoop_grown {env : Env} {call : Path → RecState → Option (Except Err RecState)}
    (hcall : ∀ m st st', call m st = some (.ok st') → Grown env st.targets st'.targets)
    {m : Option Path} {md : Metadata} (hmd : env.metadata m = .ok md)
    (ps : List Package) (hps : ∀ p ∈ ps, p ∈ md.packages) :
    ∀ st st', pkgsLoop env call md ps st = some (.ok st') → Grown env st.targets st'.targets := by
  induction ps with
  | nil => intro st st' h; cases h; exact .refl _
  | cons p ps ih =>
    obtain ⟨hp, hps⟩ := List.forall_mem_cons.mp hps
    intro st st'
    rw [pkgsLoop]
    split
    · exact nofun
    · rename_i ts hins
      have h0 : Grown env st.targets ts := .step (.refl _) (fun t ht => ⟨m, md, hmd, p, hp, ht⟩) hins
      split
      · rename_i st1 hd
        exact fun h => (h0.trans (depsLoop_grown hcall md _ _ _ hd)).trans (ih hps st1 st' h)
      · rename_i hne
        exact fun h => (hne _ h).elim

theorem recursive_grown {env : Env} (fuel : Nat) :
    ∀ (m : Option Path) (st st' : RecState), getTargetsRecursive env fuel m st = some (.ok st') →
      Grown env st.targets st'.targets := by
  induction fuel with
  | zero => exact nofun
  | succ fuel ih =>
    intro m st st'
    rw [getTargetsRecursive]
    split
    · exact nofun
    · exact pkgsLoop_grown (fun m => ih (some m)) ‹_› _ (fun _ h => h) st st'

theorem recursive_sorted {env : Env} {root : Option Path} (hfun : NameFun env root) {fuel : Nat}
    {st' : RecState} (h : getTargetsRecursive env fuel root ⟨[], []⟩ = some (.ok st')) :
    Sorted Target.cmp st'.targets :=
  (recursive_grown fuel root _ _ h).sorted .nil

theorem hitlistLoop_grown {env : Env} {m : Option Path} {md : Metadata} (hmd : env.metadata m = .ok md)
    (ps : List Package) (hps : ∀ p ∈ ps, p ∈ md.packages) (hit : List Str) (s : TSet)
    {hit' : List Str} {s' : TSet} (h : hitlistLoop env ps hit s = .ok (hit', s')) : Grown env s s' := by
  induction ps generalizing hit s with
  | nil => cases h; exact .refl _
  | cons q ps ih =>
    obtain ⟨hq, hps⟩ := List.forall_mem_cons.mp hps
    rw [hitlistLoop] at h
    split at h
    · split at h
      · cases h
      · exact (Grown.step (.refl _) (fun t ht => ⟨m, md, hmd, q, hq, ht⟩) ‹_›).trans (ih hps _ _ h)
    · exact ih hps _ _ h

theorem noTargets_post {r : Option (Except Err TSet)} {T : TSet}
    (h : (match r with | some (.ok []) => some (.error .noTargets) | r => r) = some (.ok T)) :
    T ≠ [] ∧ r = some (.ok T) := by
  split at h
  · cases h
  · rename_i hne
    exact ⟨fun e => hne (e ▸ h), h⟩

theorem getTargets_ok {env : Env} {fuel : Nat} {strategy : Strategy} {mp : Option Path} {T : TSet}
    (h : getTargets env fuel strategy mp = some (.ok T)) :
    T ≠ [] ∧
    match strategy with
    | .root => getTargetsRootOnly env mp [] = .ok T
    | .all => ∃ st, getTargetsRecursive env fuel mp ⟨[], []⟩ = some (.ok st) ∧ st.targets = T
    | .some names => getTargetsWithHitlist env mp names [] = .ok T := by
  obtain ⟨hT, hr⟩ := noTargets_post h
  refine ⟨hT, ?_⟩
  cases strategy <;> dsimp only at hr ⊢
  case root => exact Option.some.inj hr
  case some => exact Option.some.inj hr
  case all =>
    split at hr
    · cases hr
    · cases hr
    · cases hr
      exact ⟨_, ‹_›, rfl⟩

theorem getTargets_grown {env : Env} {fuel : Nat} {strategy : Strategy} {mp : Option Path} {T : TSet}
    (h : getTargets env fuel strategy mp = some (.ok T)) : Grown env [] T := by
  obtain ⟨_, h⟩ := getTargets_ok h
  cases strategy with
  | root =>
    obtain ⟨md, _, _, hmd, _, _, hins⟩ := rootOnly_ok h
    refine .step (.refl _) (fun t ht => ?_) hins
    obtain ⟨pkg, hpkg, _, ht⟩ := (mem_rootPackageTargets t).mp ht
    exact ⟨mp, md, hmd, pkg, hpkg, ht⟩
  | all =>
    obtain ⟨st, hrec, rfl⟩ := h
    exact recursive_grown _ _ _ _ hrec
  | some names =>
    simp only [getTargetsWithHitlist] at h
    split at h
    · cases h
    · split at h
      · cases h
      · cases h
        exact hitlistLoop_grown ‹_› _ (fun _ h => h) _ _ ‹_›
      · cases h

theorem getTargets_sorted {env : Env} {fuel : Nat} {strategy : Strategy} {mp : Option Path} {T : TSet}
    (h : getTargets env fuel strategy mp = some (.ok T)) : Sorted Target.cmp T :=
  (getTargets_grown h).sorted .nil

theorem getTargets_declared {env : Env} {fuel : Nat} {strategy : Strategy} {mp : Option Path} {T : TSet}
    (h : getTargets env fuel strategy mp = some (.ok T)) : ∀ y ∈ T, Declared env y := fun y hy =>
  ((getTargets_grown h).declared y hy).resolve_left nofun

/-! ## The command line -/

def hasEmit (args : List Str) : Bool := args.any (fun a => sEmit.isPrefixOf a)
def hasCheck (args : List Str) : Bool := args.any (fun a => a == sCheck)
def hasListFlag (args : List Str) : Bool :=
  args.any (fun a => a == sL || a == sFilesWithDiff)

theorem convert_table (fmt : Str) (args : List Str) :
    convertMessageFormat fmt args =
      if fmt = sShort then .ok (if hasListFlag args then args else args ++ [sL])
      else if fmt = sJson then
        (if hasEmit args then .error .emitWithJson
         else if hasCheck args then .error .checkWithJson
         else .ok (args ++ [sEmit, sJson]))
      else if fmt = sHuman then .ok args
      else .error .invalid := by
  rfl

theorem convert_ok_prefix {fmt : Str} {args out : List Str} (h : convertMessageFormat fmt args = .ok out) :
    ∃ extra, out = args ++ extra ∧ sCheck ∉ extra := by
  -- `by_cases`, not `split`: `split` is slow on the string constants in the conditions
  rw [convert_table] at h
  by_cases h1 : fmt = sShort
  · rw [if_pos h1] at h
    cases h
    by_cases hl : hasListFlag args = true
    · exact ⟨[], by rw [if_pos hl, List.append_nil], nofun⟩
    · exact ⟨[sL], by rw [if_neg hl], by decide +kernel⟩
  · rw [if_neg h1] at h
    by_cases h2 : fmt = sJson
    · rw [if_pos h2] at h
      by_cases he : hasEmit args = true
      · rw [if_pos he] at h
        cases h
      · rw [if_neg he] at h
        by_cases hc : hasCheck args = true
        · rw [if_pos hc] at h
          cases h
        · rw [if_neg hc] at h
          cases h
          exact ⟨_, rfl, by decide +kernel⟩
    · rw [if_neg h2] at h
      by_cases h3 : fmt = sHuman
      · rw [if_pos h3] at h
        cases h
        exact ⟨[], (List.append_nil _).symm, nofun⟩
      · rw [if_neg h3] at h
        cases h

/-- The arguments with `--check` pushed (main.rs 121-127). -/
def withCheck (o : Opts) : List Str :=
  if o.check && !hasCheck o.rustfmtOptions then o.rustfmtOptions ++ [sCheck] else o.rustfmtOptions

theorem rustfmtArgs_eq (o : Opts) :
    rustfmtArgs o = match o.messageFormat with
      | none => .ok (withCheck o)
      | some f => convertMessageFormat f (withCheck o) := rfl

theorem hasCheck_iff (l : List Str) : hasCheck l = true ↔ sCheck ∈ l := by
  unfold hasCheck
  simp only [List.any_eq_true, beq_iff_eq]
  exact ⟨fun ⟨x, hx, h⟩ => h ▸ hx, fun h => ⟨_, h, rfl⟩⟩

theorem withCheck_spec (o : Opts) :
    (∃ e1, withCheck o = o.rustfmtOptions ++ e1) ∧
    (o.check = true → sCheck ∈ withCheck o) ∧
    (withCheck o).count sCheck =
      (if o.check = true ∧ o.rustfmtOptions.count sCheck = 0 then 1
       else o.rustfmtOptions.count sCheck) := by
  have hh : hasCheck o.rustfmtOptions = decide (sCheck ∈ o.rustfmtOptions) :=
    Bool.eq_iff_iff.mpr ((hasCheck_iff _).trans decide_eq_true_iff.symm)
  rw [withCheck, hh]
  by_cases hc : o.check = true <;> by_cases hp : sCheck ∈ o.rustfmtOptions <;>
    simp [hc, hp, List.count_eq_zero]

/-- `cargo fmt` goes on to format (no early exit, no forwarding of an information flag). -/
def Normal (o : Opts) : Prop :=
  (o.verbose && o.quiet) = false ∧ o.version = false ∧ o.rustfmtOptions.any isInfoFlag = false

theorem execute_normal {env : Env} {fuel : Nat} {run : List Str → Status} {o : Opts} (hn : Normal o) :
    execute env fuel run o =
      match rustfmtArgs o with
      | .error _ => some ⟨1, []⟩
      | .ok args =>
        if o.manifestPath.all (cargoToml.isSuffixOf ·) = true then
          formatCrate env fuel run (Strategy.fromOpts o) args (o.manifestPath.map parsePath)
        else some ⟨1, []⟩ := by
  obtain ⟨h1, h2, h3⟩ := hn
  unfold execute
  simp only [h1, h2, h3, Bool.false_eq_true, if_false]
  cases rustfmtArgs o with
  | error e => rfl
  | ok args =>
    cases o.manifestPath with
    | none => rfl
    | some mp => cases h : cargoToml.isSuffixOf mp <;> simp [h]

theorem formatCrate_cases (env : Env) (fuel : Nat) (run : List Str → Status) (strategy : Strategy)
    (args : List Str) (mp : Option Path) :
    formatCrate env fuel run strategy args mp =
      match getTargets env fuel strategy mp with
      | none => none
      | some (.error e) => some ⟨errExit e, []⟩
      | some (.ok ts) => some ⟨runExit (runRustfmt run ts args).2, (runRustfmt run ts args).1⟩ := by
  unfold formatCrate
  cases hg : getTargets env fuel strategy mp with
  | none => rfl
  | some r =>
    cases r with
    | error e => rfl
    | ok ts =>
      simp only
      rcases hr : runRustfmt run ts args with ⟨tr, r⟩
      cases r <;> simp [runExit]

theorem errExit_ne_zero (e : Err) : errExit e ≠ 0 := by
  cases e <;> simp [errExit]

theorem formatCrate_exit_zero {env : Env} {fuel : Nat} {run : List Str → Status} {strategy : Strategy}
    {args : List Str} {mp : Option Path} {out : Outcome}
    (h : formatCrate env fuel run strategy args mp = some out) (hsig : ∀ x ∈ out.trace, x.2 ≠ .signal) :
    out.exit = 0 ↔ ∃ T, getTargets env fuel strategy mp = some (.ok T) ∧
      out.trace.map (·.1) = (planInvocations T args).map Invocation.argv ∧
      ∀ x ∈ out.trace, x.2 = .code 0 := by
  rw [formatCrate_cases] at h
  cases hg : getTargets env fuel strategy mp with
  | none => rw [hg] at h; cases h
  | some r =>
    rw [hg] at h
    cases r with
    | error e =>
      cases h
      exact ⟨fun h0 => absurd h0 (errExit_ne_zero _), fun ⟨_, hT, _⟩ => nomatch hT⟩
    | ok T =>
      cases h
      rw [runRustfmt_exit_zero run T args hsig]
      exact ⟨fun h => ⟨T, rfl, h⟩, fun ⟨T', hT, h⟩ => by cases hT; exact h⟩

end RF.Lemmas.CargoFmt

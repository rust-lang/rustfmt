import RF.Model.Skip
/-!
Lemmas about `RF.Model.Skip` (property C04): the proofs behind `RF/Props/C04.lean`.
Definitions that the property statements need (`Accepted`, `IdentPath`,
`SkipContext.le`, `joinNl`) live here in namespace `RF.Skip`.
-/
namespace RF.Skip
open SkipNameContext

/-! ## `is_skip` -/
inductive Accepted : MetaItem → Prop
  | skip {p : Path} : pathToString p = skipAnnotation → Accepted (.word p)
  | depr {p : Path} : pathToString p = deprSkipAnnotation → Accepted (.word p)
  | cfgAttr {c : Nested} {x : MetaItem} : Accepted x → Accepted (.list [cfgAttr] [c, .metaItem x])

theorem hasName_iff (p : Path) (n : Name) : hasName p n = true ↔ p = [n] := by
  unfold hasName
  split <;> simp_all

mutual
theorem isSkip_accepted : (m : MetaItem) → isSkip m = true → Accepted m
  | .word p, h => by
    simp only [isSkip, Bool.or_eq_true, beq_iff_eq] at h
    rcases h with h | h
    · exact .skip h
    · exact .depr h
  | .list p [], h => by simp [isSkip] at h
  | .list p [_], h => by simp [isSkip] at h
  | .list p [c, x], h => by
    simp only [isSkip, Bool.and_eq_true, hasName_iff] at h
    obtain ⟨rfl, hx⟩ := h
    obtain ⟨m, rfl, hm⟩ := isSkipNested_accepted x hx
    exact .cfgAttr hm
  | .list p (_ :: _ :: _ :: _), h => by simp [isSkip] at h
  | .nameValue p, h => by simp [isSkip] at h
theorem isSkipNested_accepted : (n : Nested) → isSkipNested n = true →
    ∃ m, n = .metaItem m ∧ Accepted m
  | .metaItem m, h => ⟨m, rfl, isSkip_accepted m (by simpa [isSkipNested] using h)⟩
  | .lit, h => by simp [isSkipNested] at h
end

theorem accepted_isSkip {m : MetaItem} (h : Accepted m) : isSkip m = true := by
  induction h with
  | skip h => simp [isSkip, h]
  | depr h => simp [isSkip, h]
  | cfgAttr _ ih => simp [isSkip, isSkipNested, hasName, ih]

theorem isSkip_spec (m : MetaItem) : isSkip m = true ↔ Accepted m :=
  ⟨isSkip_accepted m, accepted_isSkip⟩

theorem append_colon_inj {s a x y : List Char} (hs : ':' ∉ s) (ha : ':' ∉ a)
    (h : s ++ ':' :: x = a ++ ':' :: y) : s = a ∧ x = y := by
  induction s generalizing a with
  | nil =>
    cases a with
    | nil => simpa using h
    | cons c a' =>
      simp only [List.nil_append, List.cons_append, List.cons.injEq] at h
      exact absurd (h.1 ▸ List.mem_cons_self) ha
  | cons c s ih =>
    cases a with
    | nil =>
      simp only [List.nil_append, List.cons_append, List.cons.injEq] at h
      exact absurd (h.1 ▸ List.mem_cons_self) hs
    | cons d a' =>
      simp only [List.cons_append, List.cons.injEq] at h
      have := ih (a := a') (fun hm => hs (List.mem_cons_of_mem _ hm))
        (fun hm => ha (List.mem_cons_of_mem _ hm)) h.2
      exact ⟨by rw [h.1, this.1], this.2⟩

/-- Segments that are identifiers contain no `:`. -/
def IdentPath (p : Path) : Prop := ∀ s ∈ p, ':' ∉ s

instance (p : Path) : Decidable (IdentPath p) := by unfold IdentPath; infer_instance

theorem pathToString_cons2 (s t : Name) (r : Path) :
    pathToString (s :: t :: r) = s ++ ':' :: ':' :: pathToString (t :: r) := rfl

theorem pathToString_eq_skip_iff {p : Path} (hp : IdentPath p) :
    pathToString p = skipAnnotation ↔ p = [rustfmtName, skipName] := by
  constructor
  · intro h
    match p, hp, h with
    | [], _, h => exact absurd h (by decide)
    | [s], hp, h =>
      have : ':' ∉ s := hp s (by simp)
      simp only [pathToString] at h
      subst h
      exact absurd (by decide) this
    | s :: t :: r, hp, h =>
      rw [pathToString_cons2] at h
      have hs : ':' ∉ s := hp s (by simp)
      have ht : ':' ∉ t := hp t (by simp)
      have h1 := append_colon_inj (a := rustfmtName) (y := ':' :: skipName) hs (by decide) h
      obtain ⟨rfl, h2⟩ := h1
      simp only [List.cons.injEq, true_and] at h2
      match r, h2 with
      | [], h2 =>
        simp only [pathToString] at h2
        rw [h2]
      | u :: r', h2 =>
        rw [pathToString_cons2] at h2
        have : ':' ∈ skipName := by
          rw [← h2]; simp
        exact absurd this (by decide)
  · rintro rfl; rfl

theorem pathToString_eq_depr_iff {p : Path} (hp : IdentPath p) :
    pathToString p = deprSkipAnnotation ↔ p = [deprSkipAnnotation] := by
  constructor
  · intro h
    match p, hp, h with
    | [], _, h => exact absurd h (by decide)
    | [s], hp, h => simp only [pathToString] at h; rw [h]
    | s :: t :: r, hp, h =>
      rw [pathToString_cons2] at h
      have : ':' ∈ deprSkipAnnotation := by rw [← h]; simp
      exact absurd this (by decide)
  · rintro rfl; rfl

/-- `cfg_attr(c, cfg_attr(c, … m))`, `k` levels. -/
def nestCfg (c : Nested) : Nat → MetaItem → MetaItem
  | 0, m => m
  | k + 1, m => .list [cfgAttr] [c, .metaItem (nestCfg c k m)]

/-! ## Skip contexts -/

theorem skip_extend (c : SkipNameContext) (ns : List Name) (n : Name) :
    (c.extend ns).skip n = (c.skip n || ns.contains n) := by
  cases c <;> simp [extend, skip]

theorem skip_update (c o : SkipNameContext) (n : Name) :
    (c.update o).skip n = (c.skip n || o.skip n) := by
  cases c <;> cases o <;> simp [update, skip]

theorem skip_skipAll (c : SkipNameContext) (n : Name) : (c.skipAll).skip n = true := rfl

/-- `c ≤ c'`: everything skipped under `c` is skipped under `c'`. -/
def SkipNameContext.le (c c' : SkipNameContext) : Prop := ∀ n, c.skip n = true → c'.skip n = true
def SkipContext.le (c c' : SkipContext) : Prop :=
  SkipNameContext.le c.macros c'.macros ∧ SkipNameContext.le c.attributes c'.attributes

theorem SkipContext.le_refl (c : SkipContext) : SkipContext.le c c := ⟨fun _ h => h, fun _ h => h⟩
theorem SkipContext.le_trans {a b c : SkipContext} (h1 : SkipContext.le a b) (h2 : SkipContext.le b c) :
    SkipContext.le a c := ⟨fun n h => h2.1 n (h1.1 n h), fun n h => h2.2 n (h1.2 n h)⟩

theorem le_updateWithAttrs (c : SkipContext) (attrs : List Attr) :
    SkipContext.le c (c.updateWithAttrs attrs) := by
  constructor <;> intro n h <;> simp [SkipContext.updateWithAttrs, skip_extend, h]

theorem le_update (c o : SkipContext) : SkipContext.le c (c.update o) := by
  constructor <;> intro n h <;> simp [SkipContext.update, skip_update, h]

theorem le_update_right (c o : SkipContext) : SkipContext.le o (c.update o) := by
  constructor <;> intro n h <;> simp [SkipContext.update, skip_update, h]

theorem extend_le_extend {c c' : SkipNameContext} (h : SkipNameContext.le c c') (ns : List Name) :
    SkipNameContext.le (c.extend ns) (c'.extend ns) := by
  intro n hn
  rw [skip_extend, Bool.or_eq_true] at hn ⊢
  exact hn.imp_left (h n)

theorem update_le_update {c c' o o' : SkipNameContext} (h : SkipNameContext.le c c')
    (ho : SkipNameContext.le o o') : SkipNameContext.le (c.update o) (c'.update o') := by
  intro n hn
  rw [skip_update, Bool.or_eq_true] at hn ⊢
  exact hn.imp (h n) (ho n)

theorem updateWithAttrs_mono {c c' : SkipContext} (h : SkipContext.le c c') (attrs : List Attr) :
    SkipContext.le (c.updateWithAttrs attrs) (c'.updateWithAttrs attrs) :=
  ⟨extend_le_extend h.1 _, extend_le_extend h.2 _⟩

theorem update_mono {c c' o o' : SkipContext} (h : SkipContext.le c c') (ho : SkipContext.le o o') :
    SkipContext.le (c.update o) (c'.update o') :=
  ⟨update_le_update h.1 ho.1, update_le_update h.2 ho.2⟩

mutual
theorem visitItem_restore (ctx : SkipContext) : (it : Item) → (visitItem ctx it).1 = ctx
  | .mk _ _ => by simp [visitItem]
theorem visitItems_restore (ctx : SkipContext) : (its : List Item) → (visitItems ctx its).1 = ctx
  | [] => by simp [visitItems]
  | i :: is => by
    simp only [visitItems]
    rw [visitItem_restore ctx i]
    exact visitItems_restore ctx is
end

theorem visitItems_cons (ctx : SkipContext) (i : Item) (is : List Item) :
    (visitItems ctx (i :: is)).2 = (visitItem ctx i).2 ++ (visitItems ctx is).2 := by
  simp only [visitItems]
  rw [visitItem_restore]

mutual
theorem visitItem_log_ge (ctx : SkipContext) : (it : Item) →
    ∀ c ∈ (visitItem ctx it).2, SkipContext.le ctx c
  | .mk attrs ch => by
    intro c hc
    simp only [visitItem, List.mem_cons] at hc
    rcases hc with rfl | hc
    · exact le_updateWithAttrs ctx attrs
    · exact SkipContext.le_trans (le_updateWithAttrs ctx attrs)
        (visitItems_log_ge (ctx.updateWithAttrs attrs) ch c hc)
theorem visitItems_log_ge (ctx : SkipContext) : (its : List Item) →
    ∀ c ∈ (visitItems ctx its).2, SkipContext.le ctx c
  | [] => by simp [visitItems]
  | i :: is => by
    intro c hc
    rw [visitItems_cons, List.mem_append] at hc
    rcases hc with hc | hc
    · exact visitItem_log_ge ctx i c hc
    · exact visitItems_log_ge ctx is c hc
end

theorem selector_skip (sel : List MacroSelector) (n : Name) :
    (fromPsessCtx sel).macros.skip n = (selectorAll sel || (selectorNames sel).contains n) := by
  unfold fromPsessCtx
  simp only [skip_extend]
  split <;> simp_all [SkipContext.default, SkipNameContext.default, skipAll, skip]

theorem formatFileCtx_skipMacro (sel : List MacroSelector) (krateAttrs : List Attr) (n : Name) :
    skipMacro (formatFileCtx sel krateAttrs) n =
      (selectorAll sel || (selectorNames sel).contains n ||
        (getSkipNames macrosName krateAttrs).contains n) := by
  simp [skipMacro, formatFileCtx, SkipContext.updateWithAttrs, skip_extend, selector_skip]

theorem fromContextCtx_skipMacro (sel : List MacroSelector) (parent : SkipContext) (n : Name) :
    skipMacro (fromContextCtx sel parent) n =
      (selectorAll sel || (selectorNames sel).contains n || skipMacro parent n) := by
  simp [skipMacro, fromContextCtx, SkipContext.update, skip_update, selector_skip]

/-! ## The buffer machine -/

theorem trimStart_decomp (s : List Char) :
    s = s.takeWhile isWhitespace ++ trimStart s := by
  simp [trimStart, List.takeWhile_append_dropWhile]

theorem trimEnd_decomp (s : List Char) :
    s = trimEnd s ++ (s.reverse.takeWhile isWhitespace).reverse := by
  unfold trimEnd
  rw [← List.reverse_append, List.takeWhile_append_dropWhile, List.reverse_reverse]

theorem dropWhile_eq_self_of_head {p : Char → Bool} {s : List Char}
    (h : ∀ c, s.head? = some c → p c = false) : s.dropWhile p = s := by
  cases s with
  | nil => rfl
  | cons c r => simp [List.dropWhile, h c (by simp)]

/-- `trim` does nothing to a text whose first and last characters are not whitespace (every span
of an AST node). -/
theorem trim_eq_self {s : List Char}
    (h1 : ∀ c, s.head? = some c → isWhitespace c = false)
    (h2 : ∀ c, s.getLast? = some c → isWhitespace c = false) : trim s = s := by
  unfold trim trimStart
  rw [dropWhile_eq_self_of_head h1]
  unfold trimEnd
  rw [dropWhile_eq_self_of_head (by simpa [List.head?_reverse] using h2), List.reverse_reverse]

theorem trimEnd_getLast (s : List Char) :
    ∀ c, (trimEnd s).getLast? = some c → isWhitespace c = false := by
  intro c h
  unfold trimEnd at h
  rw [List.getLast?_reverse] at h
  have := List.head?_dropWhile_not (p := isWhitespace) (l := s.reverse)
  rw [h] at this
  simpa using this

theorem countNl_append (a b : List Char) : countNl (a ++ b) = countNl a + countNl b := by
  induction a with
  | nil => simp [countNl]
  | cons c a ih => simp [countNl, ih]; omega

theorem countNl_take_le (s : List Char) (i j : Nat) (h : i ≤ j) :
    countNl (s.take i) ≤ countNl (s.take j) := by
  have : s.take j = s.take i ++ (s.drop i).take (j - i) := by
    rw [← List.take_add]; congr 1; omega
  rw [this, countNl_append]; omega

theorem lineOf_mono (src : List Char) {i j : Nat} (h : i ≤ j) : lineOf src i ≤ lineOf src j := by
  unfold lineOf; have := countNl_take_le src i j h; omega

theorem attrsEnd_ge (src : List Char) {hs : List Nat} {h : Nat} (hm : h ∈ hs) :
    lineOf src h ≤ attrsEnd src hs := by
  induction hs with
  | nil => cases hm
  | cons a r ih =>
    cases r with
    | nil => simp at hm; subst hm; simp [attrsEnd]
    | cons b r' =>
      simp only [attrsEnd]
      rcases List.mem_cons.1 hm with rfl | hm'
      · omega
      · have := ih hm'; omega

theorem pushStr_inv {st : State} (s : List Char) (h : st.Inv) : (pushStr st s).Inv := by
  simp [State.Inv, pushStr, countNl_append] at *; omega

theorem snippet_isSome_iff (src : List Char) (lo hi : Nat) :
    (snippet src lo hi).isSome ↔ lo ≤ hi ∧ hi ≤ src.length := by
  unfold snippet; split <;> simp_all

theorem snippet_spec {src : List Char} {lo hi : Nat} {sn : List Char}
    (h : snippet src lo hi = some sn) :
    lo ≤ hi ∧ hi ≤ src.length ∧ sn.length = hi - lo ∧
      src = src.take lo ++ sn ++ src.drop hi := by
  unfold snippet at h
  split at h
  · rename_i hc
    simp only [Option.some.injEq] at h
    subst h
    refine ⟨hc.1, hc.2, ?_, ?_⟩
    · simp; omega
    · have h1 : src.drop hi = (src.drop lo).drop (hi - lo) := by
        rw [List.drop_drop]; congr 1; omega
      rw [h1, List.append_assoc, List.take_append_drop, List.take_append_drop]
  · cases h

theorem formatMissing_spec {src : List Char} {st st1 : State} {e : Nat} {w : List Char}
    (h : formatMissingWithIndent src st e w = some st1) :
    st.lastPos ≤ e ∧ st1 = { pushStr st w with lastPos := e } := by
  unfold formatMissingWithIndent at h
  split at h
  · rename_i he
    simp only [Option.some.injEq] at h
    subst h
    refine ⟨by omega, ?_⟩
    simp [pushStr, ← he]
  · split at h
    · cases h
    · split at h
      · cases h
      · simp only [Option.some.injEq] at h
        exact ⟨by omega, h.symm⟩

theorem formatMissing_isSome_iff (src : List Char) (st : State) (e : Nat) (w : List Char) :
    (formatMissingWithIndent src st e w).isSome ↔
      st.lastPos = e ∨ (st.lastPos < e ∧ e ≤ src.length) := by
  unfold formatMissingWithIndent
  split
  · simp_all
  · split
    · simp; omega
    · have := snippet_isSome_iff src st.lastPos e
      split <;> simp_all <;> omega

theorem pushRewriteInner_some {src : List Char} {st : State} {lo hi : Nat} (s : List Char) :
    pushRewriteInner src st lo hi (some s) = some { pushStr st s with lastPos := hi } := rfl

theorem pushRewriteInner_none_spec {src : List Char} {st st2 : State} {lo hi : Nat}
    (h : pushRewriteInner src st lo hi none = some st2) :
    ∃ sn, snippet src lo hi = some sn ∧ st2 = { pushStr st (trim sn) with lastPos := hi } := by
  unfold pushRewriteInner at h
  simp only at h
  split at h
  · cases h
  · rename_i sn hsn
    simp only [Option.some.injEq] at h
    exact ⟨sn, hsn, h.symm⟩

theorem pushSkipped_spec {src : List Char} {st st' : State} {attrHis : List Nat}
    {lo hi mainLo : Nat} {w : List Char}
    (h : pushSkipped src st attrHis lo hi mainLo w = some st') :
    ∃ sn, snippet src lo hi = some sn ∧ st.lastPos ≤ lo ∧
      st'.buffer = st.buffer ++ w ++ trim sn ∧
      st'.lastPos = hi ∧
      st'.lineNumber = st.lineNumber + countNl w + countNl (trim sn) ∧
      st'.skipped = st.skipped ++
        [(st.lineNumber + countNl w + 1 +
            (min (attrsEnd src attrHis + 1) (lineOf src mainLo) - lineOf src lo),
          st'.lineNumber + 1)] := by
  unfold pushSkipped at h
  split at h
  · cases h
  · rename_i st1 h1
    obtain ⟨hle, rfl⟩ := formatMissing_spec h1
    simp only at h
    split at h
    · cases h
    · rename_i st2 h2
      obtain ⟨sn, hsn, rfl⟩ := pushRewriteInner_none_spec h2
      simp only [Option.some.injEq] at h
      subst h
      exact ⟨sn, hsn, hle, by simp [pushStr], rfl, by simp [pushStr], by simp [pushStr]⟩

theorem pushSkipped_inv {src : List Char} {st st' : State} {attrHis : List Nat}
    {lo hi mainLo : Nat} {w : List Char}
    (h : pushSkipped src st attrHis lo hi mainLo w = some st') (hinv : st.Inv) : st'.Inv := by
  obtain ⟨sn, -, -, hb, -, hl, -⟩ := pushSkipped_spec h
  simp only [State.Inv] at *
  rw [hb, hl, countNl_append, countNl_append, hinv]

theorem pushRewrite_spec {src : List Char} {st st' : State} {lo hi : Nat} {w : List Char}
    {rw : Option (List Char)} (h : pushRewrite src st lo hi w rw = some st') :
    ∃ body, (match rw with
              | some s => body = s
              | none => ∃ sn, snippet src lo hi = some sn ∧ body = trim sn) ∧
      st.lastPos ≤ lo ∧
      st' = { buffer := st.buffer ++ w ++ body, lastPos := hi,
              lineNumber := st.lineNumber + countNl w + countNl body, skipped := st.skipped } := by
  unfold pushRewrite at h
  split at h
  · cases h
  · rename_i st1 h1
    obtain ⟨hle, rfl⟩ := formatMissing_spec h1
    cases rw with
    | some s =>
      rw [pushRewriteInner_some] at h
      simp only [Option.some.injEq] at h
      exact ⟨s, rfl, hle, by rw [← h]; simp [pushStr]⟩
    | none =>
      obtain ⟨sn, hsn, rfl⟩ := pushRewriteInner_none_spec h
      exact ⟨trim sn, ⟨sn, hsn, rfl⟩, hle, by simp [pushStr]⟩

theorem pushRewrite_inv {src : List Char} {st st' : State} {lo hi : Nat} {w : List Char}
    {rw : Option (List Char)} (h : pushRewrite src st lo hi w rw = some st') (hinv : st.Inv) :
    st'.Inv := by
  obtain ⟨body, -, -, rfl⟩ := pushRewrite_spec h
  simp only [State.Inv] at *
  rw [countNl_append, countNl_append, hinv]

theorem formatMissing_inv {src : List Char} {st st1 : State} {e : Nat} {w : List Char}
    (h : formatMissingWithIndent src st e w = some st1) (hinv : st.Inv) : st1.Inv := by
  obtain ⟨-, rfl⟩ := formatMissing_spec h
  exact pushStr_inv w hinv

theorem pushRewriteInner_inv {src : List Char} {st st2 : State} {lo hi : Nat}
    {rw : Option (List Char)} (h : pushRewriteInner src st lo hi rw = some st2) (hinv : st.Inv) :
    st2.Inv := by
  cases rw with
  | some s =>
    rw [pushRewriteInner_some] at h
    simp only [Option.some.injEq] at h
    subst h; exact pushStr_inv s hinv
  | none =>
    obtain ⟨sn, -, rfl⟩ := pushRewriteInner_none_spec h
    exact pushStr_inv (trim sn) hinv

theorem countNl_dropLast {s : List Char} (h : s.getLast? = some '\n') :
    countNl s = countNl s.dropLast + 1 := by
  have hne : s ≠ [] := by intro h0; simp [h0] at h
  have hl : s.getLast hne = '\n' := by
    rw [List.getLast?_eq_some_getLast hne] at h; simpa using h
  have := List.dropLast_concat_getLast hne
  conv => lhs; rw [← this]
  rw [countNl_append, hl]; simp [countNl]

theorem popNewline_inv {st st' : State} (h : popNewline st = some st') (hinv : st.Inv) : st'.Inv := by
  unfold popNewline at h
  split at h
  · rename_i hl
    split at h
    · cases h
    · simp only [Option.some.injEq] at h
      subst h
      simp only [State.Inv] at *
      have := countNl_dropLast hl
      omega
  · simp only [Option.some.injEq] at h; subst h; exact hinv

theorem init_inv (p : Nat) : (State.init p).Inv := rfl

theorem countNl_take_snippet {src : List Char} {lo hi : Nat} {sn : List Char}
    (h : snippet src lo hi = some sn) :
    countNl (src.take hi) = countNl (src.take lo) + countNl sn := by
  obtain ⟨h1, h2, h3, h4⟩ := snippet_spec h
  have : src.take hi = src.take lo ++ sn := by
    conv => lhs; rw [h4]
    have hl : (src.take lo ++ sn).length = hi := by simp; omega
    rw [List.take_append_of_le_length (by omega)]
    rw [List.take_of_length_le (by omega)]
  rw [this, countNl_append]

/-! ## The lines of a text (`splitNl`, `joinNl`) -/

def joinNl : List (List Char) → List Char
  | [] => []
  | [l] => l
  | l :: ls => l ++ '\n' :: joinNl ls

theorem splitNl_ne_nil (s : List Char) : splitNl s ≠ [] := by
  cases s with
  | nil => simp [splitNl]
  | cons c r =>
    simp only [splitNl]
    split
    · simp
    · split <;> simp

theorem joinNl_splitNl (s : List Char) : joinNl (splitNl s) = s := by
  induction s with
  | nil => rfl
  | cons c r ih =>
    simp only [splitNl]
    split
    · rename_i h
      have := splitNl_ne_nil r
      match hr : splitNl r, this with
      | l :: ls, _ => rw [hr] at ih; simp [joinNl, ih, h]
    · have := splitNl_ne_nil r
      match hr : splitNl r, this with
      | [l], _ => rw [hr] at ih; simp [joinNl] at ih ⊢; exact ih
      | l :: l2 :: ls, _ => rw [hr] at ih; simp [joinNl] at ih ⊢; exact ih

theorem splitNl_no_nl (s : List Char) : ∀ l ∈ splitNl s, '\n' ∉ l := by
  induction s with
  | nil => simp [splitNl]
  | cons c r ih =>
    simp only [splitNl]
    split
    · intro l hl
      rcases List.mem_cons.1 hl with rfl | hl
      · simp
      · exact ih l hl
    · rename_i hc
      have := splitNl_ne_nil r
      match hr : splitNl r, this with
      | l :: ls, _ =>
        rw [hr] at ih
        intro l' hl'
        simp only [List.mem_cons] at hl'
        rcases hl' with rfl | hl'
        · intro hm
          rcases List.mem_cons.1 hm with h | h
          · exact hc h.symm
          · exact ih l (by simp) h
        · exact ih l' (by simp [hl'])

theorem splitNl_length (s : List Char) : (splitNl s).length = countNl s + 1 := by
  induction s with
  | nil => rfl
  | cons c r ih =>
    simp only [splitNl, countNl]
    split
    · simp [ih]; omega
    · have := splitNl_ne_nil r
      match hr : splitNl r, this with
      | l :: ls, _ => rw [hr] at ih; simp at ih ⊢; omega

theorem splitNl_snoc (a : List Char) : ∃ A la, splitNl a = A ++ [la] := by
  have h := splitNl_ne_nil a
  exact ⟨(splitNl a).dropLast, (splitNl a).getLast h, (List.dropLast_concat_getLast h).symm⟩

theorem splitNl_cons (b : List Char) : ∃ hb B, splitNl b = hb :: B := by
  have h := splitNl_ne_nil b
  match hb : splitNl b, h with
  | x :: B, _ => exact ⟨x, B, rfl⟩

/-- Lines of a concatenation: the last line of `a` and the first line of `b` are one line. -/
theorem splitNl_append : ∀ (a b : List Char) (A : List (List Char)) (la hb : List Char)
    (B : List (List Char)), splitNl a = A ++ [la] → splitNl b = hb :: B →
    splitNl (a ++ b) = A ++ [la ++ hb] ++ B
  | [], b, A, la, hb, B, ha, hb' => by
    simp only [splitNl] at ha
    have : A = [] ∧ la = [] := by
      cases A with
      | nil => simp at ha; exact ⟨rfl, ha⟩
      | cons x xs => cases xs <;> simp at ha
    obtain ⟨rfl, rfl⟩ := this
    simp [hb']
  | c :: r, b, A, la, hb, B, ha, hb' => by
    obtain ⟨A', la', hr⟩ := splitNl_snoc r
    have ih := splitNl_append r b A' la' hb B hr hb'
    simp only [List.cons_append, splitNl] at ha ⊢
    by_cases hc : c = '\n'
    · simp only [hc, if_true] at ha ⊢
      rw [hr] at ha
      have hA : A ++ [la] = ([] :: A') ++ [la'] := by simpa using ha.symm
      obtain ⟨rfl, h2⟩ := List.append_inj' hA rfl
      have : la = la' := by simpa using h2
      subst this
      rw [ih]; simp
    · simp only [hc, if_false] at ha ⊢
      rw [hr] at ha
      rw [ih]
      cases A' with
      | nil =>
        simp only [List.nil_append] at ha ⊢
        have hA : A ++ [la] = [] ++ [c :: la'] := by simpa using ha.symm
        obtain ⟨rfl, h2⟩ := List.append_inj' hA rfl
        have : la = c :: la' := by simpa using h2
        subst this
        simp
      | cons x xs =>
        simp only [List.cons_append] at ha ⊢
        have hA : A ++ [la] = ((c :: x) :: xs) ++ [la'] := by simpa using ha.symm
        obtain ⟨rfl, h2⟩ := List.append_inj' hA rfl
        have : la = la' := by simpa using h2
        subst this
        simp

theorem joinNl_cons_ne_nil (l : List Char) {ls : List (List Char)} (h : ls ≠ []) :
    joinNl (l :: ls) = l ++ '\n' :: joinNl ls := by
  cases ls with
  | nil => exact absurd rfl h
  | cons x xs => rfl

theorem joinNl_snoc_append : ∀ (S : List (List Char)) (l q : List Char),
    joinNl (S ++ [l ++ q]) = joinNl (S ++ [l]) ++ q
  | [], l, q => by simp [joinNl]
  | x :: S, l, q => by
    have h1 : S ++ [l ++ q] ≠ [] := by simp
    have h2 : S ++ [l] ≠ [] := by simp
    rw [List.cons_append, List.cons_append, joinNl_cons_ne_nil x h1, joinNl_cons_ne_nil x h2,
      joinNl_snoc_append S l q]
    simp

/-- The lines `countNl pre + 1 ..= countNl pre + countNl s + 1` (1-based) of `pre ++ s ++ post`
are, joined by line breaks, `s` between the rest of the line it starts on and the rest of the line
it ends on. -/
theorem splitNl_block (pre s post : List Char) :
    ∃ (A M B : List (List Char)) (p q : List Char),
      splitNl (pre ++ s ++ post) = A ++ M ++ B ∧ A.length = countNl pre ∧
      M.length = countNl s + 1 ∧ joinNl M = p ++ s ++ q ∧ '\n' ∉ p ∧ '\n' ∉ q := by
  obtain ⟨P, lp, hP⟩ := splitNl_snoc pre
  obtain ⟨hq, Q, hQ⟩ := splitNl_cons post
  obtain ⟨S, ls, hS⟩ := splitNl_snoc s
  have hlenP : P.length = countNl pre := by
    have := splitNl_length pre; rw [hP] at this; simpa using this
  have hlenS : S.length = countNl s := by
    have := splitNl_length s; rw [hS] at this; simpa using this
  have hlp : '\n' ∉ lp := splitNl_no_nl pre lp (by rw [hP]; simp)
  have hhq : '\n' ∉ hq := splitNl_no_nl post hq (by rw [hQ]; simp)
  have hsq : splitNl (s ++ post) = S ++ [ls ++ hq] ++ Q := splitNl_append s post S ls hq Q hS hQ
  have hjoin : joinNl (S ++ [ls]) = s := by rw [← hS]; exact joinNl_splitNl s
  cases S with
  | nil =>
    have h1 : splitNl (s ++ post) = (ls ++ hq) :: Q := by simpa using hsq
    have h2 := splitNl_append pre (s ++ post) P lp (ls ++ hq) Q hP h1
    refine ⟨P, [lp ++ (ls ++ hq)], Q, lp, hq, ?_, hlenP, ?_, ?_, hlp, hhq⟩
    · rw [List.append_assoc pre s post]; exact h2
    · simp at hlenS ⊢; omega
    · have : ls = s := by simpa [joinNl] using hjoin
      simp [joinNl, this]
  | cons h S' =>
    have h1 : splitNl (s ++ post) = h :: (S' ++ [ls ++ hq] ++ Q) := by simpa using hsq
    have h2 := splitNl_append pre (s ++ post) P lp h (S' ++ [ls ++ hq] ++ Q) hP h1
    refine ⟨P, (lp ++ h) :: (S' ++ [ls ++ hq]), Q, lp, hq, ?_, hlenP, ?_, ?_, hlp, hhq⟩
    · rw [List.append_assoc pre s post, h2]; simp
    · simp at hlenS ⊢; omega
    · have hne : S' ++ [ls ++ hq] ≠ [] := by simp
      have hne' : S' ++ [ls] ≠ [] := by simp
      rw [joinNl_cons_ne_nil _ hne, joinNl_snoc_append]
      rw [List.cons_append, joinNl_cons_ne_nil _ hne'] at hjoin
      rw [← hjoin]; simp

theorem splitNl_cons_nl (r : List Char) : splitNl ('\n' :: r) = [] :: splitNl r := by
  rw [splitNl]; simp only [if_true]

theorem splitNl_cons_ne {c : Char} (r : List Char) (h : c ≠ '\n') (x : List Char)
    (xs : List (List Char)) (hr : splitNl r = x :: xs) : splitNl (c :: r) = (c :: x) :: xs := by
  rw [splitNl]; simp only [h, if_false, hr]

/-! ## `is_generated_file` -/

theorem containsSub_iff (needle hay : List Char) :
    containsSub needle hay = true ↔ ∃ a b, hay = a ++ needle ++ b := by
  induction hay with
  | nil =>
    simp only [containsSub, List.isEmpty_iff]
    constructor
    · rintro rfl; exact ⟨[], [], rfl⟩
    · rintro ⟨a, b, h⟩
      have := congrArg List.length h
      simp at this
      exact List.eq_nil_of_length_eq_zero (by omega)
  | cons c r ih =>
    simp only [containsSub, Bool.or_eq_true, ih, List.isPrefixOf_iff_prefix]
    constructor
    · rintro (⟨t, ht⟩ | ⟨a, b, h⟩)
      · exact ⟨[], t, by simp [ht]⟩
      · exact ⟨c :: a, b, by simp [h]⟩
    · rintro ⟨a, b, h⟩
      cases a with
      | nil => left; exact ⟨b, by simpa using h.symm⟩
      | cons d a' =>
        right
        simp only [List.cons_append, List.cons.injEq] at h
        exact ⟨a', b, h.2⟩

theorem isGeneratedFile_iff (src : List Char) (limit : Nat) :
    isGeneratedFile src limit = true ↔
      ∃ l ∈ (splitNl src).take limit, ∃ a b, l = a ++ generatedMarker ++ b := by
  simp only [isGeneratedFile, List.any_eq_true, containsSub_iff]

end RF.Skip

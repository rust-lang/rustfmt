import RF.Model.TokEquiv
/-!
The lemmas behind C01 (RF/Props/C01.lean), about the token validator `norm` of RF/Model/TokEquiv.lean.

* Locality.  `outside S ts` is `ts` without the tokens of class `S`.  `bpass_outside`: a rule function whose
  every action is local to `S` (`RuleLocal`) gives a bracket-stack pass that keeps the tokens outside `S`; one
  instance per rule (`rule*_local`), the hand-written passes (`whereSep`, `closureSep`, `semiSep`, `wildCondense`,
  and the stages of `mid`) by induction on themselves.  The classes of the thirteen rules other than the three opt-in rewrites
  (of hard tokens and of `try!`) are soft, so `post` keeps the hard tokens (`post_soft_hards`, `post_outside_softX`).
* Reorder regions.  `regions` is `render ∘ segs`; `render` is injective on well-formed segment lists
  (`render_inj`), which turns equal normal forms into equal certificates `hardSeq`; the leaf order is a permutation
  (`sortLeaves_perm`) and `dedupAdj` keeps membership.
* `use_field_init_shorthand`: `bpass_fis_squash`, the hard tokens are kept up to `squash`.
* Literal spelling keeps the value (`intValue_hexCanon`, `floatCanon_shape`).
* `lexEx`, `chars%`: a toy lexer for the test vectors of C01.
-/
namespace RF.Tok

/-- tokens outside the class `S` -/
def outside (S : Tok → Bool) (ts : List Tok) : List Tok := ts.filter (fun t => !S t)

@[simp] theorem outside_nil (S) : outside S [] = [] := rfl
theorem outside_cons (S t ts) : outside S (t :: ts) = if S t then outside S ts else t :: outside S ts := by
  unfold outside; by_cases h : S t <;> simp [h]
theorem outside_append (S a b) : outside S (a ++ b) = outside S a ++ outside S b := by
  simp [outside]
theorem outside_eq_nil_iff {S : Tok → Bool} {ts : List Tok} : outside S ts = [] ↔ ∀ t ∈ ts, S t = true := by
  simp [outside]

/-- An action `a` of a rule function on the current token `t` is local to the class `S`:
`out`: what replaces `t` equals `t` outside `S`;
`close`: if `a` replaces the matching closer by `o`, then `o` holds only tokens of `S` and every closer is in `S`
(the closer that `o` replaces is whatever token closes the bracket later, so all of them must be);
`comma`: if `a` asks `bpass` to insert a `,` after the closer or to drop one that follows it, `,` is in `S`. -/
structure ActLocal (S : Tok → Bool) (t : Tok) (a : Act) : Prop where
  out : outside S a.out = outside S [t]
  close : ∀ o, a.close = some o → outside S o = [] ∧ ∀ c : Tok, c.isClose = true → S c = true
  comma : (a.commaAfter = true ∨ a.skipComma = true) → S (mkP ',') = true

def RuleLocal (S : Tok → Bool) (f : Rule) : Prop :=
  ∀ enc lo p2 p1 t rest a, f enc lo p2 p1 t rest = some a → ActLocal S t a

/-- the `close` and `comma` licences of `ActLocal`, as `bpass` keeps them on its bracket stack -/
structure FrameOk (S : Tok → Bool) (fr : Frame) : Prop where
  close : ∀ o, fr.close = some o → outside S o = [] ∧ ∀ c : Tok, c.isClose = true → S c = true
  comma : (fr.commaAfter = true ∨ fr.skipComma = true) → S (mkP ',') = true

theorem isP_eq {t : Tok} {c : Char} (h : t.isP c = true) : t = mkP c := by
  cases t with | mk cls text =>
  simp [Tok.isP, mkP] at h ⊢
  exact h

theorem closeOut_outside (S) (fr : Frame) (hfr : FrameOk S fr) (t lo : Tok) (ht : t.isClose = true) :
    outside S (closeOut fr t lo) = outside S [t] := by
  unfold closeOut
  extract_lets o
  have ho : outside S o = outside S [t] := by
    unfold o
    split
    · next o h => obtain ⟨h1, h2⟩ := hfr.close o h; simp [outside_cons, h1, h2 t ht]
    · rfl
  split
  · next h =>
    simp only [Bool.and_eq_true] at h
    rw [outside_append, ho, outside_cons S (mkP ','), hfr.comma (.inl h.1), if_pos rfl, outside_nil, List.append_nil]
  · exact ho

theorem bpass_outside (S : Tok → Bool) (f : Rule) (hf : RuleLocal S f)
    (ts : List Tok) (p2 p1 lo : Tok) (skip : Bool) (st : List Frame)
    (hst : ∀ fr ∈ st, FrameOk S fr) (hskip : skip = true → S (mkP ',') = true) :
    outside S (bpass f p2 p1 lo skip st ts) = outside S ts := by
  have cons (t ts) : outside S [t] ++ outside S ts = outside S (t :: ts) := (outside_append S [t] ts).symm
  fun_induction bpass f p2 p1 lo skip st ts with
  | case1 => rfl  -- end of input
  | case2 _ _ _ _ _ t _ h ih =>  -- a `,` dropped after a closer (`skip`)
    simp only [Bool.and_eq_true] at h
    rw [ih hst nofun, outside_cons, isP_eq h.2, hskip h.1, if_pos rfl]
  | case3 _ _ _ _ _ _ _ _ _ a ha ih =>  -- opener, the rule acts: pushes the frame of `a`
    have hl := hf _ _ _ _ _ _ _ ha
    rw [outside_append, hl.out, ih (List.forall_mem_cons.2 ⟨⟨hl.close, hl.comma⟩, hst⟩) nofun, cons]
  | case4 _ _ _ _ _ _ _ _ _ _ ih =>  -- opener kept: pushes the empty frame
    simp only [outside_cons, ih (List.forall_mem_cons.2 ⟨⟨nofun, by simp⟩, hst⟩) nofun]
  | case5 _ _ lo _ t _ _ _ hc fr _ o ih =>  -- closer: pops `fr`, emits `closeOut`
    have hfr := List.forall_mem_cons.1 hst
    rw [outside_append, closeOut_outside S fr hfr.1 t lo hc, ih hfr.2 (hfr.1.comma ∘ .inr), cons]
  | case6 _ _ _ _ _ _ _ _ _ ih => simp only [outside_cons, ih hst nofun]  -- closer on an empty stack, kept
  | case7 _ _ _ _ _ _ _ _ _ _ a ha ih =>  -- other token, the rule acts
    rw [outside_append, (hf _ _ _ _ _ _ _ ha).out, ih hst nofun, cons]
  | case8 _ _ _ _ _ _ _ _ _ _ _ ih => simp only [outside_cons, ih hst nofun]  -- other token, kept

theorem runRule_outside (S f) (hf : RuleLocal S f) (ts) : outside S (runRule f ts) = outside S ts :=
  bpass_outside S f hf ts _ _ _ _ _ nofun nofun

def clsDelim (t : Tok) : Bool := t.isOpen || t.isClose
def clsTry (t : Tok) : Bool := isTryName t || t.isP '!' || t.isP '?' || t.isP ',' || clsDelim t
def clsAbi (t : Tok) : Bool := isAbiC t
def clsVis (t : Tok) : Bool := t.isI kwIn || t.isP ':'
def clsEmpty (t : Tok) : Bool := t.isP '<' || t.isP '>' || t.isI kwFor || t.isI kwWhere || t.isP ':' || t.isP '+'
def clsPipe (t : Tok) : Bool := t.isP '|'
def clsBlock (t : Tok) : Bool := clsDelim t || t.isP ','
def clsSemi (t : Tok) : Bool := t.isP ';'
def clsComma (t : Tok) : Bool := t.isP ','

theorem isC_isClose {t : Tok} {c} (h : t.isC c = true) : t.isClose = true := by
  simp [Tok.isC, Tok.isClose] at *; exact h.1

/-- what `RuleLocal` asks of one result of a rule function -/
def OptLocal (S : Tok → Bool) (t : Tok) : Option Act → Prop
  | none => True
  | some a => ActLocal S t a

theorem RuleLocal.of_opt {S f} (h : ∀ enc lo p2 p1 t rest, OptLocal S t (f enc lo p2 p1 t rest)) : RuleLocal S f :=
  fun enc lo p2 p1 t rest a ha => (ha ▸ h enc lo p2 p1 t rest : OptLocal S t (some a))

@[simp] theorem optLocal_none {S t} : OptLocal S t none := trivial

@[simp] theorem optLocal_drop {S t} : OptLocal S t drop_ ↔ S t = true :=
  ⟨fun h => by simpa [outside_cons] using h.out, fun h => ⟨by simp [outside_cons, h], nofun, by simp⟩⟩

/-- an action that keeps the current token and only marks its bracket -/
@[simp] theorem optLocal_keep {S t n} : OptLocal S t (some { out := [t], tag := n }) := ⟨rfl, nofun, by simp⟩

/-- an action on a token of a class that holds all closers: everything it emits is of the class -/
theorem optLocal_some {S : Tok → Bool} {t : Tok} {a : Act} (hc : ∀ c : Tok, c.isClose = true → S c = true) (ht : S t = true) :
    OptLocal S t (some a) ↔ (∀ x ∈ a.out, S x = true) ∧ (∀ o, a.close = some o → ∀ x ∈ o, S x = true) ∧
      (a.commaAfter = true ∨ a.skipComma = true → S (mkP ',') = true) := by
  have e : outside S [t] = [] := by simp [outside_cons, ht]
  constructor
  · rintro ⟨h1, h2, h3⟩
    exact ⟨outside_eq_nil_iff.1 (h1.trans e), fun o ho => outside_eq_nil_iff.1 (h2 o ho).1, h3⟩
  · rintro ⟨h1, h2, h3⟩
    exact ⟨(outside_eq_nil_iff.2 h1).trans e.symm, fun o ho => ⟨outside_eq_nil_iff.2 (h2 o ho), hc⟩, h3⟩

@[simp] theorem mkO_isOpen (c) : (mkO c).isOpen = true := rfl
@[simp] theorem mkC_isClose (c) : (mkC c).isClose = true := rfl
@[simp] theorem mkP_isP (c) : (mkP c).isP c = true := by simp [mkP, Tok.isP]

theorem isO_eq (t : Tok) (c : Char) : t.isO c = (t.isOpen && t.text == [c]) := rfl

macro "rule_cases" h:ident : tactic =>
  `(tactic| (repeat' (split at $h:ident)) <;> (try (cases $h:ident; done)))

/-! The locality of each rule, by cases on the branches of its rule function: a branch that answers `none`
asks nothing, one that drops the token is guarded by a test that puts the token in the class, one that
re-brackets acts on an opener and emits delimiters (for `try!` also `?`). -/

theorem ruleAbi_local : RuleLocal clsAbi ruleAbi := by
  refine .of_opt fun enc lo p2 p1 t rest => ?_
  fun_cases ruleAbi enc lo p2 p1 t rest
  all_goals try simp only [Bool.and_eq_true] at *
  all_goals simp [clsAbi, *]

theorem ruleVis_local : RuleLocal clsVis ruleVis := by
  refine .of_opt fun enc lo p2 p1 t rest => ?_
  fun_cases ruleVis enc lo p2 p1 t rest
  all_goals try simp only [Bool.and_eq_true] at *
  all_goals simp [clsVis, *]

theorem ruleEmpty_local : RuleLocal clsEmpty ruleEmpty := by
  refine .of_opt fun enc lo p2 p1 t rest => ?_
  fun_cases ruleEmpty enc lo p2 p1 t rest
  all_goals try simp only [Bool.and_eq_true] at *
  all_goals simp [clsEmpty, *]

theorem rulePipe_local : RuleLocal clsPipe rulePipe := by
  refine .of_opt fun enc lo p2 p1 t rest => ?_
  fun_cases rulePipe enc lo p2 p1 t rest
  all_goals try simp only [Bool.and_eq_true] at *
  all_goals simp [clsPipe, *]

theorem ruleComma_local : RuleLocal clsComma ruleComma := by
  refine .of_opt fun enc lo p2 p1 t rest => ?_
  fun_cases ruleComma enc lo p2 p1 t rest
  all_goals try simp only [Bool.and_eq_true] at *
  all_goals simp [clsComma, *]

theorem clsDelim_close (c : Tok) (h : c.isClose = true) : clsDelim c = true := by simp [clsDelim, h]

theorem ruleVec_local : RuleLocal clsDelim ruleVec := by
  refine .of_opt fun enc lo p2 p1 t rest => ?_
  fun_cases ruleVec enc lo p2 p1 t rest
  all_goals try simp only [Bool.and_eq_true] at *
  all_goals simp [optLocal_some clsDelim_close, clsDelim, *]

theorem ruleParen_local : RuleLocal clsDelim ruleParen := by
  refine .of_opt fun enc lo p2 p1 t rest => ?_
  fun_cases ruleParen enc lo p2 p1 t rest
  all_goals try simp only [Bool.and_eq_true, isO_eq] at *
  all_goals simp [optLocal_some clsDelim_close, clsDelim, *]

theorem ruleLitParen_local : RuleLocal clsDelim ruleLitParen := by
  refine .of_opt fun enc lo p2 p1 t rest => ?_
  fun_cases ruleLitParen enc lo p2 p1 t rest
  all_goals try simp only [Bool.and_eq_true, isO_eq] at *
  all_goals simp [optLocal_some clsDelim_close, clsDelim, *]

theorem ruleClosureParen_local : RuleLocal clsDelim ruleClosureParen := by
  refine .of_opt fun enc lo p2 p1 t rest => ?_
  fun_cases ruleClosureParen enc lo p2 p1 t rest
  all_goals try simp only [Bool.and_eq_true, isO_eq] at *
  all_goals simp [optLocal_some clsDelim_close, clsDelim, *]

theorem clsTry_close (c : Tok) (h : c.isClose = true) : clsTry c = true := by simp [clsTry, clsDelim, h]
theorem clsBlock_close (c : Tok) (h : c.isClose = true) : clsBlock c = true := by simp [clsBlock, clsDelim, h]

theorem ruleTry_local : RuleLocal clsTry ruleTry := by
  refine .of_opt fun enc lo p2 p1 t rest => ?_
  fun_cases ruleTry enc lo p2 p1 t rest
  all_goals try simp only [Bool.and_eq_true] at *
  all_goals simp [optLocal_some clsTry_close, clsTry, clsDelim, *]

theorem ruleBlock_local : RuleLocal clsBlock ruleBlock := by
  refine .of_opt fun enc lo p2 p1 t rest => ?_
  fun_cases ruleBlock enc lo p2 p1 t rest
  all_goals try simp only [Bool.and_eq_true, isO_eq] at *
  all_goals simp [optLocal_some clsBlock_close, clsBlock, clsDelim, *]

theorem semiSep_local (ts : List Tok) (st : List (StmtSt × Bool × Bool)) (s : StmtSt) (md al : Bool)
    (start pend : Nat) (lo : Tok) :
    outside clsSemi (semiSep st s md al start pend lo ts) = outside clsSemi ts := by
  fun_induction semiSep st s md al start pend lo ts
  all_goals simp only [outside_cons, outside_nil, *]
  simp_all [clsSemi]

theorem whereSep_local (ts : List Tok) (w : Bool) (d a : Nat) (pm : Bool) :
    outside clsComma (whereSep w d a pm ts) = outside clsComma ts := by
  fun_induction whereSep w d a pm ts
  all_goals simp only [outside_cons, outside_nil, *]
  simp_all [clsComma]

theorem closureSep_local (ts : List Tok) (m d : Nat) (p1 : Tok) :
    outside clsComma (closureSep m d p1 ts) = outside clsComma ts := by
  fun_induction closureSep m d p1 ts
  all_goals simp only [outside_cons, outside_nil, *]
  simp_all [clsComma]

theorem outside_outside (S S' : Tok → Bool) (h : ∀ t, S t = true → S' t = true) (ts : List Tok) :
    outside S' (outside S ts) = outside S' ts := by
  unfold outside
  rw [List.filter_filter]
  congr 1
  funext t
  cases hs : S t <;> cases hs' : S' t <;> simp_all

theorem outside_mono {S S' : Tok → Bool} (h : ∀ t, S t = true → S' t = true) {a b : List Tok}
    (hab : outside S a = outside S b) : outside S' a = outside S' b := by
  rw [← outside_outside S S' h a, ← outside_outside S S' h b, hab]

theorem onlyIf_elim {P : List Tok → Prop} {b : Bool} {g : List Tok → List Tok} {x : List Tok} (h0 : P x)
    (h1 : b = true → P (g x)) : P (onlyIf b g x) := by
  unfold onlyIf; split
  · exact h1 ‹_›
  · exact h0

theorem onlyIf_outside {S : Tok → Bool} {b : Bool} {g : List Tok → List Tok}
    (h : b = true → ∀ x, outside S (g x) = outside S x) (x : List Tok) : outside S (onlyIf b g x) = outside S x :=
  onlyIf_elim (P := fun y => outside S y = outside S x) rfl fun hb => h hb x

theorem hards_eq_outside (cfg : Cfg) (ts : List Tok) : hards cfg ts = outside (soft cfg) ts := rfl

theorem clsDelim_soft (cfg) (t) (h : clsDelim t = true) : soft cfg t = true := by
  unfold clsDelim at h; unfold soft; grind
theorem clsAbi_soft (cfg) (t) (h : clsAbi t = true) : soft cfg t = true := by
  unfold clsAbi at h; unfold soft; grind
theorem clsVis_soft (cfg) (t) (h : clsVis t = true) : soft cfg t = true := by
  unfold clsVis at h; unfold soft; grind
theorem clsEmpty_soft (cfg) (t) (h : clsEmpty t = true) : soft cfg t = true := by
  unfold clsEmpty at h; unfold soft; grind
theorem clsPipe_soft (cfg) (t) (h : clsPipe t = true) : soft cfg t = true := by
  unfold clsPipe at h; unfold soft; grind
theorem clsSemi_soft (cfg) (t) (h : clsSemi t = true) : soft cfg t = true := by
  unfold clsSemi at h; unfold soft; grind
theorem clsComma_soft (cfg) (t) (h : clsComma t = true) : soft cfg t = true := by
  unfold clsComma at h; unfold soft; grind
theorem clsBlock_soft (cfg) (t) (h : clsBlock t = true) : soft cfg t = true := by
  unfold clsBlock clsDelim at h; unfold soft; grind
theorem clsTry_soft (cfg : Cfg) (hc : cfg.useTry = true) (t) (h : clsTry t = true) : soft cfg t = true := by
  unfold clsTry clsDelim at h; unfold soft; grind

/-- a pass that keeps the tokens outside a class of soft tokens keeps the hard tokens -/
theorem hards_congr (cfg : Cfg) {S : Tok → Bool} (hS : ∀ t, S t = true → soft cfg t = true) {a b : List Tok}
    (h : outside S a = outside S b) : hards cfg a = hards cfg b :=
  outside_mono hS h

theorem runRule_hards (cfg : Cfg) {S : Tok → Bool} {f : Rule} (hf : RuleLocal S f)
    (hS : ∀ t, S t = true → soft cfg t = true) (ts : List Tok) :
    hards cfg (runRule f ts) = hards cfg ts :=
  hards_congr cfg hS (runRule_outside S f hf ts)

/-- the thirteen rules of `post` other than the three opt-in rewrites of hard and `try!` tokens keep the hard tokens -/
theorem post_soft_hards (cfg : Cfg) (ts : List Tok) :
    hards cfg (post cfg ts) = hards cfg (onlyIf cfg.wild wildCondense
      (onlyIf cfg.useTry (runRule ruleTry) (onlyIf cfg.fis (runRule ruleFis) ts))) := by
  have paren (x) : hards cfg (onlyIf cfg.parens (runRule ruleParen) x) = hards cfg x :=
    onlyIf_elim (P := fun y => hards cfg y = hards cfg x) rfl
      fun _ => runRule_hards cfg ruleParen_local (clsDelim_soft cfg) x
  unfold post
  extract_lets
  rw [runRule_hards cfg ruleClosureParen_local (clsDelim_soft cfg),
      runRule_hards cfg ruleLitParen_local (clsDelim_soft cfg), paren,
      runRule_hards cfg ruleComma_local (clsComma_soft cfg),
      runRule_hards cfg ruleBlock_local (clsBlock_soft cfg),
      hards_congr cfg (clsSemi_soft cfg) (semiSep_local ..),
      hards_congr cfg (clsComma_soft cfg) (closureSep_local ..),
      runRule_hards cfg rulePipe_local (clsPipe_soft cfg),
      runRule_hards cfg ruleEmpty_local (clsEmpty_soft cfg),
      hards_congr cfg (clsComma_soft cfg) (whereSep_local ..),
      runRule_hards cfg ruleVis_local (clsVis_soft cfg),
      runRule_hards cfg ruleAbi_local (clsAbi_soft cfg),
      runRule_hards cfg ruleVec_local (clsDelim_soft cfg)]

theorem tryRule_hards (cfg : Cfg) (ts : List Tok) :
    hards cfg (onlyIf cfg.useTry (runRule ruleTry) ts) = hards cfg ts :=
  onlyIf_elim (P := fun x => hards cfg x = hards cfg ts) rfl
    fun h => runRule_hards cfg ruleTry_local (clsTry_soft cfg h) ts

/-- the two opt-in rewrites of hard tokens -/
def hardRw (cfg : Cfg) (ts : List Tok) : List Tok :=
  onlyIf cfg.wild wildCondense (onlyIf cfg.fis (runRule ruleFis) ts)

inductive Seg where
  | plain (t : Tok)
  | region (k : Kind) (leaves : List (List Tok))
deriving DecidableEq, Repr

/-- `regionAt` with the canonical leaves instead of their encoding -/
def regionLeavesAt (cfg : Cfg) (ts : List Tok) : Option (Nat × Kind × List (List Tok)) :=
  match itemLen cfg ts with
  | none => none
  | some (k, n) =>
    if cfg.imports || k == 3 then
      let lens := runItemsAux cfg k 0 ts
      let total := sumNat lens
      some (total, k, canonLeaves k (runLeaves k (cutItems lens (ts.take total))))
    else
      some (n, k, canonLeaves k (itemLeaves k (ts.take n)))

theorem regionAt_eq (cfg : Cfg) (ts : List Tok) :
    regionAt cfg ts = (regionLeavesAt cfg ts).map fun x => (x.1, encRegion x.2.1 x.2.2) := by
  unfold regionAt regionLeavesAt
  cases itemLen cfg ts with
  | none => rfl
  | some x =>
    obtain ⟨k, n⟩ := x
    simp only []
    split <;> rfl

def segsAux (cfg : Cfg) : Nat → List Tok → List Seg
  | _, [] => []
  | n + 1, _ :: ts => segsAux cfg n ts
  | 0, t :: ts =>
    match regionLeavesAt cfg (t :: ts) with
    | some (n, k, l) => .region k l :: segsAux cfg (n - 1) ts
    | none => .plain t :: segsAux cfg 0 ts

def segs (cfg : Cfg) (ts : List Tok) : List Seg := segsAux cfg 0 ts

def render : List Seg → List Tok
  | [] => []
  | .plain t :: r => t :: render r
  | .region k l :: r => encRegion k l ++ render r

theorem regionsAux_eq_render (cfg : Cfg) (ts : List Tok) (n : Nat) :
    regionsAux cfg n ts = render (segsAux cfg n ts) := by
  fun_induction segsAux cfg n ts <;> simp_all [regionsAux, regionAt_eq, render]

theorem regions_eq_render (cfg : Cfg) (ts : List Tok) : regions cfg ts = render (segs cfg ts) :=
  regionsAux_eq_render cfg ts 0

/-- a token of one of the synthetic classes `Ro` `Rs` `Rc` `Rt…` -/
def isR (t : Tok) : Bool := match t.cls with | 'R' :: _ => true | _ => false

theorem isR_hard (cfg : Cfg) (t : Tok) : isR t = true → hard cfg t = true := by
  fun_cases isR t
  · next r hr => simp [hard, soft, Tok.isOpen, Tok.isClose, Tok.isP, Tok.isI, isAbiC, isTryName, hr]
  · nofun

theorem isR_wrapTok (t : Tok) : isR (wrapTok t) = true := rfl
theorem isR_regOpen (k) : isR (regOpen k) = true := rfl
theorem isR_regSep : isR regSep = true := rfl
theorem isR_regClose : isR regClose = true := rfl

theorem mem_encLeaves {t : Tok} : ∀ {ls : List (List Tok)}, t ∈ encLeaves ls → t = regSep ∨ ∃ x, t = wrapTok x
  | [], h => nomatch h
  | l :: ls, h => by
    simp only [encLeaves, encLeaf, List.mem_append, List.mem_map, List.mem_singleton] at h
    rcases h with (⟨x, _, rfl⟩ | h) | h
    · exact .inr ⟨x, rfl⟩
    · exact .inl h
    · exact mem_encLeaves h

theorem encLeaves_allR (ls : List (List Tok)) (t : Tok) (h : t ∈ encLeaves ls) : isR t = true := by
  rcases mem_encLeaves h with rfl | ⟨x, rfl⟩ <;> rfl

theorem encRegion_allR (k : Kind) (ls : List (List Tok)) (t : Tok) (h : t ∈ encRegion k ls) : isR t = true := by
  unfold encRegion at h
  split at h
  · simp at h
  · simp only [List.mem_cons, List.mem_append, List.not_mem_nil, or_false] at h
    rcases h with rfl | h | rfl
    · rfl
    · exact encLeaves_allR ls t h
    · rfl

theorem hards_of_allR (cfg : Cfg) (ts : List Tok) (h : ∀ t ∈ ts, isR t = true) : hards cfg ts = ts := by
  unfold hards
  rw [List.filter_eq_self]
  intro t ht
  exact isR_hard cfg t (h t ht)

def Seg.keep (cfg : Cfg) : Seg → Bool
  | .plain t => hard cfg t
  | .region _ l => !l.isEmpty

theorem hards_append (cfg : Cfg) (a b : List Tok) : hards cfg (a ++ b) = hards cfg a ++ hards cfg b := by
  simp [hards]

theorem hards_render (cfg : Cfg) (sg : List Seg) : hards cfg (render sg) = render (sg.filter (Seg.keep cfg)) := by
  fun_induction render sg with
  | case1 => rfl
  | case2 t r ih =>
    by_cases h : hard cfg t = true <;> simp [hards, Seg.keep, h, render] <;> exact ih
  | case3 k l r ih =>
    rw [hards_append, hards_of_allR cfg _ (encRegion_allR k l), ih]
    cases l <;> simp [encRegion, Seg.keep, render]

theorem wrapTok_inj (a b : Tok) (h : wrapTok a = wrapTok b) : a = b := by
  obtain ⟨c1, t1⟩ := a; obtain ⟨c2, t2⟩ := b
  simpa [wrapTok] using h

/-- a list is determined up to the first occurrence of a separator that it does not hold -/
theorem append_sep_inj {α} {d : α} {x : List α} : ∀ {y u v : List α}, d ∉ x → d ∉ y →
    x ++ d :: u = y ++ d :: v → x = y ∧ u = v := by
  induction x with
  | nil =>
    intro y u v _ hy h
    cases y with
    | nil => exact ⟨rfl, (List.cons.inj h).2⟩
    | cons b y => exact absurd (List.cons.inj h).1 (List.ne_of_not_mem_cons hy)
  | cons a x ih =>
    intro y u v hx hy h
    cases y with
    | nil => exact absurd (List.cons.inj h).1.symm (List.ne_of_not_mem_cons hx)
    | cons b y =>
      obtain ⟨e, h⟩ := List.cons.inj h
      obtain ⟨e', e''⟩ := ih (List.not_mem_of_not_mem_cons hx) (List.not_mem_of_not_mem_cons hy) h
      exact ⟨by rw [e, e'], e''⟩

theorem encLeaves_inj : ∀ {l1 l2 : List (List Tok)}, encLeaves l1 = encLeaves l2 → l1 = l2
  | [], [], _ => rfl
  | [], y :: ys, h => by simp [encLeaves, encLeaf] at h
  | x :: xs, [], h => by simp [encLeaves, encLeaf] at h
  | x :: xs, y :: ys, h => by
    simp only [encLeaves, encLeaf, List.append_assoc, List.singleton_append] at h
    obtain ⟨h1, h2⟩ := append_sep_inj (by simp [wrapTok, regSep]) (by simp [wrapTok, regSep]) h
    rw [(List.map_inj_right wrapTok_inj).1 h1, encLeaves_inj h2]

theorem regClose_not_mem (ls : List (List Tok)) : regClose ∉ encLeaves ls := fun h => by
  rcases mem_encLeaves h with h | ⟨x, h⟩ <;> simp [regClose, regSep, wrapTok] at h

def Seg.wf : Seg → Prop
  | .plain t => isR t = false
  | .region _ l => l ≠ []

theorem render_cons_ne_nil {s : Seg} (hs : s.wf) (r : List Seg) : render (s :: r) ≠ [] := by
  cases s with
  | plain t => simp [render]
  | region k l => cases l with
    | nil => exact absurd rfl hs
    | cons x xs => simp [render, encRegion]

theorem render_cons_inj {a b : Seg} (ha : a.wf) (hb : b.wf) {r1 r2 : List Seg}
    (h : render (a :: r1) = render (b :: r2)) : a = b ∧ render r1 = render r2 := by
  -- a plain token is not of a synthetic class, the first token of a region's block is
  have mixed {t k l r} {x : List Tok} (ht : isR t = false) (hl : l ≠ []) : t :: x ≠ encRegion k l ++ r := by
    intro h
    cases l with
    | nil => exact hl rfl
    | cons y ys => simp [encRegion] at h; simp [h.1, isR, regOpen] at ht
  cases a with
  | plain t => cases b with
    | plain u => simpa [render] using h
    | region k l => exact absurd h (mixed ha hb)
  | region k l => cases b with
    | plain u => exact absurd h.symm (mixed hb ha)
    | region k' l' =>
      cases l with
      | nil => exact absurd rfl ha
      | cons x xs => cases l' with
        | nil => exact absurd rfl hb
        | cons y ys =>
          simp only [render, encRegion, List.isEmpty_cons, Bool.false_eq_true, if_false, List.cons_append,
            List.append_assoc, List.cons.injEq] at h
          obtain ⟨hl, hr⟩ := append_sep_inj (regClose_not_mem _) (regClose_not_mem _) h.2
          simp only [regOpen, Tok.mk.injEq, true_and] at h
          exact ⟨by rw [List.replicate_inj.1 h.1 |>.1, encLeaves_inj hl], hr⟩

theorem render_inj : ∀ (s1 s2 : List Seg), (∀ s ∈ s1, s.wf) → (∀ s ∈ s2, s.wf) →
    render s1 = render s2 → s1 = s2
  | [], [], _, _, _ => rfl
  | [], b :: s2, _, h2, h => absurd h.symm (render_cons_ne_nil (h2 b List.mem_cons_self) s2)
  | a :: s1, [], h1, _, h => absurd h (render_cons_ne_nil (h1 a List.mem_cons_self) s1)
  | a :: s1, b :: s2, h1, h2, h => by
    have h1 := List.forall_mem_cons.1 h1
    have h2 := List.forall_mem_cons.1 h2
    obtain ⟨e, h⟩ := render_cons_inj h1.1 h2.1 h
    rw [e, render_inj s1 s2 h1.2 h2.2 h]

/-- no token of a synthetic class (true of everything the lexer sends) -/
def NoR (ts : List Tok) : Prop := ∀ t ∈ ts, isR t = false

instance (ts : List Tok) : Decidable (NoR ts) := by unfold NoR; infer_instance

theorem NoR_cons {t : Tok} {ts : List Tok} : NoR (t :: ts) ↔ isR t = false ∧ NoR ts := by
  simp [NoR]

theorem NoR_append {a b : List Tok} : NoR (a ++ b) ↔ NoR a ∧ NoR b := by
  simp [NoR, or_imp, forall_and]

theorem isR_lit (c : Char) (text : List Char) : isR ⟨['L', c], text⟩ = false := rfl
theorem isR_mkP (c : Char) : isR (mkP c) = false := rfl
theorem isR_docFlush (code i acc) : isR (docFlush code i acc) = false := rfl

theorem resplitAux_noR (ts : List Tok) (dots : Nat) (h : NoR ts) : NoR (resplitAux dots ts) := by
  fun_induction resplitAux dots ts <;> simp_all [NoR_cons, isR_lit, isR_mkP]

/-- the tokens of a `#[doc = "…"]` / `#![doc = "…"]` attribute and doc comments: what `docAttr` may touch -/
def clsDocAttr (t : Tok) : Bool :=
  t.isP '#' || t.isP '!' || t.isO '[' || t.isC ']' || t.isI kwDoc || t.isP '=' || t.cls == ['L','s'] || t.cls == ['L','r'] || t.isDoc

theorem docAttrToks_cls {inner : Bool} {o d e s c : Tok} {x : List Tok}
    (h : docAttrToks inner o d e s c = some x) :
    (∀ t ∈ [o, d, e, s, c], clsDocAttr t = true) ∧ ∀ t ∈ x, t.cls = ['d'] := by
  unfold docAttrToks at h
  split at h
  · next hc =>
    simp only [Bool.and_eq_true, Bool.or_eq_true] at hc
    have hs : clsDocAttr s = true := by rcases hc.1.2 with h | h <;> simp [clsDocAttr, h]
    obtain ⟨v, _, rfl⟩ := Option.map_eq_some_iff.1 h
    simp only [List.forall_mem_cons, hs]
    simp [clsDocAttr, hc]
  · cases h

/-- an attribute that `docAttr` rewrites consists of tokens of `clsDocAttr`; what replaces it are doc comments -/
theorem docAttrAt_cls {ts : List Tok} {x : List Tok} {n : Nat} (h : docAttrAt ts = some (x, n)) :
    (∀ t ∈ ts.take (n + 1), clsDocAttr t = true) ∧ ∀ t ∈ x, t.cls = ['d'] := by
  revert h
  fun_cases docAttrAt ts <;> simp
  · next hd _ _ _ _ _ _ hh _ hy =>
    rintro rfl rfl
    have h1 : clsDocAttr hd = true := by simp [clsDocAttr, hh]
    simpa [List.take, h1] using docAttrToks_cls hy
  · next hd o _ _ _ _ hh _ ho _ _ =>
    rintro y hy rfl rfl
    have h1 : clsDocAttr hd = true := by simp [clsDocAttr, hh]
    have h2 : clsDocAttr o = true := by simp [clsDocAttr, ho]
    simpa [List.take, h1, h2] using docAttrToks_cls hy

theorem docAttrAux_noR (ts : List Tok) (n : Nat) (h : NoR ts) : NoR (docAttrAux n ts) := by
  fun_induction docAttrAux n ts with
  | case1 => exact h
  | case2 _ _ _ ih => exact ih (NoR_cons.1 h).2
  | case3 _ _ x _ hx ih =>
    exact NoR_append.2 ⟨fun t ht => by simp [isR, (docAttrAt_cls hx).2 t ht], ih (NoR_cons.1 h).2⟩
  | case4 _ _ _ ih => exact NoR_cons.2 ⟨(NoR_cons.1 h).1, ih (NoR_cons.1 h).2⟩

theorem canonTok_cls (cfg : Cfg) (t : Tok) :
    (canonTok cfg t).cls = t.cls ∨ (t.cls = ['L','i'] ∧ (canonTok cfg t).cls = ['L','f']) := by
  fun_cases canonTok cfg t
  case case5 h _ => exact .inr ⟨eq_of_beq h, rfl⟩
  all_goals exact .inl rfl

theorem canonTok_noR (cfg : Cfg) (t : Tok) (h : isR t = false) : isR (canonTok cfg t) = false := by
  rcases canonTok_cls cfg t with h1 | ⟨_, h2⟩
  · unfold isR at *; rw [h1]; exact h
  · simp [isR, h2]

theorem docMergeAux_noR (code : Bool) (ts : List Tok) (cur : Option (Bool × List (List Char))) (h : NoR ts) :
    NoR (docMergeAux code cur ts) := by
  fun_induction docMergeAux code cur ts <;> simp_all [NoR_cons, isR_docFlush]

theorem mid_noR (cfg : Cfg) (ts : List Tok) (h : NoR ts) : NoR (mid cfg ts) := by
  unfold mid
  refine onlyIf_elim ?_ fun _ => docMergeAux_noR _ _ none ?_ <;>
  · intro t ht
    obtain ⟨u, hu, rfl⟩ := List.mem_map.1 ht
    exact canonTok_noR cfg u (onlyIf_elim (P := NoR) (resplitAux_noR ts 0 h) (fun _ => docAttrAux_noR _ 0 (resplitAux_noR ts 0 h)) u hu)

theorem segsAux_plain_mem (cfg : Cfg) (ts : List Tok) (n : Nat) (t : Tok) (h : Seg.plain t ∈ segsAux cfg n ts) :
    t ∈ ts := by
  fun_induction segsAux cfg n ts <;> simp_all
  exact h.imp_right ‹_›

/-- the certificate: the hard tokens outside reorder regions, in order, interleaved with the
(non-empty) reorder regions as canonical leaf lists -/
def hardSeq (cfg : Cfg) (ts : List Tok) : List Seg := (segs cfg (mid cfg ts)).filter (Seg.keep cfg)

theorem hardSeq_wf (cfg : Cfg) (ts : List Tok) (h : NoR ts) : ∀ s ∈ hardSeq cfg ts, s.wf := by
  intro s hs
  unfold hardSeq at hs
  simp only [List.mem_filter] at hs
  cases s with
  | plain t => exact mid_noR cfg ts h t (segsAux_plain_mem cfg _ 0 t hs.1)
  | region k l => simpa [Seg.keep, Seg.wf] using hs.2

theorem insertLeaf_perm (x : List Tok) (l : List (List Tok)) : (insertLeaf x l).Perm (x :: l) := by
  fun_induction insertLeaf x l with
  | case1 => exact .refl _
  | case2 => exact .refl _
  | case3 y ys _ ih => exact (ih.cons y).trans (.swap x y ys)

theorem sortLeaves_perm (l : List (List Tok)) : (sortLeaves l).Perm l := by
  fun_induction sortLeaves l with
  | case1 => exact .refl _
  | case2 x xs ih => exact (insertLeaf_perm x _).trans (ih.cons x)

theorem dedupAdj_mem (x : List Tok) (l : List (List Tok)) : x ∈ dedupAdj l ↔ x ∈ l := by
  fun_induction dedupAdj l <;> simp_all

/-! ## the two opt-in rewrites of hard tokens (coarse locality) -/

def clsFis (t : Tok) : Bool := t.isP ':' || t.cls == ['i'] || t.cls == ['r']

theorem ruleFis_some {enc lo p2 p1 t rest a} (h : ruleFis enc lo p2 p1 t rest = some a) :
    a = { out := [] } ∧ (t.isP ':' = true ∨ ((t.cls = ['i'] ∨ t.cls = ['r']) ∧ p1.isP ':' = true ∧ p2 = t)) := by
  revert h
  fun_cases ruleFis enc lo p2 p1 t rest <;> simp_all [drop_]

theorem ruleFis_local : RuleLocal clsFis ruleFis := by
  intro enc lo p2 p1 t rest a h
  obtain ⟨ha, ht⟩ := ruleFis_some h
  subst ha
  exact optLocal_drop.2 (by rcases ht with h | ⟨h | h, _⟩ <;> simp [clsFis, h])

def clsWild (t : Tok) : Bool := isWild t || t.isP ',' || t.isP '.'

theorem wildTailLen_take (ts : List Tok) (n : Nat) (h : wildTailLen ts = some n) :
    ∀ t ∈ ts.take n, clsWild t = true := by
  fun_induction wildTailLen ts generalizing n
  case case6 c u r _ hc ih =>
    obtain ⟨m, hm, rfl⟩ := Option.map_eq_some_iff.1 h
    simp only [Bool.and_eq_true] at hc
    simpa [List.take_succ_cons, clsWild, hc.1, hc.2] using ih m hm
  all_goals cases h <;> simp_all [clsWild]

theorem wildAux_local (ts : List Tok) (n : Nat) (p1 : Tok) (h : ∀ t ∈ ts.take n, clsWild t = true) :
    outside clsWild (wildAux n p1 ts) = outside clsWild ts := by
  fun_induction wildAux n p1 ts with
  | case1 => rfl
  | case2 n _ t ts ih =>
    rw [List.take_succ_cons, List.forall_mem_cons] at h
    rw [ih h.2, outside_cons, h.1, if_pos rfl]
  | case3 p1 t ts hc n hn ih =>
    simp only [Bool.and_eq_true] at hc
    have ht : clsWild t = true := by simp [clsWild, hc.1]
    simp only [outside_cons, ih (wildTailLen_take ts _ hn), ht, show clsWild (mkP '.') = true from rfl, if_true]
  | case4 _ _ _ _ _ ih => simp only [outside_cons, ih nofun]
  | case5 _ _ _ _ ih => simp only [outside_cons, ih nofun]

theorem wildCondense_local (ts : List Tok) : outside clsWild (wildCondense ts) = outside clsWild ts :=
  wildAux_local ts 0 noTok nofun

/-- the tokens outside the soft class and outside the classes of the ENABLED opt-in rewrites -/
def softX (cfg : Cfg) (t : Tok) : Bool :=
  soft cfg t || (cfg.fis && clsFis t) || (cfg.wild && clsWild t)

theorem soft_softX (cfg : Cfg) (t : Tok) (h : soft cfg t = true) : softX cfg t = true := by
  simp [softX, h]

theorem softX_eq_soft (cfg : Cfg) (hf : cfg.fis = false) (hw : cfg.wild = false) : softX cfg = soft cfg := by
  funext t; simp [softX, hf, hw]

theorem post_outside_softX (cfg : Cfg) (ts : List Tok) :
    outside (softX cfg) (post cfg ts) = outside (softX cfg) ts := by
  rw [outside_mono (S := soft cfg) (soft_softX cfg) (post_soft_hards cfg ts),
    onlyIf_outside fun h x => outside_mono (fun t ht => by simp [softX, h, ht]) (wildCondense_local x),
    outside_mono (S := soft cfg) (soft_softX cfg) (tryRule_hards cfg _),
    onlyIf_outside fun h x => outside_mono (fun t ht => by simp [softX, h, ht]) (runRule_outside _ _ ruleFis_local x)]


def isLit (t : Tok) : Bool := match t.cls with | 'L' :: _ => true | _ => false

theorem canonTok_other (cfg : Cfg) (t : Tok) (h1 : t.isDoc = false) (h2 : isLit t = false) : canonTok cfg t = t := by
  have hl (c) : t.cls ≠ ['L', c] := fun h => by simp [isLit, h] at h2
  fun_cases canonTok cfg t <;> simp_all [Tok.isDoc]

/-- literals and doc comments: the tokens `canonTok` may re-spell -/
def clsSpell (t : Tok) : Bool := t.isDoc || isLit t

theorem clsSpell_canonTok (cfg : Cfg) (t : Tok) : clsSpell (canonTok cfg t) = clsSpell t := by
  rcases canonTok_cls cfg t with h | ⟨h1, h2⟩
  · simp [clsSpell, Tok.isDoc, isLit, h]
  · simp [clsSpell, Tok.isDoc, isLit, h1, h2]

theorem map_canonTok_outside (cfg : Cfg) (S : Tok → Bool) (hS : ∀ t, clsSpell t = true → S t = true)
    (hS' : ∀ t, S (canonTok cfg t) = S t) (ts : List Tok) :
    outside S (ts.map (canonTok cfg)) = outside S ts := by
  induction ts with
  | nil => rfl
  | cons t ts ih =>
    simp only [List.map_cons, outside_cons, ih, hS']
    split
    · rfl
    · next h =>
      have : clsSpell t = false := Bool.eq_false_iff.2 (mt (hS t) h)
      simp only [clsSpell, Bool.or_eq_false_iff] at this
      rw [canonTok_other cfg t this.1 this.2]

theorem splitTupleIdx_text {cs a b : List Char} (h : splitTupleIdx cs = some (a, b)) : a ++ '.' :: b = cs := by
  unfold splitTupleIdx at h
  simp only [] at h
  split at h
  · rename_i b' hb
    split at h
    · cases h
      have := List.takeWhile_append_dropWhile (p := isDigit) (l := cs)
      rw [hb] at this
      exact this
    · cases h
  · cases h

theorem resplitAux_text (ts : List Tok) (dots : Nat) :
    (resplitAux dots ts).flatMap (·.text) = ts.flatMap (·.text) := by
  fun_induction resplitAux dots ts with
  | case3 _ _ _ _ _ a b h ih => simp [ih, mkP, ← splitTupleIdx_text h]
  | _ => simp only [List.flatMap_cons, List.flatMap_nil, *]

/-- numeric literals and `.`: the tokens `resplit` may touch -/
def clsNum (t : Tok) : Bool := isNumLit t || t.isP '.'

theorem resplitAux_outside (ts : List Tok) (dots : Nat) :
    outside clsNum (resplitAux dots ts) = outside clsNum ts := by
  fun_induction resplitAux dots ts with
  | case3 _ t _ _ hc _ _ _ ih =>
    simp only [Bool.and_eq_true, beq_iff_eq] at hc
    have ht : clsNum t = true := by simp [clsNum, isNumLit, hc.2]
    have hn (a) : clsNum ⟨['L','i'], a⟩ = true := rfl
    simp only [outside_cons, ih, ht, hn, show clsNum (mkP '.') = true from rfl, if_true]
  | _ => simp only [outside_cons, outside_nil, *]

theorem docAttrAux_outside (ts : List Tok) (n : Nat) (h : ∀ t ∈ ts.take n, clsDocAttr t = true) :
    outside clsDocAttr (docAttrAux n ts) = outside clsDocAttr ts := by
  fun_induction docAttrAux n ts with
  | case1 => rfl
  | case2 _ _ _ ih =>
    rw [List.take_succ_cons, List.forall_mem_cons] at h
    rw [ih h.2, outside_cons, h.1, if_pos rfl]
  | case3 _ _ x _ hx ih =>
    obtain ⟨h1, h2⟩ := docAttrAt_cls hx
    rw [List.take_succ_cons, List.forall_mem_cons] at h1
    have h2 (t) (ht : t ∈ x) : clsDocAttr t = true := by simp [clsDocAttr, Tok.isDoc, h2 t ht]
    rw [outside_append, outside_eq_nil_iff.2 h2, ih h1.2, outside_cons, h1.1, if_pos rfl, List.nil_append]
  | case4 _ _ _ ih => simp only [outside_cons, ih nofun]

theorem docAttr_outside (ts : List Tok) : outside clsDocAttr (docAttr ts) = outside clsDocAttr ts :=
  docAttrAux_outside ts 0 nofun

theorem isDoc_docFlush (code i acc) : (docFlush code i acc).isDoc = true := rfl

theorem docMergeAux_outside (code : Bool) (ts : List Tok) (cur : Option (Bool × List (List Char))) :
    outside Tok.isDoc (docMergeAux code cur ts) = outside Tok.isDoc ts := by
  fun_induction docMergeAux code cur ts <;> simp [outside_cons, isDoc_docFlush, *]

/-- everything `mid` may touch under `cfg` -/
def clsMid (cfg : Cfg) (t : Tok) : Bool := clsSpell t || clsNum t || (cfg.docattr && clsDocAttr t)

theorem clsMid_canonTok (cfg : Cfg) (t : Tok) : clsMid cfg (canonTok cfg t) = clsMid cfg t := by
  cases h : clsSpell t
  · simp only [clsSpell, Bool.or_eq_false_iff] at h
    rw [canonTok_other cfg t h.1 h.2]
  · simp [clsMid, clsSpell_canonTok, h]

/-! ## `use_field_init_shorthand`: the precise invariant of `ruleFis` -/

/-- drop an identifier that repeats the token before it (`prev`: that token) -/
def squash : Tok → List Tok → List Tok
  | _, [] => []
  | p, t :: ts => if (t.cls == ['i'] || t.cls == ['r']) && t == p then squash p ts else t :: squash t ts

def FramePlain (fr : Frame) : Prop := fr.close = none ∧ fr.commaAfter = false ∧ fr.skipComma = false

theorem ruleFis_indep (enc : Nat) (lo p2 p1 t : Tok) (rest : List Tok) :
    ruleFis enc lo p2 p1 t rest = ruleFis 0 noTok p2 p1 t rest := rfl

theorem ruleFis_delim {p2 p1 t : Tok} {rest : List Tok} (h : t.isOpen = true ∨ t.isClose = true) :
    ruleFis 0 noTok p2 p1 t rest = none := by
  cases hr : ruleFis 0 noTok p2 p1 t rest with
  | none => rfl
  | some a =>
    obtain ⟨_, h2⟩ := ruleFis_some hr
    obtain ⟨cls, text⟩ := t
    simp only [Tok.isOpen, Tok.isClose, Tok.isP, beq_iff_eq, Bool.and_eq_true] at h h2
    rcases h with h | h <;> rcases h2 with h2 | h2 <;> simp_all

/-- the squash state `q` is the last token outside `S` seen so far, as far as `p1` / `p2` tell -/
structure FisInv (S : Tok → Bool) (q p2 p1 : Tok) : Prop where
  left : S p1 = false → q = p1
  right : S p1 = true → S p2 = false → q = p2

theorem FisInv.skip {S : Tok → Bool} {q p2 p1 t : Tok} (h : FisInv S q p2 p1) (ht : S t = true) : FisInv S q p1 t :=
  ⟨fun h' => by simp [ht] at h', fun _ => h.left⟩

theorem FisInv.of_eq {S : Tok → Bool} {q p1 t : Tok} (h : q = t) (ht : S t = false) : FisInv S q p1 t :=
  ⟨fun _ => h, fun h' => by simp [ht] at h'⟩

/-- the pass keeps `t` -/
theorem squash_keep {S : Tok → Bool} {q p2 p1 t : Tok} {out ts : List Tok} (hinv : FisInv S q p2 p1)
    (ih : ∀ q', FisInv S q' p1 t → squash q' (outside S out) = squash q' (outside S ts)) :
    squash q (outside S (t :: out)) = squash q (outside S (t :: ts)) := by
  rw [outside_cons, outside_cons]
  cases ht : S t
  · simp only [Bool.false_eq_true, if_false, squash]
    split
    · next h =>
      simp only [Bool.and_eq_true, beq_iff_eq] at h
      exact ih q (.of_eq h.2.symm ht)
    · rw [ih t (.of_eq rfl ht)]
  · exact ih q (hinv.skip ht)

/-- the pass drops `t`: the `:` of `a: a`, or the second `a`, which repeats the squash state -/
theorem squash_drop {S : Tok → Bool} (hS : ∀ t : Tok, t.isP ':' = true → S t = true) {q p2 p1 t : Tok} {out ts : List Tok}
    (hinv : FisInv S q p2 p1)
    (ih : ∀ q', FisInv S q' p1 t → squash q' (outside S out) = squash q' (outside S ts))
    (h : t.isP ':' = true ∨ ((t.cls = ['i'] ∨ t.cls = ['r']) ∧ p1.isP ':' = true ∧ p2 = t)) :
    squash q (outside S out) = squash q (outside S (t :: ts)) := by
  rw [outside_cons]
  cases ht : S t
  · obtain ⟨hi, hp1, rfl⟩ := h.resolve_left fun h => by simp [hS t h] at ht
    have hq : q = p2 := hinv.right (hS p1 hp1) ht
    rw [if_neg (by simp), squash, if_pos (by rcases hi with hi | hi <;> simp [hi, hq])]
    exact ih q (.of_eq hq ht)
  · exact ih q (hinv.skip ht)

theorem bpass_fis_squash (S : Tok → Bool) (hS : ∀ t : Tok, t.isP ':' = true → S t = true)
    (ts : List Tok) (p2 p1 lo : Tok) (skip : Bool) (st : List Frame) (q : Tok)
    (hskip : skip = false) (hst : ∀ fr ∈ st, FramePlain fr) (hinv : FisInv S q p2 p1) :
    squash q (outside S (bpass ruleFis p2 p1 lo skip st ts)) = squash q (outside S ts) := by
  fun_induction bpass ruleFis p2 p1 lo skip st ts generalizing q with
  | case1 => rfl
  | case2 _ _ _ _ _ _ _ h => simp [hskip] at h  -- a dropped `,`: `skip` is never set here
  | case3 _ _ _ _ _ _ _ _ ho a ha => simp [ruleFis_indep, ruleFis_delim (.inl ho)] at ha  -- opener: `ruleFis` never acts on one
  | case4 _ _ _ _ _ _ _ _ _ _ ih =>  -- opener kept
    exact squash_keep hinv fun q' h => ih q' rfl (List.forall_mem_cons.2 ⟨⟨rfl, rfl, rfl⟩, hst⟩) h
  | case5 _ _ lo _ t _ _ _ _ fr _ o ih =>  -- closer: the popped frame is plain, so it is kept
    obtain ⟨⟨h1, h2, h3⟩, hst⟩ := List.forall_mem_cons.1 hst
    have ho : o = [t] := by simp [o, closeOut, h1, h2]
    rw [ho] at ih ⊢
    exact squash_keep hinv fun q' h => ih q' h3 hst h
  | case6 _ _ _ _ _ _ _ _ _ ih => exact squash_keep hinv fun q' h => ih q' rfl hst h  -- closer on an empty stack
  | case7 _ _ _ _ _ _ _ _ _ _ a ha ih =>  -- the rule drops the token
    obtain ⟨rfl, h⟩ := ruleFis_some ha
    exact squash_drop hS hinv (fun q' h => ih q' rfl hst h) h
  | case8 _ _ _ _ _ _ _ _ _ _ _ ih => exact squash_keep hinv fun q' h => ih q' rfl hst h  -- other token, kept

theorem runRule_fis_squash (S : Tok → Bool) (hS : ∀ t : Tok, t.isP ':' = true → S t = true) (ts : List Tok) :
    squash noTok (outside S (runRule ruleFis ts)) = squash noTok (outside S ts) :=
  bpass_fis_squash S hS ts noTok noTok noTok false [] noTok rfl nofun ⟨fun _ => rfl, fun _ _ => rfl⟩

theorem soft_colon (cfg : Cfg) (t : Tok) (h : t.isP ':' = true) : soft cfg t = true := by
  unfold soft; simp [h]

/-- `post` with `condense_wildcard_suffixes` off, for both values of `use_field_init_shorthand`: the
hard tokens are kept up to an identifier that repeats the hard token before it (`a: a` ~ `a`). -/
theorem post_hards_squash (cfg : Cfg) (hw : cfg.wild = false) (ts : List Tok) :
    squash noTok (hards cfg (post cfg ts)) = squash noTok (hards cfg ts) := by
  rw [post_soft_hards, hw, show ∀ x, onlyIf false wildCondense x = x from fun _ => rfl, tryRule_hards]
  exact onlyIf_elim (P := fun x => squash noTok (hards cfg x) = squash noTok (hards cfg ts)) rfl
    fun _ => runRule_fis_squash (soft cfg) (soft_colon cfg) ts

def Seg.plain? : Seg → Option Tok
  | .plain t => some t
  | .region _ _ => none

/-- the plain segments are a subsequence of the token list: order is kept, nothing is invented -/
theorem segsAux_plain_sublist (cfg : Cfg) (ts : List Tok) (n : Nat) :
    ((segsAux cfg n ts).filterMap Seg.plain?).Sublist ts := by
  fun_induction segsAux cfg n ts with
  | case1 => simp
  | case4 _ _ _ ih => exact ih.cons_cons _
  | _ => exact List.Sublist.cons _ ‹_›

theorem filter_keep_plain (cfg : Cfg) (sg : List Seg) :
    ((sg.filter (Seg.keep cfg)).filterMap Seg.plain?) = (sg.filterMap Seg.plain?).filter (hard cfg) := by
  induction sg with
  | nil => rfl
  | cons s sg ih =>
    cases s with
    | plain t => by_cases h : hard cfg t = true <;> simp [Seg.keep, Seg.plain?, h, ih]
    | region k l => cases l <;> simp [List.filterMap_cons, Seg.keep, Seg.plain?, ih]

theorem eq_of_between_A_F {c : Char} (h : ('A' ≤ c && c ≤ 'F') = true) :
    c = 'A' ∨ c = 'B' ∨ c = 'C' ∨ c = 'D' ∨ c = 'E' ∨ c = 'F' := by
  simp only [Bool.and_eq_true, decide_eq_true_eq] at h
  have h1 : 65 ≤ c.toNat := h.1
  have h2 : c.toNat ≤ 70 := h.2
  have hc : c = Char.ofNat c.toNat := (Char.ofNat_toNat c).symm
  have : c.toNat = 65 ∨ c.toNat = 66 ∨ c.toNat = 67 ∨ c.toNat = 68 ∨ c.toNat = 69 ∨ c.toNat = 70 := by omega
  rcases this with h | h | h | h | h | h <;> rw [h] at hc <;> simp [hc]

/-- what `lowerHex` keeps: the digit value, being a hex digit, being `_` -/
theorem lowerHex_keeps (c : Char) :
    digitVal (lowerHex c) = digitVal c ∧ isHexDigit (lowerHex c) = isHexDigit c ∧ (lowerHex c == '_') = (c == '_') := by
  fun_cases lowerHex c
  · next h => rcases eq_of_between_A_F h with rfl | rfl | rfl | rfl | rfl | rfl <;> decide
  · exact ⟨rfl, rfl, rfl⟩

def hexP (c : Char) : Bool := (isHexDigit c && digitVal c < 16) || c == '_'

theorem hexP_lower (c : Char) : hexP (lowerHex c) = hexP c := by
  obtain ⟨h1, h2, h3⟩ := lowerHex_keeps c
  simp [hexP, h1, h2, h3]

theorem hexDigit_lt16 (c : Char) (h : isHexDigit c = true) : digitVal c < 16 := by
  have le {a b : Char} (h : (a ≤ c && c ≤ b) = true) : c.toNat ≤ b.toNat := by
    simp only [Bool.and_eq_true, decide_eq_true_eq] at h; exact h.2
  fun_cases digitVal c
  case case4 => simp_all [isHexDigit]
  all_goals
    have := le ‹_›
    simp at this
    omega

theorem hexP_eq : hexP = (fun c => isHexDigit c || c == '_') := by
  funext c
  unfold hexP
  by_cases h : isHexDigit c = true
  · simp [h, hexDigit_lt16 c h]
  · simp [h]

theorem takeWhile_canon (r : List Char) :
    ((r.takeWhile hexP).map lowerHex ++ r.dropWhile hexP).takeWhile hexP = (r.takeWhile hexP).map lowerHex := by
  induction r with
  | nil => rfl
  | cons c r ih =>
    by_cases h : hexP c = true
    · simp only [List.takeWhile_cons, List.dropWhile_cons, h, if_true, List.map_cons, List.cons_append, hexP_lower, ih]
    · have h' : hexP c = false := by simpa using h
      simp [h']

theorem foldl_lower (r : List Char) : ∀ a : Nat,
    ((r.map lowerHex).filter (· != '_')).foldl (fun a c => a * 16 + digitVal c) a =
      (r.filter (· != '_')).foldl (fun a c => a * 16 + digitVal c) a := by
  induction r with
  | nil => intro a; rfl
  | cons x xs ih =>
    intro a
    obtain ⟨h1, _, h3⟩ := lowerHex_keeps x
    have hne : (lowerHex x != '_') = (x != '_') := by simp [bne, h3]
    simp only [List.map_cons, List.filter_cons, hne]
    split
    · simp only [List.foldl_cons, h1]; exact ih _
    · exact ih a

/-- `hex_literal_case` in the validator: the canonical spelling has the same value (and, the rest of
the text being copied, the same suffix), so two literals with equal canonical spellings have equal
values. -/
theorem intValue_hexCanon (cs : List Char) : intValue (hexCanon cs) = intValue cs := by
  unfold hexCanon
  split
  · rename_i r
    simp only [List.cons_append, intValue, digitsValue]
    have e : (fun c => (isHexDigit c && decide (digitVal c < 16)) || c == '_') = hexP := rfl
    rw [e]
    have e2 : (fun c => isHexDigit c || c == '_') = hexP := hexP_eq.symm
    rw [e2, takeWhile_canon, foldl_lower]
  · rfl

theorem hexCanon_eq_value {a b : List Char} (h : hexCanon a = hexCanon b) : intValue a = intValue b := by
  rw [← intValue_hexCanon a, ← intValue_hexCanon b, h]

/-- `float_literal_trailing_zero` in the validator: the canonical spelling is the text itself, or the
text without a fractional part `.000` that holds no other digit than `0` (`1.0e5` ~ `1e5`, `1.` ~ `1`). -/
theorem floatCanon_shape (cs : List Char) :
    floatCanon cs = cs ∨
    ∃ ip fp rest, cs = ip ++ '.' :: (fp ++ rest) ∧ fp.all (fun c => c == '0' || c == '_') = true ∧
      floatCanon cs = ip ++ rest := by
  unfold floatCanon
  split
  · exact Or.inl rfl
  · exact Or.inl rfl
  · exact Or.inl rfl
  · simp only []
    split
    · rename_i r hr
      split
      · rename_i hz
        refine Or.inr ⟨cs.takeWhile isDecDigit_, r.takeWhile isDecDigit_, r.dropWhile isDecDigit_, ?_, hz, rfl⟩
        rw [List.takeWhile_append_dropWhile, ← hr, List.takeWhile_append_dropWhile]
      · exact Or.inl rfl
    · exact Or.inl rfl

/-! A toy lexer (blank-separated words) and `chars%`: they serve only the test vectors of RF/Props/C01.lean. -/
def splitSp : List Char → List Char → List (List Char)
  | [], cur => [cur.reverse]
  | c :: r, cur => if c == ' ' then cur.reverse :: splitSp r [] else splitSp r (c :: cur)

def exWord (w : List Char) : List Tok :=
  match w with
  | [] => []
  | '/' :: '/' :: '/' :: _ => [⟨['d'], w⟩]
  | '"' :: _ => [⟨['L','s'], w⟩]
  | '\'' :: _ => [⟨['l'], w⟩]
  | c :: _ =>
    if isDigit c then [⟨if w.contains '.' then ['L','f'] else ['L','i'], w⟩]
    else if c.isAlpha || c == '_' then [⟨['i'], w⟩]
    else w.map fun c =>
      if c == '(' || c == '[' || c == '{' then mkO c
      else if c == ')' || c == ']' || c == '}' then mkC c else mkP c

/-- the characters of a string literal as an explicit list (expanded when the file is elaborated: the
kernel is very slow at `String.toList`) -/
macro "chars%" s:str : term => do
  let cs : Array (Lean.TSyntax `term) :=
    (s.getString.toList.map fun c => (⟨Lean.Syntax.mkCharLit c⟩ : Lean.TSyntax `term)).toArray
  `([$cs,*])

/-- `lexEx (chars% "fn f ( x : u32 , ) { }")`: identifiers, lifetimes, numbers, strings and `///` words
become one token, every other character a punctuation / delimiter token -/
def lexEx (s : List Char) : List Tok := (splitSp s []).flatMap exWord

end RF.Tok

import RF.Model.MissedSpans
import RF.Lemmas.Comment
import RF.Lemmas.Shape
import RF.Lemmas.Newline
/-!
Lemmas about `RF.Model.MissedSpans` (the missed-span writer; namespace `RF.Lemmas.Missed`).

Every function of the writer is shown to return its visitor with a list of pieces pushed
(`pushAll v o`), and the list is described: by a predicate (`CommentOut`, `StepOut`, `LoopOut`,
`LastOut`, `WholeOut`; `CbOut` for `close_block`) or, for `process_missing_code`, exactly (`pmcPieces`).
Which tags such a list can hold is said once per predicate, as an elimination rule (`CommentOut.forall`,
`LastOut.forall`, `LoopOut.forall`, `WholeOut.forall`); the facts about single tags are instances of it.

The central device is one loop invariant (`Inv`) for `write_snippet_inner`: the part of the snippet
consumed so far splits as `p ++ q` with `status.line_start = utf8Len p` (so every slice the code takes at
`line_start` is on a character boundary), `q` white space, and the non-blank characters written so far
are those of the consumed part.  No-panic and content preservation both follow from it.
-/
namespace RF.Lemmas.Missed
open RF.Missed RF.Comment RF.CharClasses RF.Shape
open RF.Lemmas.Comment (utf8Len_append utf8Len_snoc utf8Len_eq_zero utf8Size_pos nl_size takeBytes_prefix
  dropBytes_prefix takeBytes_of_split dropBytes_of_split findChar_split rfindChar_split dropWhile_eq_nil_iff
  isWs_nl Alternates Contiguous slices_spec)

/-- `&s[a.len() .. a.len() + b.len()]` of `a ++ b ++ c` is `b`. -/
theorem sliceBytes_mid (a b c : List Char) :
    sliceBytes? (a ++ b ++ c) (utf8Len a) (utf8Len a + utf8Len b) = some b := by
  rw [sliceBytes?, ← utf8Len_append, takeBytes_prefix (a ++ b) c]
  exact dropBytes_prefix a b

theorem sliceBytes_of_split (s a b c : List Char) (i j : Nat) (hs : s = a ++ b ++ c)
    (hi : i = utf8Len a) (hj : j = utf8Len a + utf8Len b) : sliceBytes? s i j = some b := by
  subst hs hi hj; exact sliceBytes_mid a b c

theorem utf8Len_inj_prefix : ∀ (a b x y : List Char), a ++ x = b ++ y → utf8Len a = utf8Len b → a = b
  | [], b, _, _, _, h => (utf8Len_eq_zero b h.symm).symm
  | c :: a, [], _, _, _, h => utf8Len_eq_zero _ h
  | c :: a, d :: b, x, y, h, hl => by
    obtain ⟨rfl, h'⟩ := List.cons.inj h
    rw [utf8Len, utf8Len, Nat.add_left_cancel_iff] at hl
    rw [utf8Len_inj_prefix a b x y h' hl]

theorem findChar_none (p : Char → Bool) : ∀ (s : List Char), findChar p s = none →
    ∀ x ∈ s, p x = false := by
  intro s h
  fun_induction findChar p s with
  | case1 => exact List.forall_mem_nil _
  | case2 c cs hc => cases h
  | case3 c cs hc ih =>
    exact List.forall_mem_cons.mpr ⟨Bool.not_eq_true _ ▸ hc, ih (Option.map_eq_none_iff.mp h)⟩

def AllWs (s : List Char) : Prop := ∀ c ∈ s, isWs c = true

theorem allWs_nil : AllWs [] := List.forall_mem_nil _

theorem allWs_append {a b : List Char} : AllWs (a ++ b) ↔ AllWs a ∧ AllWs b := List.forall_mem_append

theorem allWs_cons {c : Char} {s : List Char} : AllWs (c :: s) ↔ isWs c = true ∧ AllWs s :=
  List.forall_mem_cons

theorem allWs_single {c : Char} (h : isWs c = true) : AllWs [c] := allWs_cons.mpr ⟨h, allWs_nil⟩

theorem isWs_space : isWs ' ' = true := by decide

theorem allWs_replicate (k : Nat) (c : Char) (h : isWs c = true) : AllWs (List.replicate k c) := by
  intro x hx; rw [List.eq_of_mem_replicate hx]; exact h

theorem squeeze_append (a b : List Char) : squeeze (a ++ b) = squeeze a ++ squeeze b :=
  List.filter_append ..

theorem squeeze_nil : squeeze [] = [] := rfl

theorem squeeze_eq_nil {s : List Char} : squeeze s = [] ↔ AllWs s := by
  simp [squeeze, AllWs, List.filter_eq_nil_iff]

theorem squeeze_of_allWs {s : List Char} (h : AllWs s) : squeeze s = [] := squeeze_eq_nil.mpr h

theorem squeeze_cons_ws {c : Char} (h : isWs c = true) (s : List Char) : squeeze (c :: s) = squeeze s := by
  simp [squeeze, h]

theorem squeeze_trimStart : ∀ (s : List Char), squeeze (trimStart s) = squeeze s
  | [] => rfl
  | c :: cs => by
    rw [trimStart, List.dropWhile_cons]
    split
    next hc => rw [squeeze_cons_ws hc]; exact squeeze_trimStart cs
    next => rfl

theorem squeeze_trimEnd (s : List Char) : squeeze (trimEnd s) = squeeze s := by
  have hr : ∀ t : List Char, squeeze t.reverse = (squeeze t).reverse := fun t => List.filter_reverse ..
  rw [trimEnd, hr, ← trimStart, squeeze_trimStart, hr, List.reverse_reverse]

theorem squeeze_trim (s : List Char) : squeeze (trim s) = squeeze s := by
  rw [trim, squeeze_trimEnd, squeeze_trimStart]

theorem all_of_dropWhile_nil {p : Char → Bool} : ∀ {s : List Char}, s.dropWhile p = [] →
    ∀ c ∈ s, p c = true := dropWhile_eq_nil_iff.mp

theorem allWs_trimEnd {s : List Char} (h : AllWs s) : trimEnd s = [] := by
  rw [trimEnd, dropWhile_eq_nil_iff.mpr (fun c hc => h c (List.mem_reverse.mp hc))]; rfl

theorem trim_nil_iff (s : List Char) : trim s = [] ↔ AllWs s := by
  constructor
  · intro h
    rw [← squeeze_eq_nil, ← squeeze_trim, h]; rfl
  · intro h
    rw [trim, trimStart, dropWhile_eq_nil_iff.mpr h]; rfl

theorem allWs_trim_nil {s : List Char} (h : AllWs s) : trim s = [] := (trim_nil_iff s).mpr h

theorem trim_isEmpty_iff (s : List Char) : (trim s).isEmpty = true ↔ AllWs s := by
  rw [List.isEmpty_iff, trim_nil_iff]

/-- `hard_tabs → tab_spaces ≥ 1`: the exact condition under which `Indent::to_string` does not divide
by zero (`RF.Props.C16shape`). -/
def IndentOk (c : Config) : Prop := c.hard_tabs = true → 1 ≤ c.tab_spaces

theorem allWs_indentChars (i : Indent) (c : Config) : AllWs (RF.Lemmas.Shape.indentChars i c) := by
  unfold RF.Lemmas.Shape.indentChars
  split
  · exact allWs_append.mpr ⟨allWs_replicate _ _ (by decide), allWs_replicate _ _ isWs_space⟩
  · exact allWs_replicate _ _ isWs_space

theorem indentStr_ok (env : Env) (h : IndentOk env.config) (i : Indent) :
    ∃ s, indentStr? env i = some s ∧ AllWs s := by
  refine ⟨RF.Lemmas.Shape.indentChars i env.config, ?_, allWs_indentChars i env.config⟩
  rw [indentStr?, RF.Lemmas.Shape.to_string_eq i env.config h]

theorem indentNl_ok (env : Env) (h : IndentOk env.config) (i : Indent) :
    ∃ s, indentNl? env i = some s ∧ AllWs s := by
  refine ⟨'\n' :: RF.Lemmas.Shape.indentChars i env.config, ?_,
    allWs_cons.mpr ⟨isWs_nl, allWs_indentChars i env.config⟩⟩
  rw [indentNl?, RF.Lemmas.Shape.to_string_with_newline_eq i env.config h]

theorem blockUnindent_ok (env : Env) (i : Indent) : ∃ j, blockUnindent? env i = some j := by
  rw [blockUnindent?, RF.Lemmas.Shape.block_unindent_ok]
  exact ⟨_, rfl⟩

theorem render_append (a b : List Piece) : render (a ++ b) = render a ++ render b :=
  List.flatMap_append

theorem render_cons (q : Piece) (l : List Piece) : render (q :: l) = q.text ++ render l := rfl

theorem render_single (t : Tag) (s : List Char) : render [⟨t, s⟩] = s := List.append_nil s

theorem render_nil : render [] = [] := rfl

/-- `v` after the pieces `l` were pushed, one `push_str` each. -/
def pushAll (v : Vis) (l : List Piece) : Vis := l.foldl (fun v q => v.push q.tag q.text) v

theorem foldl_push_append (v : Vis) (a b : List Piece) :
    (a ++ b).foldl (fun v q => v.push q.tag q.text) v =
      b.foldl (fun v q => v.push q.tag q.text) (a.foldl (fun v q => v.push q.tag q.text) v) :=
  List.foldl_append

theorem pushAll_append (v : Vis) (a b : List Piece) : pushAll v (a ++ b) = pushAll (pushAll v a) b :=
  foldl_push_append v a b

theorem foldl_push_indent (v : Vis) : ∀ (a : List Piece),
    (a.foldl (fun v q => v.push q.tag q.text) v).blockIndent = v.blockIndent
  | [] => rfl
  | x :: a => foldl_push_indent (v.push x.tag x.text) a

/-- `v` is `v0` after the pieces `out` were pushed. -/
structure Wrote (v0 v : Vis) (out : List Piece) : Prop where
  buffer : v.buffer = v0.buffer ++ render out
  log : v.log = v0.log ++ out
  indent : v.blockIndent = v0.blockIndent
  pos : v.lastPos = v0.lastPos
  line : v.lineNumber = v0.lineNumber + RF.Newline.countNewlines (render out)

theorem Wrote.refl (v : Vis) : Wrote v v [] :=
  ⟨(List.append_nil _).symm, (List.append_nil _).symm, rfl, rfl, rfl⟩

theorem Wrote.push {v0 v : Vis} {out : List Piece} (h : Wrote v0 v out) (t : Tag) (s : List Char) :
    Wrote v0 (v.push t s) (out ++ [⟨t, s⟩]) := by
  refine ⟨?_, ?_, h.indent, h.pos, ?_⟩
  · simp [Vis.push, h.buffer, render_append, render_single]
  · simp [Vis.push, h.log]
  · simp only [Vis.push, h.line, render_append, render_single, RF.Newline.countNewlines, List.count_append,
      Nat.add_assoc]

theorem Wrote.pushVerticalSpaces {v0 v : Vis} {out : List Piece} (h : Wrote v0 v out) (env : Env)
    (n : Nat) :
    Wrote v0 (v.pushVerticalSpaces env n) (out ++ [⟨.vspace, List.replicate
      (RF.Newline.pushVerticalSpaces (RF.Newline.trailingNewlines v.buffer) n env.lower env.upper) '\n'⟩]) :=
  h.push _ _

theorem Wrote.pushAll {v0 v : Vis} {out : List Piece} (h : Wrote v0 v out) :
    ∀ (l : List Piece), Wrote v0 (pushAll v l) (out ++ l) := by
  intro l
  induction l generalizing v out with
  | nil => rwa [List.append_nil]
  | cons x l ih => rw [← List.singleton_append, ← List.append_assoc]; exact ih (h.push x.tag x.text)

theorem wrote_pushAll (v : Vis) (l : List Piece) : Wrote v (pushAll v l) l :=
  (Wrote.refl v).pushAll l

/-- `v` is `v0` after the pieces `out` were pushed; `block_indent` may have changed. -/
structure Pushed (v0 v : Vis) (out : List Piece) : Prop where
  buffer : v.buffer = v0.buffer ++ render out
  log : v.log = v0.log ++ out

theorem Pushed.setIndent {v0 v : Vis} {out : List Piece} (h : Pushed v0 v out) (i : Indent) :
    Pushed v0 { v with blockIndent := i } out := ⟨h.buffer, h.log⟩

theorem Pushed.pushAll {v0 v : Vis} {out : List Piece} (h : Pushed v0 v out) (l : List Piece) :
    Pushed v0 (pushAll v l) (out ++ l) := by
  have hw := wrote_pushAll v l
  exact ⟨by rw [hw.buffer, h.buffer, render_append, List.append_assoc],
    by rw [hw.log, h.log, List.append_assoc]⟩

def BlankPieces (l : List Piece) : Prop := ∀ q ∈ l, q.tag = .blank ∧ AllWs q.text

theorem BlankPieces.nil : BlankPieces [] := List.forall_mem_nil _

theorem BlankPieces.single {s : List Char} (h : AllWs s) : BlankPieces [⟨.blank, s⟩] :=
  List.forall_mem_singleton.mpr ⟨rfl, h⟩

theorem BlankPieces.append {a b : List Piece} (ha : BlankPieces a) (hb : BlankPieces b) :
    BlankPieces (a ++ b) := List.forall_mem_append.mpr ⟨ha, hb⟩

theorem BlankPieces.nl : BlankPieces [⟨.blank, ['\n']⟩] := .single (allWs_single isWs_nl)

theorem BlankPieces.space : BlankPieces [⟨.blank, [' ']⟩] := .single (allWs_single isWs_space)

theorem BlankPieces.forall {P : Piece → Prop} {l : List Piece} (h : BlankPieces l)
    (hb : ∀ t, AllWs t → P ⟨.blank, t⟩) : ∀ q ∈ l, P q := by
  intro ⟨tag, t⟩ hq
  obtain ⟨rfl, ht⟩ : tag = .blank ∧ AllWs t := h _ hq
  exact hb t ht

theorem BlankPieces.content {l : List Piece} (h : BlankPieces l) : squeeze (render l) = [] := by
  induction l with
  | nil => rfl
  | cons x l ih =>
    obtain ⟨hx, hl⟩ := List.forall_mem_cons.mp h
    rw [render_cons, squeeze_append, squeeze_of_allWs hx.2, ih hl]; rfl

/-- The texts of the comment pieces, in order. -/
def commentPieces (o : List Piece) : List (List Char) :=
  (o.filter (fun q => q.tag == .comment)).map (·.text)

theorem commentPieces_append (a b : List Piece) :
    commentPieces (a ++ b) = commentPieces a ++ commentPieces b := by
  simp [commentPieces]

theorem commentPieces_of_none {o : List Piece} (h : ∀ q ∈ o, q.tag ≠ .comment) : commentPieces o = [] := by
  rw [commentPieces, List.filter_eq_nil_iff.mpr (by simpa using h)]; rfl

theorem BlankPieces.noComment {l : List Piece} (h : BlankPieces l) : commentPieces l = [] :=
  commentPieces_of_none (h.forall fun _ _ => nofun)

/-- Length of the run of white space at the end of a line. -/
def trailWs (l : List Char) : Nat := (l.reverse.takeWhile isWs).length

/-- What `process_missing_code` makes of a complete line `l` (given without its `\n`): the last
character goes when the line ends in an odd number of blanks. -/
def keepLine (l : List Char) : List Char := if trailWs l % 2 = 1 then l.dropLast else l

/-- The complete lines of `rest` (the first one continues `cur`), each through `keepLine`. -/
def pmcLines : List Char → List Char → List Char
  | _, [] => []
  | cur, c :: rest =>
    if c = '\n' then keepLine cur ++ ['\n'] ++ pmcLines [] rest else pmcLines (cur ++ [c]) rest

/-- The unfinished last line of `cur ++ rest`. -/
def lastPart : List Char → List Char → List Char
  | cur, [] => cur
  | cur, c :: rest => if c = '\n' then lastPart [] rest else lastPart (cur ++ [c]) rest

theorem trailWs_snoc (l : List Char) (c : Char) :
    trailWs (l ++ [c]) = if isWs c then trailWs l + 1 else 0 := by
  simp only [trailWs, List.reverse_append, List.reverse_cons, List.reverse_nil, List.nil_append,
    List.singleton_append, List.takeWhile_cons]
  split <;> rfl

theorem trailWs_nil : trailWs [] = 0 := rfl

theorem lastPart_split : ∀ (rest cur : List Char), ∃ a, cur ++ rest = a ++ lastPart cur rest ∧
    (a = [] ∨ ∃ a', a = a' ++ ['\n']) := by
  intro rest cur
  fun_induction lastPart cur rest with
  | case1 cur => exact ⟨[], by simp, Or.inl rfl⟩
  | case2 cur rest ih =>
    obtain ⟨a, ha, hor⟩ := ih
    refine ⟨cur ++ ['\n'] ++ a, by rw [List.append_assoc, ← ha]; simp, Or.inr ?_⟩
    rcases hor with rfl | ⟨a', rfl⟩
    · exact ⟨cur, List.append_nil _⟩
    · exact ⟨cur ++ ['\n'] ++ a', by simp⟩
  | case3 cur c rest hc ih =>
    obtain ⟨a, ha, hor⟩ := ih
    exact ⟨a, by rw [← ha]; simp, hor⟩

/-- The loop of `process_missing_code` with the byte offsets taken out: the pieces it pushes for `rest`
when `cur` is the line read so far and `lw` says whether `last_wspace` is set (it then points at the
last character of `cur`, which goes). -/
def pmcOut : Bool → List Char → List Char → List Piece
  | _, _, [] => []
  | lw, cur, c :: rest =>
    if c = '\n' then
      (if lw then [⟨.code, cur.dropLast⟩, ⟨.code, ['\n']⟩] else [⟨.code, cur ++ ['\n']⟩]) ++
        pmcOut false [] rest
    else pmcOut (isWs c && !lw) (cur ++ [c]) rest

/-- The loop of `process_missing_code` from a state in which `line_start` is on a character boundary
(the end of `p`) in front of the current position (the end of `p ++ cur`): it does not panic, pushes
`pmcOut` and leaves `line_start` in front of the unfinished last line. -/
theorem pmcLoop_eq (snippet rest p cur tail : List Char) (i : Nat) (st : RF.Missed.Status) (v : Vis)
    (hs : snippet = p ++ cur ++ rest ++ tail) (hi : i = utf8Len (p ++ cur))
    (hls : st.line_start = utf8Len p)
    (hlw : ∀ lw, st.last_wspace = some lw → ∃ c1 c, cur = c1 ++ [c] ∧ lw = utf8Len (p ++ c1)) :
    ∃ st' p', pmcLoop snippet i rest st v =
        some (st', pushAll v (pmcOut st.last_wspace.isSome cur rest)) ∧
      p ++ cur ++ rest = p' ++ lastPart cur rest ∧ st'.line_start = utf8Len p' := by
  induction rest generalizing p cur i st v with
  | nil => exact ⟨st, p, rfl, by rw [lastPart, List.append_nil], hls⟩
  | cons c rest ih =>
    have hi1 : i + c.utf8Size = utf8Len (p ++ (cur ++ [c])) := by
      rw [hi, ← List.append_assoc, utf8Len_snoc]
    have hs1 : snippet = p ++ (cur ++ [c]) ++ rest ++ tail := by rw [hs]; simp
    by_cases hc : c = '\n'
    · subst hc
      rw [nl_size] at hi1
      have ih := fun v => ih (p ++ (cur ++ ['\n'])) [] (i + 1) ⟨i + 1, none, st.cur_line + 1⟩ v
        (by rw [hs1]; simp) (by rw [List.append_nil]; exact hi1) hi1 nofun
      have hlp : ∀ p', p ++ (cur ++ ['\n']) ++ [] ++ rest = p' ++ lastPart [] rest →
          p ++ cur ++ '\n' :: rest = p' ++ lastPart cur ('\n' :: rest) := by
        intro p' h; rw [lastPart, if_pos rfl, ← h]; simp
      cases hl : st.last_wspace with
      | some lw =>
        obtain ⟨c1, c, rfl, rfl⟩ := hlw lw hl
        have hsl : sliceBytes? snippet st.line_start (utf8Len (p ++ c1)) = some c1 :=
          sliceBytes_of_split snippet p c1 (c :: '\n' :: rest ++ tail) _ _ (by rw [hs]; simp) hls
            (utf8Len_append p c1)
        obtain ⟨st', p', hrun, hsplit, hls'⟩ := ih ((v.push .code c1).push .code ['\n'])
        refine ⟨st', p', ?_, hlp p' hsplit, hls'⟩
        simp only [pmcLoop, if_true, hl, hsl, pmcOut, Option.isSome_some, List.dropLast_concat]
        exact hrun
      | none =>
        have hsl : sliceBytes? snippet st.line_start (i + 1) = some (cur ++ ['\n']) :=
          sliceBytes_of_split snippet p (cur ++ ['\n']) (rest ++ tail) _ _ (by rw [hs1]; simp) hls
            (by rw [hi1, utf8Len_append])
        obtain ⟨st', p', hrun, hsplit, hls'⟩ := ih (v.push .code (cur ++ ['\n']))
        refine ⟨st', p', ?_, hlp p' hsplit, hls'⟩
        simp only [pmcLoop, if_true, hl, hsl, pmcOut, Option.isSome_none]
        exact hrun
    · have ih := fun lw' => ih p (cur ++ [c]) (i + c.utf8Size) { st with last_wspace := lw' } v hs1 hi1 hls
      have hlp : lastPart cur (c :: rest) = lastPart (cur ++ [c]) rest := by rw [lastPart, if_neg hc]
      have hsp : p ++ cur ++ c :: rest = p ++ (cur ++ [c]) ++ rest := by simp
      rw [hlp, hsp]
      simp only [pmcLoop, pmcOut, if_neg hc, Option.not_isSome]
      by_cases hws : (isWs c && st.last_wspace.isNone) = true
      · rw [if_pos hws, hws]
        exact ih (some i) (fun _ h => ⟨cur, c, rfl, by cases h; exact hi⟩)
      · rw [if_neg hws, Bool.eq_false_iff.mpr hws]
        exact ih none nofun

theorem pmcOut_tags (lw : Bool) (cur rest : List Char) : ∀ q ∈ pmcOut lw cur rest, q.tag = .code := by
  fun_induction pmcOut lw cur rest with
  | case1 => exact List.forall_mem_nil _
  | case2 lw cur rest ih => rw [List.forall_mem_append]; exact ⟨by cases lw <;> simp, ih⟩
  | case3 lw cur c rest hc ih => exact ih

theorem pmcOut_noNl (lw : Bool) (cur rest : List Char) (h : ∀ c ∈ rest, c ≠ '\n') :
    pmcOut lw cur rest = [] := by
  fun_induction pmcOut lw cur rest with
  | case1 => rfl
  | case2 lw cur rest ih => exact absurd rfl (h '\n' List.mem_cons_self)
  | case3 lw cur c rest hc ih => exact ih (List.forall_mem_cons.mp h).2

/-- Blanks aside, what the loop pushed and the unfinished last line make up what it read. -/
theorem pmcOut_squeeze (lw : Bool) (cur rest : List Char)
    (h : lw = true → squeeze cur.dropLast = squeeze cur) :
    squeeze (render (pmcOut lw cur rest)) ++ squeeze (lastPart cur rest) = squeeze cur ++ squeeze rest := by
  fun_induction pmcOut lw cur rest with
  | case1 => rw [lastPart]; simp [render, squeeze_nil]
  | case2 lw cur rest ih =>
    rw [lastPart, if_pos rfl, render_append, squeeze_append, List.append_assoc, ih nofun,
      squeeze_cons_ws isWs_nl]
    cases lw with
    | true => simp [render, squeeze_append, h rfl, squeeze_cons_ws isWs_nl, squeeze_nil]
    | false => simp [render, squeeze_append, squeeze_cons_ws isWs_nl, squeeze_nil]
  | case3 lw cur c rest hc ih =>
    rw [lastPart, if_neg hc, ih, squeeze_append, List.append_assoc, ← squeeze_append]
    · rfl
    · intro hb
      rw [List.dropLast_concat, squeeze_append, squeeze_cons_ws (Bool.and_eq_true_iff.mp hb).1,
        squeeze_nil, List.append_nil]

/-- From the start of a line the loop writes `pmcLines`: `last_wspace` is set exactly when the run of
blanks at the end of the line is odd. -/
theorem pmcOut_render (lw : Bool) (cur rest : List Char) (h : lw = true ↔ trailWs cur % 2 = 1) :
    render (pmcOut lw cur rest) = pmcLines cur rest := by
  fun_induction pmcOut lw cur rest with
  | case1 => rfl
  | case2 lw cur rest ih =>
    rw [pmcLines, if_pos rfl, render_append, ih (by decide), keepLine]
    cases lw
    · rw [if_neg (fun h' => nomatch h.mpr h'), if_neg nofun, render_single]
    · rw [if_pos (h.mp rfl), if_pos rfl, render_cons, render_single]
  | case3 lw cur c rest hc ih =>
    rw [pmcLines, if_neg hc]
    apply ih
    rw [trailWs_snoc]
    cases isWs c
    · exact ⟨nofun, nofun⟩
    · -- a blank flips the parity of the run and `last_wspace`
      rw [if_pos rfl, Bool.true_and, Bool.not_eq_true', ← Bool.not_eq_true, h]; omega

theorem keepLine_cases (l : List Char) :
    keepLine l = l ∨ ∃ c, isWs c = true ∧ l = keepLine l ++ [c] := by
  unfold keepLine
  split
  next h =>
    right
    rcases List.eq_nil_or_concat l with rfl | ⟨l', c, rfl⟩
    · cases h
    · rw [List.concat_eq_append] at h ⊢
      rw [trailWs_snoc] at h
      refine ⟨c, ?_, by rw [List.dropLast_concat]⟩
      by_cases hc : isWs c = true
      · exact hc
      · rw [if_neg hc] at h; cases h
  next => exact Or.inl rfl

theorem keepLine_eq_trimEnd (l : List Char) (h : trailWs l ≤ 1) : keepLine l = trimEnd l := by
  unfold keepLine trimEnd
  unfold trailWs at h ⊢
  cases hr : l.reverse with
  | nil =>
    have : l = [] := by simpa using congrArg List.reverse hr
    subst this; simp
  | cons c r =>
    have hl : l = r.reverse ++ [c] := by
      have := congrArg List.reverse hr; simpa using this
    rw [hr] at h
    by_cases hc : isWs c = true
    · simp only [List.takeWhile_cons, hc, if_true, List.length_cons] at h ⊢
      have hr0 : (r.takeWhile isWs).length = 0 := by omega
      have hr1 : r.takeWhile isWs = [] := List.length_eq_zero_iff.mp hr0
      have hdw : r.dropWhile isWs = r := by
        have := List.takeWhile_append_dropWhile (p := isWs) (l := r)
        rw [hr1] at this; simpa using this
      simp only [hr0, List.dropWhile_cons, hc, if_true, hdw]
      rw [hl]; simp
    · simp only [List.takeWhile_cons, hc, List.dropWhile_cons]
      simp
      exact hl

/-- What `process_missing_code` writes for the slice `sub`, with `indent` = the indentation string. -/
def pmcSpec (indent sub : List Char) : List Char :=
  pmcLines [] sub ++
    (if (trim (lastPart [] sub)).isEmpty then [] else indent ++ trim (lastPart [] sub))

/-- The pieces `process_missing_code` pushes for the slice `sub` when `cur` is the text between
`line_start` and the slice: the complete lines, then the unfinished last line, trimmed and indented,
if it is not blank. -/
def pmcPieces (indent cur sub : List Char) : List Piece :=
  pmcOut false cur sub ++
    (if (trim (lastPart cur sub)).isEmpty then []
     else [⟨.blank, indent⟩, ⟨.code, trim (lastPart cur sub)⟩])

theorem pmcPieces_render (indent sub : List Char) : render (pmcPieces indent [] sub) = pmcSpec indent sub := by
  rw [pmcPieces, pmcSpec, render_append, pmcOut_render false [] sub (by decide)]
  split <;> simp [render]

theorem pmcPieces_squeeze (indent cur sub : List Char) (hi : AllWs indent) :
    squeeze (render (pmcPieces indent cur sub)) = squeeze cur ++ squeeze sub := by
  rw [pmcPieces, render_append, squeeze_append, ← pmcOut_squeeze false cur sub nofun]
  congr 1
  split
  next h => exact (squeeze_of_allWs ((trim_isEmpty_iff _).mp h)).symm
  next => simp [render, squeeze_append, squeeze_of_allWs hi, squeeze_trim]

theorem pmcPieces_tags (indent cur sub : List Char) (hi : AllWs indent) :
    ∀ q ∈ pmcPieces indent cur sub, q.tag = .code ∨ (q.tag = .blank ∧ AllWs q.text) := by
  rw [pmcPieces, List.forall_mem_append]
  refine ⟨fun q hq => Or.inl (pmcOut_tags false cur sub q hq), ?_⟩
  split
  · exact List.forall_mem_nil _
  · simp [hi]

theorem pmcPieces_blank (indent cur sub : List Char) (hc : AllWs cur) (hs : AllWs sub)
    (hnl : ∀ c ∈ sub, c ≠ '\n') : pmcPieces indent cur sub = [] := by
  have h := pmcOut_squeeze false cur sub nofun
  rw [pmcOut_noNl false cur sub hnl, squeeze_of_allWs hc, squeeze_of_allWs hs] at h
  have hl : AllWs (lastPart cur sub) := squeeze_eq_nil.mp (by simpa [render, squeeze_nil] using h)
  rw [pmcPieces, pmcOut_noNl false cur sub hnl, if_pos ((trim_isEmpty_iff _).mpr hl)]; rfl

/-- `process_missing_code` on the slice `sub` of `snippet = p ++ cur ++ sub ++ tail`, called with
`line_start` at the end of `p` and `last_wspace` clear: no panic, `pmcPieces` is pushed, and `line_start`
is left on a character boundary with white space behind it. -/
theorem processMissingCode_eq (env : Env) (snippet p cur sub tail : List Char)
    (hs : snippet = p ++ cur ++ sub ++ tail) (st : RF.Missed.Status) (v : Vis)
    (hls : st.line_start = utf8Len p) (hlw : st.last_wspace = none) (indent : List Char)
    (hind : indentStr? env v.blockIndent = some indent) :
    ∃ st' p' q', processMissingCode env snippet sub (utf8Len (p ++ cur)) st v =
        some (st', pushAll v (pmcPieces indent cur sub)) ∧
      p ++ cur ++ sub = p' ++ q' ∧ AllWs q' ∧ st'.line_start = utf8Len p' := by
  obtain ⟨st1, p1, hrun, hsplit, hls1⟩ := pmcLoop_eq snippet sub p cur tail _ st v hs rfl hls
    (fun _ h => by rw [hlw] at h; cases h)
  rw [hlw, Option.isSome_none] at hrun
  have hsl : sliceBytes? snippet st1.line_start (utf8Len sub + utf8Len (p ++ cur)) =
      some (lastPart cur sub) :=
    sliceBytes_of_split snippet p1 (lastPart cur sub) tail _ _ (by rw [hs, hsplit]) hls1 (by
      have := congrArg utf8Len hsplit
      simp only [utf8Len_append] at this ⊢; omega)
  rw [processMissingCode, hrun]
  simp only [hsl, pmcPieces]
  cases hrem : (trim (lastPart cur sub)).isEmpty with
  | true => exact ⟨st1, p1, lastPart cur sub, by simp, hsplit, (trim_isEmpty_iff _).mp hrem, hls1⟩
  | false =>
    have hbi : (pushAll v (pmcOut false cur sub)).blockIndent = v.blockIndent := foldl_push_indent v _
    rw [hbi, hind]
    exact ⟨{ st1 with line_start := utf8Len sub + utf8Len (p ++ cur) }, p ++ cur ++ sub, [],
      by simp [pushAll], by simp, allWs_nil, by simp only [utf8Len_append]; omega⟩

/-- `rewrite_comment` keeps the non-blank characters of a comment (true of the rewriter under the
default comment options: `RF.Lemmas.ListsRc.rewriteCommentLight_content`). -/
def RcContent (rc : Rc) : Prop := ∀ c bs sh r, rc c bs sh = some r → squeeze r = squeeze c

theorem squeeze_rcOr (env : Env) (h : RcContent env.rc) (c : List Char) (sh : Shape) :
    squeeze (rcOr env c sh) = squeeze c := by
  unfold rcOr
  cases hr : env.rc c false sh with
  | none => rfl
  | some r => exact h c false sh r hr

/-- Every `vspace` piece of `out` is what `push_vertical_spaces` computes from the run of line breaks
at the end of the buffer (`b0` followed by the pieces in front of it) for some request. -/
def VspaceOk (env : Env) (b0 : List Char) (out : List Piece) : Prop :=
  ∀ l1 t l2, out = l1 ++ ⟨.vspace, t⟩ :: l2 →
    ∃ n, t = List.replicate (RF.Newline.pushVerticalSpaces
      (RF.Newline.trailingNewlines (b0 ++ render l1)) n env.lower env.upper) '\n'

theorem VspaceOk.of_noVspace {env : Env} {b0 : List Char} {o : List Piece}
    (h : ∀ q ∈ o, q.tag ≠ .vspace) : VspaceOk env b0 o := by
  intro l1 t l2 heq
  exact absurd rfl (h ⟨.vspace, t⟩ (by rw [heq]; simp))

theorem VspaceOk.nil (env : Env) (b0 : List Char) : VspaceOk env b0 [] :=
  .of_noVspace (List.forall_mem_nil _)

theorem VspaceOk.single (env : Env) (b0 : List Char) (n : Nat) :
    VspaceOk env b0 [⟨.vspace, List.replicate (RF.Newline.pushVerticalSpaces
      (RF.Newline.trailingNewlines b0) n env.lower env.upper) '\n'⟩] := by
  intro l1 t l2 heq
  cases l1 with
  | nil => cases heq; exact ⟨n, by rw [render_nil, List.append_nil]⟩
  | cons x l1 => cases l1 <;> cases heq

/-- More pieces, judged against the buffer they were pushed to. -/
theorem VspaceOk.append {env : Env} {b0 : List Char} {out o : List Piece} (h : VspaceOk env b0 out)
    (ho : VspaceOk env (b0 ++ render out) o) : VspaceOk env b0 (out ++ o) := by
  intro l1 t l2 heq
  rcases List.append_eq_append_iff.mp heq with ⟨a, rfl, h2⟩ | ⟨a, rfl, h2⟩
  · obtain ⟨n, hn⟩ := ho a t l2 h2
    exact ⟨n, by rw [hn, render_append, List.append_assoc]⟩
  · rcases List.cons_eq_append_iff.mp h2 with ⟨rfl, ho'⟩ | ⟨a', rfl, _⟩
    · obtain ⟨n, hn⟩ := ho [] t l2 ho'
      exact ⟨n, by rw [hn]; simp [render_nil]⟩
    · exact h l1 t a' rfl

/-- After the part `done` of the snippet has been consumed (`k` = the kind of the slice that comes
next): `out` has been pushed; `done = p ++ q` with `line_start` at the end of `p` and `q` white space;
`last_wspace` is clear in front of a `Normal` slice; the non-blank characters written are those of
`done` (when the comment rewriter keeps them); every `vspace` piece is a `push_vertical_spaces`. -/
structure Inv (env : Env) (v0 : Vis) (k : CodeCharKind) (done : List Char) (st : RF.Missed.Status)
    (v : Vis) (out : List Piece) : Prop where
  wrote : Wrote v0 v out
  split : ∃ p q, done = p ++ q ∧ AllWs q ∧ st.line_start = utf8Len p
  lw : k = .normal → st.last_wspace = none
  content : RcContent env.rc → squeeze (render out) = squeeze done
  vs : VspaceOk env v0.buffer out

/-- The invariant after an operation that consumed `sub` and pushed `o`, none of it through
`push_vertical_spaces`. -/
theorem Inv.step {env : Env} {v0 v : Vis} {k k' : CodeCharKind} {done sub : List Char}
    {st st' : RF.Missed.Status} {out o : List Piece} (h : Inv env v0 k done st v out)
    (hsplit : ∃ p q, done ++ sub = p ++ q ∧ AllWs q ∧ st'.line_start = utf8Len p)
    (hlw : k' = .normal → st'.last_wspace = none)
    (hc : RcContent env.rc → squeeze (render o) = squeeze sub)
    (hvs : ∀ q ∈ o, q.tag ≠ .vspace) : Inv env v0 k' (done ++ sub) st' (pushAll v o) (out ++ o) :=
  ⟨h.wrote.pushAll o, hsplit, hlw,
    fun hrc => by rw [render_append, squeeze_append, h.content hrc, hc hrc, squeeze_append],
    h.vs.append (.of_noVspace hvs)⟩

/-- The invariant after `push_vertical_spaces` for a blank slice `sub`: the one operation that earns
the `vs` field. -/
theorem Inv.vspace {env : Env} {v0 v : Vis} {k k' : CodeCharKind} {done sub : List Char}
    {st st' : RF.Missed.Status} {out : List Piece} (h : Inv env v0 k done st v out) (n : Nat)
    (hws : AllWs sub) (hsplit : ∃ p q, done ++ sub = p ++ q ∧ AllWs q ∧ st'.line_start = utf8Len p)
    (hlw : k' = .normal → st'.last_wspace = none) :
    Inv env v0 k' (done ++ sub) st' (v.pushVerticalSpaces env n) (out ++ [⟨.vspace, List.replicate
      (RF.Newline.pushVerticalSpaces (RF.Newline.trailingNewlines v.buffer) n env.lower env.upper) '\n'⟩]) :=
  ⟨h.wrote.pushVerticalSpaces env n, hsplit, hlw,
    fun hrc => by
      rw [render_append, squeeze_append, h.content hrc, squeeze_append, squeeze_of_allWs hws,
        render_single, squeeze_of_allWs (allWs_replicate _ _ isWs_nl)],
    h.vs.append (h.wrote.buffer ▸ VspaceOk.single env _ n)⟩

theorem processMissingCode_spec (env : Env) (hind : IndentOk env.config)
    (snippet done sub tail : List Char) (hs : snippet = done ++ sub ++ tail)
    (st : RF.Missed.Status) (v0 v : Vis) (out : List Piece)
    (hinv : Inv env v0 .normal done st v out) :
    ∃ st' o, processMissingCode env snippet sub (utf8Len done) st v = some (st', pushAll v o) ∧
      Inv env v0 .comment (done ++ sub) st' (pushAll v o) (out ++ o) ∧
      (∀ q ∈ o, q.tag = .code ∨ (q.tag = .blank ∧ AllWs q.text)) ∧
      (AllWs sub → (∀ c ∈ sub, c ≠ '\n') → o = []) := by
  obtain ⟨p, q, rfl, hq, hls⟩ := hinv.split
  obtain ⟨indent, hindS, hindW⟩ := indentStr_ok env hind v.blockIndent
  obtain ⟨st', p', q', hrun, hsplit, hq', hls'⟩ :=
    processMissingCode_eq env snippet p q sub tail hs st v hls (hinv.lw rfl) indent hindS
  have htags := pmcPieces_tags indent q sub hindW
  refine ⟨st', pmcPieces indent q sub, hrun, hinv.step ⟨p', q', hsplit, hq', hls'⟩ nofun
    (fun _ => by rw [pmcPieces_squeeze _ _ _ hindW, squeeze_of_allWs hq]; rfl) ?_, htags,
    pmcPieces_blank indent q sub hq⟩
  intro x hx
  rcases htags x hx with h | ⟨h, _⟩ <;> rw [h] <;> decide

/-- The tail of `process_comment`: no panic; at most a `"\n"` is pushed; `line_start` is the end of
the comment and `last_wspace` is clear. -/
theorem commentTail_spec (snippet done sub tail : List Char) (hs : snippet = done ++ sub ++ tail)
    (st : RF.Missed.Status) (v : Vis) :
    ∃ st' post, commentTail snippet sub (utf8Len done) st v = some (st', pushAll v post) ∧
      BlankPieces post ∧ st'.line_start = utf8Len (done ++ sub) ∧ st'.last_wspace = none := by
  have he : utf8Len done + utf8Len sub = utf8Len (done ++ sub) := (utf8Len_append done sub).symm
  have hdrop := dropBytes_of_split snippet (done ++ sub) tail _ hs he
  fun_cases commentTail snippet sub (utf8Len done) st v
  case case1 _ hnone => exact nomatch hdrop.symm.trans hnone
  case case3 | case6 => exact ⟨_, [], rfl, .nil, he, rfl⟩
  case case2 | case4 | case5 => exact ⟨_, [⟨.blank, ['\n']⟩], rfl, .nl, he, rfl⟩

/-- The head of `process_comment`: no panic when indentation strings exist; only fixed blanks are
pushed; `on_same_line` only under style edition 2024. -/
theorem commentHead_spec (env : Env) (hind : IndentOk env.config) (snippet bigPrefix : List Char)
    (v : Vis) :
    ∃ ci osl pre, commentHead env snippet bigPrefix v = some (pushAll v pre, ci, osl) ∧
      BlankPieces pre ∧ (osl = true → env.ed2024 = true) := by
  fun_cases commentHead env snippet bigPrefix v
  case case1 _ _ _ hx => obtain ⟨_, h1, _⟩ := indentStr_ok env hind _; exact nomatch h1.symm.trans hx
  case case2 lastChar _ v1 ind hx =>
    obtain ⟨_, h1, h2⟩ := indentStr_ok env hind v1.blockIndent
    cases h1.symm.trans hx
    by_cases hb : lastChar = some '{'
    · exact ⟨_, false, [⟨.blank, ['\n']⟩, ⟨.blank, ind⟩], by simp only [v1, if_pos hb]; rfl,
        .append .nl (.single h2), nofun⟩
    · exact ⟨_, false, [⟨.blank, ind⟩], by simp only [v1, if_neg hb]; rfl, .single h2, nofun⟩
  case case3 _ _ h24 =>
    exact ⟨_, true, [⟨.blank, [' ']⟩], rfl, .space, fun _ => (Bool.and_eq_true_iff.mp h24).1⟩
  case case4 _ _ _ _ _ hx =>
    exact nomatch (RF.Lemmas.Shape.from_width_ok env.config _ hind).symm.trans hx
  case case5 => exact ⟨_, false, [⟨.blank, [' ']⟩], rfl, .space, nofun⟩

/-- What the middle of `process_comment` pushes for the comment slice `sub`. -/
inductive CommentMid (env : Env) (sub : List Char) : List Piece → Prop
  /-- the comment as `rewrite_comment` returned it (or as written when it failed) -/
  | whole (sh : Shape) : CommentMid env sub [⟨.comment, rcOr env sub sh⟩]
  /-- style edition 2024, a one-line comment on the line of the code: as written, without its `\n` -/
  | raw (t : List Char) : env.ed2024 = true → (t = sub ∨ sub = t ++ ['\n']) →
      CommentMid env sub [⟨.comment, t⟩]
  /-- style edition 2024, more lines: the first as written, the others rewritten -/
  | split (first rest other nl : List Char) (sh : Shape) : env.ed2024 = true →
      sub = first ++ '\n' :: rest → (other = rest ∨ other = trimStart rest) → AllWs nl →
      CommentMid env sub [⟨.comment, first⟩, ⟨.blank, nl⟩, ⟨.comment, rcOr env other sh⟩]

theorem CommentMid.content {env : Env} {sub : List Char} {mid : List Piece} (hrc : RcContent env.rc)
    (h : CommentMid env sub mid) : squeeze (render mid) = squeeze sub := by
  cases h with
  | whole sh => rw [render_single, squeeze_rcOr env hrc]
  | raw t _ ht =>
    rw [render_single]
    rcases ht with rfl | rfl
    · rfl
    · rw [squeeze_append, squeeze_of_allWs (allWs_single isWs_nl), List.append_nil]
  | split first rest other nl sh _ hsub hother hnl =>
    have h1 : squeeze other = squeeze rest := by
      rcases hother with rfl | rfl
      · rfl
      · exact squeeze_trimStart rest
    simp only [render, List.flatMap_cons, List.flatMap_nil, List.append_nil, squeeze_append,
      squeeze_of_allWs hnl, squeeze_rcOr env hrc, h1, hsub, squeeze_cons_ws isWs_nl, List.nil_append]

/-- Writing one comment slice: no panic when indentation strings exist. -/
theorem commentLines_spec (env : Env) (hind : IndentOk env.config) (sub : List Char) (v1 : Vis)
    (ci : Indent) (sh : Shape) (osl : Bool) (hosl : osl = true → env.ed2024 = true) :
    ∃ mid, commentLines env sub v1 ci sh osl = some (pushAll v1 mid) ∧ CommentMid env sub mid := by
  unfold commentLines
  cases osl with
  | false => exact ⟨_, rfl, .whole _⟩
  | true =>
    have hed := hosl rfl
    simp only [if_true]
    cases hf : findChar (· == '\n') sub with
    | none => exact ⟨[⟨.comment, sub⟩], rfl, .raw sub hed (Or.inl rfl)⟩
    | some off =>
      obtain ⟨a, c, b, rfl, rfl, hc, _⟩ := findChar_split _ sub off hf
      obtain rfl : c = '\n' := by simpa using hc
      have htake : takeBytes? (utf8Len a) (a ++ '\n' :: b) = some a := takeBytes_prefix a _
      have hlen : utf8Len (a ++ '\n' :: b) = utf8Len a + 1 + utf8Len b := by
        rw [utf8Len_append, utf8Len, nl_size, Nat.add_assoc]
      simp only [htake, hlen]
      by_cases hlast : utf8Len a + 1 = utf8Len a + 1 + utf8Len b
      · obtain rfl : b = [] := utf8Len_eq_zero b (by omega)
        exact ⟨[⟨.comment, a⟩], if_pos hlast, .raw a hed (Or.inr rfl)⟩
      · obtain ⟨nl, hnl1, hnl2⟩ := indentNl_ok env hind ci
        have hdrop : dropBytes? (utf8Len a + 1) (a ++ '\n' :: b) = some b :=
          dropBytes_of_split _ (a ++ ['\n']) b _ (by simp) (by rw [utf8Len_snoc, nl_size])
        rw [if_neg hlast, hnl1, hdrop]
        exact ⟨[⟨.comment, a⟩, ⟨.blank, nl⟩, ⟨.comment, rcOr env _ sh⟩], rfl,
          .split a b _ nl sh hed rfl (by split <;> simp) hnl2⟩

theorem commentBody_spec (env : Env) (hind : IndentOk env.config) (sub : List Char) (v1 : Vis)
    (ci : Indent) (osl : Bool) (hosl : osl = true → env.ed2024 = true) :
    ∃ mid, commentBody env sub v1 ci osl = some (pushAll v1 mid) ∧ CommentMid env sub mid :=
  commentLines_spec env hind sub v1 ci _ osl hosl

/-- What `process_comment` pushes for the comment slice `sub`: fixed blanks, the comment, fixed blanks. -/
def CommentOut (env : Env) (sub : List Char) (o : List Piece) : Prop :=
  ∃ pre mid post, o = pre ++ mid ++ post ∧ BlankPieces pre ∧ CommentMid env sub mid ∧ BlankPieces post

theorem CommentOut.content {env : Env} {sub : List Char} {o : List Piece} (hrc : RcContent env.rc)
    (h : CommentOut env sub o) : squeeze (render o) = squeeze sub := by
  obtain ⟨pre, mid, post, rfl, hpre, hmid, hpost⟩ := h
  rw [render_append, render_append, squeeze_append, squeeze_append, hpre.content, hpost.content,
    hmid.content hrc, List.nil_append, List.append_nil]

theorem CommentOut.forall {P : Piece → Prop} {env : Env} {sub : List Char} {o : List Piece}
    (h : CommentOut env sub o) (hc : ∀ t, P ⟨.comment, t⟩) (hb : ∀ t, AllWs t → P ⟨.blank, t⟩) :
    ∀ q ∈ o, P q := by
  obtain ⟨pre, mid, post, rfl, hpre, hmid, hpost⟩ := h
  simp only [List.forall_mem_append]
  refine ⟨⟨hpre.forall hb, ?_⟩, hpost.forall hb⟩
  cases hmid with
  | whole sh => simpa using hc _
  | raw t _ _ => simpa using hc _
  | split first rest other nl sh _ _ _ hnl => simpa using ⟨hc _, hb _ hnl, hc _⟩

theorem CommentOut.noVspace {env : Env} {sub : List Char} {o : List Piece} (h : CommentOut env sub o) :
    ∀ q ∈ o, q.tag ≠ .vspace := h.forall (fun _ => nofun) (fun _ _ => nofun)

theorem CommentOut.comments {env : Env} {sub : List Char} {o : List Piece} (hed : env.ed2024 = false)
    (h : CommentOut env sub o) : ∃ sh, commentPieces o = [rcOr env sub sh] := by
  obtain ⟨pre, mid, post, rfl, hpre, hmid, hpost⟩ := h
  rw [commentPieces_append, commentPieces_append, hpre.noComment, hpost.noComment]
  cases hmid with
  | whole sh => exact ⟨sh, rfl⟩
  | raw t h24 _ => rw [hed] at h24; cases h24
  | split _ _ _ _ _ h24 _ _ _ => rw [hed] at h24; cases h24

theorem processComment_spec (env : Env) (hind : IndentOk env.config)
    (snippet done sub tail bigPrefix : List Char) (hs : snippet = done ++ sub ++ tail)
    (st : RF.Missed.Status) (v0 v : Vis) (out : List Piece) (k : CodeCharKind)
    (hinv : Inv env v0 k done st v out) :
    ∃ st' o, processComment env snippet bigPrefix sub (utf8Len done) st v = some (st', pushAll v o) ∧
      Inv env v0 .normal (done ++ sub) st' (pushAll v o) (out ++ o) ∧ CommentOut env sub o := by
  obtain ⟨ci, osl, pre, hhead, hpre, hosl⟩ := commentHead_spec env hind snippet bigPrefix v
  obtain ⟨mid, hbody, hmid⟩ := commentBody_spec env hind sub (pushAll v pre) ci osl hosl
  obtain ⟨st', post, htail, hpost, hls, hlw⟩ :=
    commentTail_spec snippet done sub tail hs st (pushAll (pushAll v pre) mid)
  have hout : CommentOut env sub (pre ++ mid ++ post) := ⟨pre, mid, post, rfl, hpre, hmid, hpost⟩
  refine ⟨st', pre ++ mid ++ post, ?_, hinv.step ⟨done ++ sub, [], (List.append_nil _).symm,
    allWs_nil, hls⟩ (fun _ => hlw) (fun hrc => hout.content hrc) hout.noVspace, hout⟩
  rw [processComment, hhead]
  simp only [hbody]
  rw [pushAll_append, pushAll_append]; exact htail

/-- `lf_count + crlf_count` is the number of `\n`, whatever the flag does. -/
theorem countLfCrlf_sum (b : Bool) (s : List Char) :
    (countLfCrlf b s).1 + (countLfCrlf b s).2 = RF.Newline.countNewlines s := by
  fun_induction countLfCrlf b s with
  | case1 => rfl
  | case2 _ cs ih => rw [ih]; exact (List.count_cons_of_ne (by decide)).symm
  | case3 cs lf crlf hx _ ih =>
    rw [hx] at ih
    rw [RF.Newline.countNewlines, List.count_cons_self, ← RF.Newline.countNewlines, ← ih]
    exact (Nat.add_assoc ..).symm
  | case4 _ cs lf crlf hx _ _ ih =>
    rw [hx] at ih
    rw [RF.Newline.countNewlines, List.count_cons_self, ← RF.Newline.countNewlines, ← ih]
    exact Nat.add_right_comm ..
  | case5 _ c cs _ h ih => rw [ih]; exact (List.count_cons_of_ne h).symm

/-- Behind a blank slice `line_start` is put behind its last `\n`, or at its start. -/
theorem afterLastNl_split (s : List Char) (hws : AllWs s) :
    ∃ a b, s = a ++ b ∧ AllWs b ∧ afterLastNl s = utf8Len a := by
  unfold afterLastNl
  cases hr : rfindChar (· == '\n') s with
  | none => exact ⟨[], s, rfl, hws, rfl⟩
  | some i =>
    obtain ⟨a, c, b, rfl, rfl, hc, _⟩ := rfindChar_split _ s i hr
    obtain rfl : c = '\n' := by simpa using hc
    exact ⟨a ++ ['\n'], b, by simp, (allWs_cons.mp (allWs_append.mp hws).2).2,
      by rw [utf8Len_snoc, nl_size]⟩

/-- What one turn of the loop pushes for the slice `sl`. -/
inductive StepOut (env : Env) (sl : Slice) : List Piece → Prop
  /-- a comment slice: `process_comment` -/
  | comment (o : List Piece) : sl.kind = .comment → CommentOut env sl.text o → StepOut env sl o
  /-- a blank slice with a line break: `push_vertical_spaces` -/
  | vspace (t : List Char) : sl.kind = .normal → AllWs sl.text → (∃ k, t = List.replicate k '\n') →
      StepOut env sl [⟨.vspace, t⟩]
  /-- anything else: `process_missing_code` (nothing is pushed for a blank slice) -/
  | code (o : List Piece) : sl.kind = .normal →
      (∀ q ∈ o, q.tag = .code ∨ (q.tag = .blank ∧ AllWs q.text)) → (AllWs sl.text → o = []) →
      StepOut env sl o

/-- One turn of the loop on the slice `sl` that follows `done`, from a state that satisfies the invariant:
no panic, the invariant holds for `done ++ sl.text`, and what was pushed is a `StepOut`. -/
theorem wsiStep_spec (env : Env) (hind : IndentOk env.config) (pre snippet post : List Char)
    (hbig : env.big = pre ++ snippet ++ post) (sl : Slice) (done tail : List Char)
    (hs : snippet = done ++ sl.text ++ tail) (hstart : sl.start = utf8Len done)
    (st : RF.Missed.Status) (v0 v : Vis) (out : List Piece)
    (hinv : Inv env v0 sl.kind done st v out) :
    ∃ st' v' o, wsiStep env snippet (utf8Len pre) sl st v = some (st', v') ∧
      Inv env v0 (flipKind sl.kind) (done ++ sl.text) st' v' (out ++ o) ∧ StepOut env sl o := by
  unfold wsiStep
  have hsum := countLfCrlf_sum false sl.text
  generalize countLfCrlf false sl.text = cnt at hsum
  obtain ⟨lf, crlf⟩ := cnt
  simp only [hstart]
  cases hk : sl.kind with
  | comment =>
    rw [hk] at hinv
    have htake : takeBytes? (utf8Len done + utf8Len pre) env.big = some (pre ++ done) :=
      takeBytes_of_split env.big (pre ++ done) (sl.text ++ tail ++ post) _
        (by rw [hbig, hs]; simp) (by rw [utf8Len_append, Nat.add_comm])
    simp only [if_true, htake]
    obtain ⟨st', o, hrun, hinv', hout⟩ :=
      processComment_spec env hind snippet done sl.text tail (pre ++ done) hs st v0 v out _ hinv
    exact ⟨st', _, o, hrun, hinv', .comment o hk hout⟩
  | normal =>
    rw [hk] at hinv
    rw [if_neg nofun]
    by_cases hblank : ((trim sl.text).isEmpty && decide (lf + crlf > 0)) = true
    · rw [if_pos hblank]
      obtain ⟨hws, hpos⟩ := Bool.and_eq_true_iff.mp hblank
      rw [trim_isEmpty_iff] at hws
      obtain ⟨a, b, hab, hb, hls⟩ := afterLastNl_split sl.text hws
      exact ⟨_, _, _, rfl, hinv.vspace (lf + crlf) hws ⟨done ++ a, b, by rw [hab]; simp, hb,
        by rw [utf8Len_append, ← hls]⟩ nofun, .vspace _ hk hws ⟨_, rfl⟩⟩
    · rw [if_neg hblank]
      obtain ⟨st', o, hrun, hinv', htags, hnone⟩ :=
        processMissingCode_spec env hind snippet done sl.text tail hs st v0 v out hinv
      refine ⟨st', _, o, hrun, hinv', .code o hk htags fun hws => hnone hws fun c hc hcn =>
        List.count_eq_zero.mp (?_ : RF.Newline.countNewlines sl.text = 0) (hcn ▸ hc)⟩
      simp only [(trim_isEmpty_iff _).mpr hws, Bool.true_and, decide_eq_true_eq] at hblank
      omega

/-- The per-slice outputs of a run of slices. -/
inductive LoopOut (env : Env) : List Slice → List Piece → Prop
  | nil : LoopOut env [] []
  | cons (sl : Slice) (rest : List Slice) (o os : List Piece) : StepOut env sl o → LoopOut env rest os →
      LoopOut env (sl :: rest) (o ++ os)

theorem wsiLoop_spec (env : Env) (hind : IndentOk env.config) (pre snippet post : List Char)
    (hbig : env.big = pre ++ snippet ++ post) (v0 : Vis) (items : List Slice) (done : List Char)
    (k : CodeCharKind) (st : RF.Missed.Status) (v : Vis) (out : List Piece)
    (hs : snippet = done ++ items.flatMap (·.text)) (halt : Alternates k items)
    (hcont : Contiguous (utf8Len done) items) (hinv : Inv env v0 k done st v out) :
    ∃ st' v' o k', wsiLoop env snippet (utf8Len pre) items st v = some (st', v') ∧
      Inv env v0 k' snippet st' v' (out ++ o) ∧ LoopOut env items o := by
  induction items generalizing done k st v out with
  | nil =>
    obtain rfl : snippet = done := by simpa using hs
    exact ⟨st, v, [], k, rfl, by rwa [List.append_nil], .nil⟩
  | cons sl rest ih =>
    obtain ⟨rfl, halt⟩ := halt
    rw [List.flatMap_cons, ← List.append_assoc] at hs
    obtain ⟨st1, v1, o1, hrun, hinv1, hout1⟩ :=
      wsiStep_spec env hind pre snippet post hbig sl done _ hs hcont.1 st v0 v out hinv
    obtain ⟨st', v', o, k', hrun', hinv', hout'⟩ :=
      ih (done ++ sl.text) (flipKind sl.kind) st1 v1 (out ++ o1) hs halt
        (by rw [utf8Len_append]; exact hcont.2) hinv1
    refine ⟨st', v', o1 ++ o, k', ?_, by rwa [← List.append_assoc], .cons sl rest o1 o hout1 hout'⟩
    simp only [wsiLoop, hrun]; exact hrun'

/-- Elimination rule for the pieces the loop pushes: code pieces occur only if some `Normal` slice is
not blank. -/
theorem LoopOut.forall {P : Piece → Prop} {env : Env} (hc : ∀ t, P ⟨.comment, t⟩)
    (hb : ∀ t, AllWs t → P ⟨.blank, t⟩) (hv : ∀ t, AllWs t → P ⟨.vspace, t⟩)
    {items : List Slice} {lo : List Piece} (h : LoopOut env items lo)
    (hcode : (∃ s ∈ items, s.kind = .normal ∧ ¬AllWs s.text) → ∀ t, P ⟨.code, t⟩) : ∀ q ∈ lo, P q := by
  induction h with
  | nil => exact List.forall_mem_nil _
  | cons sl rest o os hstep hrest ih =>
    refine List.forall_mem_append.mpr ⟨?_, ih fun ⟨s, hs, h⟩ => hcode ⟨s, List.mem_cons_of_mem _ hs, h⟩⟩
    cases hstep with
    | comment _ _ hout => exact hout.forall hc hb
    | vspace t _ _ ht =>
      obtain ⟨k, rfl⟩ := ht
      exact List.forall_mem_singleton.mpr (hv _ (allWs_replicate _ _ isWs_nl))
    | code _ hk htags hnone =>
      by_cases hws : AllWs sl.text
      · rw [hnone hws]; exact List.forall_mem_nil _
      · intro ⟨tag, t⟩ hq
        obtain rfl | ⟨rfl, ht⟩ : tag = .code ∨ tag = .blank ∧ AllWs t := htags _ hq
        · exact hcode ⟨sl, List.mem_cons_self, hk, hws⟩ t
        · exact hb t ht

/-- The comment slices, in order. -/
def commentSlices (items : List Slice) : List (List Char) :=
  (items.filter (fun s => s.kind == .comment)).map (·.text)

/-- One more slice in front: a comment slice written as one comment piece, or a `Normal` slice written
without comment pieces. -/
theorem comments_cons {env : Env} {sl : Slice} {rest : List Slice} {o os : List Piece}
    (h : sl.kind = .comment ∧ (∃ sh, commentPieces o = [rcOr env sl.text sh]) ∨
      sl.kind = .normal ∧ commentPieces o = [])
    (ih : ∃ shapes : List Shape, shapes.length = (commentSlices rest).length ∧
      commentPieces os = List.zipWith (fun c sh => rcOr env c sh) (commentSlices rest) shapes) :
    ∃ shapes : List Shape, shapes.length = (commentSlices (sl :: rest)).length ∧
      commentPieces (o ++ os) =
        List.zipWith (fun c sh => rcOr env c sh) (commentSlices (sl :: rest)) shapes := by
  obtain ⟨shapes, hlen, hzip⟩ := ih
  rw [commentPieces_append, hzip]
  rcases h with ⟨hk, sh, ho⟩ | ⟨hk, ho⟩
  · exact ⟨sh :: shapes, by simp [commentSlices, hk, hlen], by simp [commentSlices, hk, ho]⟩
  · exact ⟨shapes, by simp [commentSlices, hk, hlen], by simp [commentSlices, hk, ho]⟩

/-- Below style edition 2024 the comment pieces are the comment slices, each as `rewrite_comment`
returned it for some shape (or as written where it failed), exactly once and in order. -/
theorem LoopOut.comments {env : Env} (hed : env.ed2024 = false) : ∀ {items : List Slice}
    {lo : List Piece}, LoopOut env items lo →
    ∃ shapes : List Shape, shapes.length = (commentSlices items).length ∧
      commentPieces lo = List.zipWith (fun c sh => rcOr env c sh) (commentSlices items) shapes := by
  intro items lo h
  induction h with
  | nil => exact ⟨[], rfl, rfl⟩
  | cons sl rest o os hstep hrest ih =>
    refine comments_cons ?_ ih
    cases hstep with
    | comment _ hk hout => exact Or.inl ⟨hk, hout.comments hed⟩
    | vspace t hk _ _ => exact Or.inr ⟨hk, rfl⟩
    | code _ hk htags _ =>
      refine Or.inr ⟨hk, commentPieces_of_none fun q hq => ?_⟩
      rcases htags q hq with h | ⟨h, _⟩ <;> rw [h] <;> decide

/-- What the closure of `format_missing*` pushes: `last_snippet` (white space) and fixed blanks. -/
def LastOut (o : List Piece) : Prop := ∃ t bl, o = ⟨.last, t⟩ :: bl ∧ AllWs t ∧ BlankPieces bl

theorem LastOut.content {o : List Piece} (h : LastOut o) : squeeze (render o) = [] := by
  obtain ⟨t, bl, rfl, ht, hbl⟩ := h
  rw [render_cons, squeeze_append, squeeze_of_allWs ht, hbl.content]; rfl

theorem LastOut.forall {P : Piece → Prop} {o : List Piece} (h : LastOut o)
    (hl : ∀ t, AllWs t → P ⟨.last, t⟩) (hb : ∀ t, AllWs t → P ⟨.blank, t⟩) : ∀ q ∈ o, P q := by
  obtain ⟨t, bl, rfl, ht, hbl⟩ := h
  exact List.forall_mem_cons.mpr ⟨hl t ht, hbl.forall hb⟩

theorem LastOut.noVspace {o : List Piece} (h : LastOut o) : ∀ q ∈ o, q.tag ≠ .vspace :=
  h.forall (fun _ _ => nofun) (fun _ _ => nofun)

theorem LastOut.noComment {o : List Piece} (h : LastOut o) : commentPieces o = [] :=
  commentPieces_of_none (h.forall (fun _ _ => nofun) (fun _ _ => nofun))

/-- `process_last_snippet(this, last_snippet, snippet)` for a `last_snippet` of white space. -/
theorem processLast_spec (env : Env) (hind : IndentOk env.config) (k : Last) (v : Vis)
    (lastSnippet snippet : List Char) (hws : AllWs lastSnippet) :
    ∃ o, processLast env k v lastSnippet snippet = some (pushAll v o) ∧ LastOut o := by
  cases k with
  | plain => exact ⟨[⟨.last, lastSnippet⟩], rfl, lastSnippet, [], rfl, hws, .nil⟩
  | indent si =>
    unfold processLast
    simp only [allWs_trimEnd hws]
    by_cases hc : lastSnippet = snippet ∧ (!(v.push .last []).buffer.isEmpty) = true
    · rw [if_pos hc]
      cases si with
      | false => exact ⟨[⟨.last, []⟩, ⟨.blank, ['\n']⟩], rfl, [], _, rfl, allWs_nil, .nl⟩
      | true =>
        obtain ⟨ind, h1, h2⟩ := indentStr_ok env hind ((v.push .last []).push .blank ['\n']).blockIndent
        simp only [if_true, h1]
        exact ⟨[⟨.last, []⟩, ⟨.blank, ['\n']⟩, ⟨.blank, ind⟩], rfl, [], _, rfl, allWs_nil,
          .append .nl (.single h2)⟩
    · rw [if_neg hc]
      cases si with
      | false => exact ⟨[⟨.last, []⟩], rfl, [], [], rfl, allWs_nil, .nil⟩
      | true =>
        obtain ⟨ind, h1, h2⟩ := indentStr_ok env hind (v.push .last []).blockIndent
        simp only [if_true, h1]
        exact ⟨[⟨.last, []⟩, ⟨.blank, ind⟩], rfl, [], _, rfl, allWs_nil, .single h2⟩

/-- What one call of `format_missing*` pushes for the snippet. -/
inductive WholeOut (env : Env) (snippet : List Char) : List Piece → Prop
  /-- nothing: an empty span at the start of the output, or a blank snippet at the start of the file -/
  | nothing : AllWs snippet → WholeOut env snippet []
  /-- an empty span: the closure on `("", "")` -/
  | empty (last : List Piece) : snippet = [] → LastOut last → WholeOut env snippet last
  /-- a blank snippet: vertical spaces, then the closure -/
  | blank (t : List Char) (last : List Piece) : AllWs snippet → (∃ k, t = List.replicate k '\n') →
      LastOut last → WholeOut env snippet (⟨.vspace, t⟩ :: last)
  /-- `write_snippet`: the slices one by one, then the closure -/
  | written (items : List Slice) (lo last : List Piece) : commentCodeSlices? snippet = some items →
      LoopOut env items lo → LastOut last → WholeOut env snippet (lo ++ last)
  /-- the `;` of `format_missing` -/
  | semi : trim snippet = [';'] → WholeOut env snippet [⟨.code, [';']⟩]

/-- Elimination rule for the pieces one call pushes: code pieces occur only if the snippet is `;` or one
of its `Normal` slices is not blank. -/
theorem WholeOut.forall {P : Piece → Prop} {env : Env} {snippet : List Char} {o : List Piece}
    (h : WholeOut env snippet o) (hc : ∀ t, P ⟨.comment, t⟩) (hb : ∀ t, AllWs t → P ⟨.blank, t⟩)
    (hv : ∀ t, AllWs t → P ⟨.vspace, t⟩) (hl : ∀ t, AllWs t → P ⟨.last, t⟩)
    (hcode : (trim snippet = [';'] ∨ ∃ items s, commentCodeSlices? snippet = some items ∧ s ∈ items ∧
      s.kind = .normal ∧ ¬AllWs s.text) → ∀ t, P ⟨.code, t⟩) : ∀ q ∈ o, P q := by
  cases h with
  | nothing _ => exact List.forall_mem_nil _
  | empty last _ hlast => exact hlast.forall hl hb
  | blank t last _ ht hlast =>
    obtain ⟨k, rfl⟩ := ht
    exact List.forall_mem_cons.mpr ⟨hv _ (allWs_replicate _ _ isWs_nl), hlast.forall hl hb⟩
  | written items lo last hitems hlo hlast =>
    exact List.forall_mem_append.mpr ⟨hlo.forall hc hb hv
      fun ⟨s, hs, h⟩ => hcode (Or.inr ⟨items, s, hitems, hs, h⟩), hlast.forall hl hb⟩
  | semi hs => exact List.forall_mem_singleton.mpr (hcode (Or.inl hs) _)

structure Result (env : Env) (v : Vis) (end_ : Nat) (snippet : List Char) (v' : Vis)
    (o : List Piece) : Prop where
  buffer : v'.buffer = v.buffer ++ render o
  log : v'.log = v.log ++ o
  indent : v'.blockIndent = v.blockIndent
  pos : v'.lastPos = end_
  line : v'.lineNumber = v.lineNumber + RF.Newline.countNewlines (render o)
  content : RcContent env.rc → squeeze (render o) = squeeze snippet
  vs : VspaceOk env v.buffer o
  shape : WholeOut env snippet o

theorem result_of_wrote {env : Env} {v v1 v' : Vis} {end_ : Nat} {snippet : List Char} {o : List Piece}
    (hv1 : v1 = { v with lastPos := end_ }) (hw : Wrote v1 v' o)
    (hc : RcContent env.rc → squeeze (render o) = squeeze snippet) (hvs : VspaceOk env v.buffer o)
    (hsh : WholeOut env snippet o) : Result env v end_ snippet v' o := by
  subst hv1
  exact ⟨hw.buffer, hw.log, hw.indent, hw.pos, hw.line, hc, hvs, hsh⟩

theorem writeSnippet_spec (env : Env) (hind : IndentOk env.config) (k : Last)
    (pre snippet post : List Char) (hbig : env.big = pre ++ snippet ++ post) (v : Vis) :
    ∃ v' o, writeSnippet env k (utf8Len pre) snippet v = some v' ∧ Wrote v v' o ∧
      (RcContent env.rc → squeeze (render o) = squeeze snippet) ∧ VspaceOk env v.buffer o ∧
      ∃ items lo last, commentCodeSlices? snippet = some items ∧ LoopOut env items lo ∧ LastOut last ∧
        o = lo ++ last := by
  obtain ⟨items, hitems, hcat, halt, hcont⟩ := slices_spec snippet
  have hinv0 : Inv env v .normal [] ⟨0, none, lineOfBytePos env.big (utf8Len pre)⟩ v [] :=
    ⟨.refl v, ⟨[], [], rfl, allWs_nil, rfl⟩, fun _ => rfl, fun _ => rfl, .nil env _⟩
  obtain ⟨st', v1, lo, k', hrun, hinv, hlo⟩ :=
    wsiLoop_spec env hind pre snippet post hbig v items [] .normal _ v [] hcat.symm halt hcont hinv0
  rw [List.nil_append] at hinv
  obtain ⟨p, q, hsplit, hq, hls⟩ := hinv.split
  have hdrop : dropBytes? st'.line_start snippet = some q := dropBytes_of_split snippet p q _ hsplit hls
  obtain ⟨last, hlast, hlastOut⟩ := processLast_spec env hind k v1 q snippet hq
  refine ⟨pushAll v1 last, lo ++ last, ?_, hinv.wrote.pushAll last, fun hrc => ?_,
    hinv.vs.append (.of_noVspace hlastOut.noVspace), items, lo, last, hitems, hlo, hlastOut, rfl⟩
  · rw [writeSnippet, hitems]
    simp only [hrun, hdrop]
    exact hlast
  · rw [render_append, squeeze_append, hinv.content hrc, hlastOut.content, List.append_nil]

theorem formatMissingInner_spec (env : Env) (hind : IndentOk env.config) (k : Last)
    (pre snippet post : List Char) (hbig : env.big = pre ++ snippet ++ post) (v : Vis)
    (hpos : v.lastPos = utf8Len pre) (end_ : Nat) (hend : end_ = utf8Len pre + utf8Len snippet) :
    ∃ v' o, formatMissingInner env k end_ v = some v' ∧ Result env v end_ snippet v' o := by
  unfold formatMissingInner
  simp only
  by_cases hempty : snippet = []
  · -- start == end
    subst hempty
    have he : v.lastPos = end_ := by rw [hpos, hend]; rfl
    have hv : v = { v with lastPos := end_ } := by rw [← he]
    rw [if_pos he]
    split
    · obtain ⟨o, ho, hlo⟩ := processLast_spec env hind k v [] [] allWs_nil
      exact ⟨_, o, ho, result_of_wrote hv (wrote_pushAll v o) (fun _ => hlo.content)
        (.of_noVspace hlo.noVspace) (.empty o rfl hlo)⟩
    · exact ⟨v, [], rfl, result_of_wrote hv (.refl v) (fun _ => rfl) (.nil env _) (.nothing allWs_nil)⟩
  · have hlen : 0 < utf8Len snippet :=
      Nat.pos_of_ne_zero fun h => hempty (utf8Len_eq_zero snippet h)
    have hsl : sliceBytes? env.big v.lastPos end_ = some snippet :=
      sliceBytes_of_split env.big pre snippet post _ _ hbig hpos hend
    rw [if_neg (by omega), if_neg (by omega), hsl]
    simp only
    by_cases hfirst : env.base + v.lastPos = 0 ∧ (trim snippet).isEmpty = true
    · have hws : AllWs snippet := (trim_isEmpty_iff snippet).mp hfirst.2
      exact ⟨_, [], if_pos hfirst, result_of_wrote rfl (.refl _) (fun _ => (squeeze_of_allWs hws).symm)
        (.nil env _) (.nothing hws)⟩
    rw [if_neg hfirst]
    by_cases hblank : (trim snippet).isEmpty = true
    · rw [if_pos hblank]
      have hws : AllWs snippet := (trim_isEmpty_iff snippet).mp hblank
      obtain ⟨o, ho, hlo⟩ := processLast_spec env hind k
        (({ v with lastPos := end_ } : Vis).pushVerticalSpaces env (RF.Newline.countNewlines snippet))
        [] snippet allWs_nil
      refine ⟨_, _, ho, result_of_wrote rfl (((Wrote.refl _).pushVerticalSpaces env _).pushAll o)
        (fun _ => ?_) ((VspaceOk.single env v.buffer _).append (.of_noVspace hlo.noVspace))
        (.blank _ o hws ⟨_, rfl⟩ hlo)⟩
      rw [render_append, squeeze_append, hlo.content, squeeze_of_allWs hws, List.append_nil,
        List.nil_append, render_single]
      exact squeeze_of_allWs (allWs_replicate _ _ isWs_nl)
    · obtain ⟨v', o, hrun, hw, hc, hvs, items, lo, last, hitems, hlo, hlast, rfl⟩ :=
        writeSnippet_spec env hind k pre snippet post hbig { v with lastPos := end_ }
      rw [if_neg hblank, hpos]
      exact ⟨v', _, hrun, result_of_wrote rfl hw hc hvs (.written items lo last hitems hlo hlast)⟩

theorem formatMissing_spec (env : Env) (hind : IndentOk env.config)
    (pre snippet post : List Char) (hbig : env.big = pre ++ snippet ++ post) (v : Vis)
    (hpos : v.lastPos = utf8Len pre) (end_ : Nat) (hend : end_ = utf8Len pre + utf8Len snippet) :
    ∃ v' o, formatMissing env end_ v = some v' ∧ Result env v end_ snippet v' o := by
  unfold formatMissing
  have hle : v.lastPos ≤ end_ := by omega
  have hsl : sliceBytes? env.big (min v.lastPos end_) (max v.lastPos end_) = some snippet := by
    rw [Nat.min_eq_left hle, Nat.max_eq_right hle]
    exact sliceBytes_of_split env.big pre snippet post _ _ hbig hpos hend
  simp only [hsl]
  by_cases hsemi : trim snippet = [';']
  · exact ⟨_, [⟨.code, [';']⟩], if_pos hsemi, result_of_wrote rfl ((Wrote.refl _).push .code [';'])
      (fun _ => by rw [← squeeze_trim snippet, hsemi]; rfl)
      (.of_noVspace (List.forall_mem_singleton.mpr nofun)) (.semi hsemi)⟩
  · rw [if_neg hsemi]
    exact formatMissingInner_spec env hind .plain pre snippet post hbig v hpos end_ hend

/-- Every `Normal` slice is white space. -/
def BlankSlices (items : List Slice) : Prop := ∀ s ∈ items, s.kind = .comment ∨ AllWs s.text

theorem isBlankGap_iff (snippet : List Char) :
    isBlankGap snippet = true ↔ ∃ items, commentCodeSlices? snippet = some items ∧ BlankSlices items := by
  unfold isBlankGap BlankSlices
  cases commentCodeSlices? snippet with
  | none => simp
  | some items => simp [AllWs]

theorem blankSlices_squeeze : ∀ (items : List Slice), BlankSlices items →
    squeeze (items.flatMap (·.text)) = ((commentSlices items).map squeeze).flatten
  | [], _ => rfl
  | s :: rest, h => by
    obtain ⟨hs, hrest⟩ := List.forall_mem_cons.mp h
    rw [List.flatMap_cons, squeeze_append, blankSlices_squeeze rest hrest]
    cases hk : s.kind with
    | comment => simp [commentSlices, hk]
    | normal => rw [squeeze_of_allWs (hs.resolve_left (by rw [hk]; nofun))]; simp [commentSlices, hk]

theorem startsWith_append : ∀ (x r : List Char), startsWith (x ++ r) x = true
  | [], r => by cases r <;> rfl
  | c :: cs, r => by simp [startsWith, startsWith_append cs r]

theorem dropThrough_prefix (x r : List Char) : dropThrough x (x ++ r) = some r := by
  cases h : x ++ r with
  | nil =>
    obtain ⟨rfl, rfl⟩ := List.append_eq_nil_iff.mp h
    rfl
  | cons c cs =>
    rw [dropThrough, ← h, startsWith_append]
    simp

theorem occursInOrder_flatten : ∀ (xs : List (List Char)) (r : List Char),
    occursInOrder xs (xs.flatten ++ r) = true
  | [], _ => rfl
  | x :: xs, r => by
    simp only [List.flatten_cons, List.append_assoc, occursInOrder, dropThrough_prefix]
    exact occursInOrder_flatten xs r

/-- Every complete line of `cur ++ rest` ends in at most one blank. -/
def oneTrail : List Char → List Char → Bool
  | _, [] => true
  | cur, c :: rest =>
    if c = '\n' then decide (trailWs cur ≤ 1) && oneTrail [] rest else oneTrail (cur ++ [c]) rest

/-- The complete lines of `cur ++ rest`, each without its trailing white space. -/
def stripLines : List Char → List Char → List Char
  | _, [] => []
  | cur, c :: rest =>
    if c = '\n' then trimEnd cur ++ ['\n'] ++ stripLines [] rest else stripLines (cur ++ [c]) rest

theorem pmcLines_stripped (cur rest : List Char) (h : oneTrail cur rest = true) :
    pmcLines cur rest = stripLines cur rest := by
  fun_induction pmcLines cur rest with
  | case1 => rfl
  | case2 cur rest ih =>
    rw [oneTrail, if_pos rfl, Bool.and_eq_true, decide_eq_true_eq] at h
    rw [stripLines, if_pos rfl, keepLine_eq_trimEnd cur h.1, ih h.2]
  | case3 cur c rest hc ih =>
    rw [oneTrail, if_neg hc] at h
    rw [stripLines, if_neg hc, ih h]

theorem cbUnindent_spec (env : Env) (un al : Bool) (cs : CbState) (v0 v : Vis) (out : List Piece)
    (h : Pushed v0 v out) :
    ∃ u v1, cbUnindent env un al cs v = some (u, v1) ∧ Pushed v0 v1 out := by
  unfold cbUnindent
  split
  · obtain ⟨j, hj⟩ := blockUnindent_ok env v.blockIndent
    rw [hj]
    exact ⟨true, _, rfl, h.setIndent j⟩
  · exact ⟨_, v, rfl, h⟩

theorem cbOldHead_spec (env : Env) (hind : IndentOk env.config) (between : List Char)
    (sameLine extraNl : Bool) (shape0 : Shape) (v : Vis) :
    ∃ pre sh, cbOldHead env between sameLine extraNl shape0 v = some (pushAll v pre, sh) ∧
      BlankPieces pre := by
  fun_cases cbOldHead env between sameLine extraNl shape0 v
  case case1 sh _ => exact ⟨[⟨.blank, [' ']⟩], sh, rfl, .space⟩
  case case2 _ sh _ _ v1 =>
    obtain ⟨nl, h1, h2⟩ := indentNl_ok env hind v1.blockIndent
    rw [h1]
    by_cases hb : (decide (RF.Newline.countNewlines between ≥ 2) || extraNl) = true
    · exact ⟨[⟨.blank, ['\n']⟩, ⟨.blank, nl⟩], sh, by simp only [v1, if_pos hb]; rfl,
        .append .nl (.single h2)⟩
    · exact ⟨[⟨.blank, nl⟩], sh, by simp only [v1, if_neg hb]; rfl, .single h2⟩

/-- The `Comment` arm of `close_block`'s loop on the comment slice `sub` that follows `done`; `last_hi`
is the end of a prefix of `done`. -/
theorem cbComment_spec (env : Env) (hind : IndentOk env.config) (snippet done sub tail : List Char)
    (hs : snippet = done ++ sub ++ tail) (un al : Bool) (cs : CbState) (v0 v : Vis) (out : List Piece)
    (hhi : ∃ a b, done = a ++ b ∧ cs.lastHi = utf8Len a) (hp : Pushed v0 v out) :
    ∃ cs' v' o, cbComment env snippet un al (utf8Len done) sub cs v = some (cs', v') ∧
      Pushed v0 v' (out ++ o) ∧ cs'.lastHi = utf8Len (done ++ sub) ∧ CommentOut env sub o := by
  obtain ⟨u, v1, hun, hp1⟩ := cbUnindent_spec env un al cs v0 v out hp
  obtain ⟨a, b, rfl, hlast⟩ := hhi
  have hsl : sliceBytes? snippet cs.lastHi (utf8Len (a ++ b)) = some b :=
    sliceBytes_of_split snippet a b (sub ++ tail) _ _ (by rw [hs]; simp) hlast (utf8Len_append a b)
  have he : utf8Len (a ++ b) + utf8Len sub = utf8Len (a ++ b ++ sub) := (utf8Len_append _ sub).symm
  unfold cbComment
  simp only [hun, hsl]
  by_cases h24 : (env.ed2024 && !(b.contains '\n')) = true
  · rw [if_pos h24]
    obtain ⟨mid, hmid, hcm⟩ := commentLines_spec env hind sub (v1.push .blank [' ']) v1.blockIndent
      ((Shape.indented v1.blockIndent env.config).comment env.config) true
      (fun _ => (Bool.and_eq_true_iff.mp h24).1)
    rw [hmid]
    exact ⟨_, _, _, rfl, hp1.pushAll (⟨.blank, [' ']⟩ :: mid), he,
      [⟨.blank, [' ']⟩], mid, [], by simp, .space, hcm, .nil⟩
  · rw [if_neg h24]
    obtain ⟨pre, sh, hhead, hpre⟩ := cbOldHead_spec env hind b (!(b.contains '\n')) cs.extraNl
      ((Shape.indented v1.blockIndent env.config).comment env.config) v1
    obtain ⟨mid, hmid, hcm⟩ := commentLines_spec env hind sub (pushAll v1 pre)
      (pushAll v1 pre).blockIndent sh false nofun
    simp only [hhead, hmid]
    refine ⟨_, _, pre ++ mid, rfl, ?_, he, pre, mid, [], (List.append_nil _).symm, hpre, hcm, .nil⟩
    rw [← pushAll_append]; exact hp1.pushAll _

/-- The non-blank characters `close_block` owes for one slice. -/
def sliceContent (s : Slice) : List Char :=
  if s.kind == .comment then squeeze s.text else if skipNormal s.text then [] else squeeze s.text

theorem closeContent_eq {snippet : List Char} {items : List Slice}
    (h : commentCodeSlices? snippet = some items) :
    closeContent snippet = (items.map sliceContent).flatten ++ ['}'] := by
  rw [closeContent, h]; rfl

/-- What one turn of `close_block`'s loop pushes. -/
inductive CbStepOut (env : Env) (sl : Slice) : List Piece → Prop
  | comment (o : List Piece) : sl.kind = .comment → CommentOut env sl.text o → CbStepOut env sl o
  | skipped : sl.kind = .normal → CbStepOut env sl []
  | code (nl : List Char) : sl.kind = .normal → AllWs nl →
      CbStepOut env sl [⟨.blank, nl⟩, ⟨.code, trim sl.text⟩]

inductive CbOut (env : Env) : List Slice → List Piece → Prop
  | nil : CbOut env [] []
  | cons (sl : Slice) (rest : List Slice) (o os : List Piece) : CbStepOut env sl o → CbOut env rest os →
      CbOut env (sl :: rest) (o ++ os)

theorem cbStep_spec (env : Env) (hind : IndentOk env.config) (snippet done tail : List Char)
    (sl : Slice) (hs : snippet = done ++ sl.text ++ tail) (hstart : sl.start = utf8Len done)
    (un al : Bool) (cs : CbState) (v0 v : Vis) (out : List Piece)
    (hhi : ∃ a b, done = a ++ b ∧ cs.lastHi = utf8Len a) (hp : Pushed v0 v out) :
    ∃ cs' v' o, cbStep env snippet un al sl cs v = some (cs', v') ∧ Pushed v0 v' (out ++ o) ∧
      (∃ a b, done ++ sl.text = a ++ b ∧ cs'.lastHi = utf8Len a) ∧ CbStepOut env sl o ∧
      (RcContent env.rc → squeeze (render o) = sliceContent sl) := by
  have hend : ∀ n, n = utf8Len (done ++ sl.text) → ∃ a b, done ++ sl.text = a ++ b ∧ n = utf8Len a :=
    fun n hn => ⟨_, [], (List.append_nil _).symm, hn⟩
  unfold cbStep
  cases hk : sl.kind with
  | comment =>
    obtain ⟨cs', v', o, hrun, hp', hhi', hout⟩ :=
      cbComment_spec env hind snippet done sl.text tail hs un al cs v0 v out hhi hp
    rw [if_pos rfl, hstart]
    exact ⟨cs', v', o, hrun, hp', hend _ hhi', .comment o hk hout,
      fun hrc => by rw [hout.content hrc, sliceContent, hk]; rfl⟩
  | normal =>
    rw [if_neg nofun]
    have hsc : sliceContent sl = if skipNormal sl.text then [] else squeeze sl.text := by
      rw [sliceContent, hk]; rfl
    by_cases hskip : skipNormal sl.text = true
    · obtain ⟨a, b, rfl, hl⟩ := hhi
      exact ⟨_, v, [], if_pos hskip, by rwa [List.append_nil], ⟨a, b ++ sl.text, List.append_assoc .., hl⟩,
        .skipped hk, fun _ => by rw [hsc, if_pos hskip]; rfl⟩
    · obtain ⟨nl, h1, h2⟩ := indentNl_ok env hind v.blockIndent
      rw [if_neg hskip, h1]
      exact ⟨_, _, [⟨.blank, nl⟩, ⟨.code, trim sl.text⟩], rfl, hp.pushAll [⟨.blank, nl⟩, ⟨.code, trim sl.text⟩],
        hend _ (by rw [hstart, utf8Len_append]), .code nl hk h2, fun _ => by
          rw [hsc, if_neg hskip, render_cons, render_single, squeeze_append, squeeze_of_allWs h2,
            squeeze_trim, List.nil_append]⟩

theorem cbLoop_spec (env : Env) (hind : IndentOk env.config) (snippet : List Char) (un al : Bool)
    (v0 : Vis) (items : List Slice) (done : List Char) (cs : CbState) (v : Vis) (out : List Piece)
    (hs : snippet = done ++ items.flatMap (·.text)) (hcont : Contiguous (utf8Len done) items)
    (hhi : ∃ a b, done = a ++ b ∧ cs.lastHi = utf8Len a) (hp : Pushed v0 v out) :
    ∃ cs' v' o, cbLoop env snippet un al items cs v = some (cs', v') ∧ Pushed v0 v' (out ++ o) ∧
      CbOut env items o ∧
      (RcContent env.rc → squeeze (render o) = (items.map sliceContent).flatten) := by
  induction items generalizing done cs v out with
  | nil => exact ⟨cs, v, [], rfl, by rwa [List.append_nil], .nil, fun _ => rfl⟩
  | cons sl rest ih =>
    rw [List.flatMap_cons, ← List.append_assoc] at hs
    obtain ⟨cs1, v1, o1, hrun, hp1, hhi1, hout1, hc1⟩ :=
      cbStep_spec env hind snippet done _ sl hs hcont.1 un al cs v0 v out hhi hp
    obtain ⟨cs', v', o, hrun', hp', hout', hc'⟩ :=
      ih (done ++ sl.text) cs1 v1 (out ++ o1) hs (by rw [utf8Len_append]; exact hcont.2) hhi1 hp1
    refine ⟨cs', v', o1 ++ o, ?_, by rwa [← List.append_assoc], .cons sl rest o1 o hout1 hout',
      fun hrc => ?_⟩
    · simp only [cbLoop, hrun]; exact hrun'
    · rw [render_append, squeeze_append, hc1 hrc, hc' hrc]; rfl

/-- Below style edition 2024 the comment pieces of `close_block`'s loop are the comment slices, each as
`rewrite_comment` returned it, once and in order. -/
theorem CbOut.comments {env : Env} (hed : env.ed2024 = false) : ∀ {items : List Slice}
    {lo : List Piece}, CbOut env items lo →
    ∃ shapes : List Shape, shapes.length = (commentSlices items).length ∧
      commentPieces lo = List.zipWith (fun c sh => rcOr env c sh) (commentSlices items) shapes := by
  intro items lo h
  induction h with
  | nil => exact ⟨[], rfl, rfl⟩
  | cons sl rest o os hstep hrest ih =>
    refine comments_cons ?_ ih
    cases hstep with
    | comment _ hk hout => exact Or.inl ⟨hk, hout.comments hed⟩
    | skipped hk => exact Or.inr ⟨hk, rfl⟩
    | code nl hk _ => exact Or.inr ⟨hk, rfl⟩

/-- `close_block` on a valid span: no panic; it pushes what its loop pushes for the slices of the
snippet, then a line break with the block's indentation and the brace. -/
theorem closeBlock_spec (env : Env) (hind : IndentOk env.config) (pre snippet post : List Char)
    (hbig : env.big = pre ++ snippet ++ post) (un : Bool) (v : Vis) :
    ∃ v' items o nl, closeBlock env (utf8Len pre) (utf8Len pre + utf8Len snippet) un v = some v' ∧
      commentCodeSlices? snippet = some items ∧ AllWs nl ∧
      Pushed v v' (o ++ [⟨.blank, nl⟩, ⟨.code, ['}']⟩]) ∧ CbOut env items o ∧
      (RcContent env.rc → squeeze (render o) = (items.map sliceContent).flatten) := by
  unfold closeBlock
  have hle : utf8Len pre ≤ utf8Len pre + utf8Len snippet := by omega
  have hsl : sliceBytes? env.big (min (utf8Len pre) (utf8Len pre + utf8Len snippet))
      (max (utf8Len pre) (utf8Len pre + utf8Len snippet)) = some snippet := by
    rw [Nat.min_eq_left hle, Nat.max_eq_right hle]
    exact sliceBytes_mid pre snippet post ▸ congrArg (sliceBytes? · _ _) hbig
  obtain ⟨items, hitems, hcat, _, hcont⟩ := slices_spec snippet
  simp only [hsl, hitems]
  generalize (if (un && containsComment snippet) = true then
      decide (lastLineWidth env (List.takeWhile (fun x => x != '/') snippet) > lastLineWidth env snippet)
    else false) = al
  obtain ⟨cs, v1, o, hrun, hp1, hout, hc⟩ :=
    cbLoop_spec env hind snippet un al v items [] ⟨0, false, false, false⟩ v [] hcat.symm hcont
      ⟨[], [], rfl, rfl⟩ ⟨(List.append_nil _).symm, (List.append_nil _).symm⟩
  obtain ⟨j, hj⟩ := blockUnindent_ok env
    (if cs.unindented = true then v1.blockIndent.blockIndent env.config else v1.blockIndent)
  obtain ⟨nl, h1, h2⟩ := indentNl_ok env hind j
  simp only [hrun, hj, h1]
  exact ⟨_, items, o, nl, rfl, rfl, h2, (hp1.setIndent j).pushAll [⟨.blank, nl⟩, ⟨.code, ['}']⟩], hout,
    hc⟩
end RF.Lemmas.Missed

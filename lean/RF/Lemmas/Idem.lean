import RF.Model.Idem
import RF.Lemmas.Sort
import RF.Lemmas.Imports
import RF.Lemmas.Newline
import RF.Lemmas.Skip
/-!
Lemmas for C02: idempotence of the modelled stages (the stable sort, `UseTree::normalize`, `flatten` and
`nest_trailing_self`, the de-duplication of `flatten_use_trees`, `group_imports`, the whole `use` arm
run on what it wrote, newline style, `trim`); what the second run reads back of a tree without nested
empty paths (`reparse*_ne`); and the `DecidableEq` instances the concrete checks of C02 evaluate.  The
one-step description of `normalize` (`stepLast`, `normPath_snoc`) and the induction over the pieces of
`flatten` (`flatten_forall_all`) are in `RF.Lemmas.Imports`.  Core only.
-/
namespace RF.Lemmas.Idem
open RF.Sort RF.Imports RF.Lemmas.Sort RF.Lemmas.Imports RF.Idem

/-- Sorting an ascending list changes nothing (no hypothesis on `cmp`). -/
theorem stableSort_of_sorted {α} (cmp : α → α → Ordering) :
    ∀ (l : List α), Sorted cmp l → stableSort cmp l = l
  | [], _ => rfl
  | x :: xs, h => by
    rw [Sorted, List.pairwise_cons] at h
    rw [stableSort, stableSort_of_sorted cmp xs h.2]
    cases xs with
    | nil => rfl
    | cons y ys => rw [insertSorted, if_neg (h.1 y List.mem_cons_self)]

theorem stableSort_idem {α} {cmp : α → α → Ordering} (tp : TotalPreorder cmp) (l : List α) :
    stableSort cmp (stableSort cmp l) = stableSort cmp l :=
  stableSort_of_sorted cmp _ (stableSort_sorted tp l)

section Newline
open RF.Newline RF.Lemmas.Newline

/-- A text in which every `\n` follows a `\r` is detected as Windows, or has no `\n` at all. -/
theorem autoDetect_of_everyLfAfterCr (t : List Char) (h : everyLfAfterCr none t = true) :
    autoDetect t = .windows ∨ '\n' ∉ t := by
  by_cases hm : '\n' ∈ t
  · obtain ⟨pre, suf, rfl, hpre⟩ := List.eq_append_cons_of_mem hm
    have := (everyLfAfterCr_iff _ none).1 h pre suf rfl
    rw [prevOf_none] at this
    rw [autoDetect_first pre suf hpre, if_pos this]
    exact Or.inl rfl
  · exact Or.inr hm

/-- A text without `\r\n` is detected as Unix. -/
theorem autoDetect_of_noCrLf (t : List Char) (h : hasCrLf t = false) : autoDetect t = .unix := by
  by_cases hm : '\n' ∈ t
  · obtain ⟨pre, suf, rfl, hpre⟩ := List.eq_append_cons_of_mem hm
    rw [autoDetect_first pre suf hpre, if_neg]
    intro hl
    have : hasCrLf (pre ++ '\n' :: suf) = true :=
      (hasCrLf_iff _).2 ⟨pre.dropLast, suf, by rw [eq_dropLast_append hl]; simp⟩
    rw [h] at this; cases this
  · exact autoDetect_no_lf t hm

theorem noLf_noCrLf (t : List Char) (h : '\n' ∉ t) : hasCrLf t = false := by
  cases hc : hasCrLf t with
  | false => rfl
  | true =>
    obtain ⟨pre, suf, rfl⟩ := (hasCrLf_iff t).1 hc
    exact absurd (by simp) h

theorem windows_fix_self (t : List Char) :
    convertToWindows (convertToWindows t) = convertToWindows t := windows_idempotent t

/-- `apply_newline_style` applied to its own output, the output being also the raw input of the
second run: nothing changes, provided the text given to the Unix converter has no `\r\r\n`. -/
theorem applyNewlineStyle_idem (style : Style) (f raw : List Char)
    (h : effective style raw = .unix → hasCrCrLf f = false) :
    applyNewlineStyle style (applyNewlineStyle style f raw) (applyNewlineStyle style f raw) =
      applyNewlineStyle style f raw := by
  cases he : effective style raw with
  | windows =>
    rw [show applyNewlineStyle style f raw = convertToWindows f by rw [applyNewlineStyle, he],
      applyNewlineStyle]
    cases he2 : effective style (convertToWindows f) with
    | windows => exact windows_idempotent f
    | unix =>
      -- only `Auto` changes its mind, on a text without `\n`, which the Unix converter leaves alone
      refine unix_fix _ (noLf_noCrLf _ ?_)
      cases style with
      | auto =>
        refine (autoDetect_of_everyLfAfterCr _ (everyLfAfterCr_windows f none)).resolve_left ?_
        rw [effective] at he2
        rw [he2]; nofun
      | windows => cases he2
      | native => cases he
      | unix => cases he
  | unix =>
    have hno : hasCrLf (convertToUnix f) = false := (hasCrLf_unix f).trans (h he)
    rw [show applyNewlineStyle style f raw = convertToUnix f by rw [applyNewlineStyle, he],
      applyNewlineStyle]
    cases he2 : effective style (convertToUnix f) with
    | unix => exact unix_fix _ hno
    | windows =>
      cases style with
      | auto => rw [effective, autoDetect_of_noCrLf _ hno] at he2; cases he2
      | windows => cases he
      | native => cases he2
      | unix => cases he2

end Newline

theorem dropWhile_head_not {α} (p : α → Bool) (l : List α) (c : α)
    (h : (l.dropWhile p).head? = some c) : p c = false := by
  have := List.head?_dropWhile_not p l
  rwa [h] at this

/-- `str::trim` for any set `p` of characters to strip: drop a `p`-prefix and a `p`-suffix.  The result
neither starts nor ends in `p`, so trimming it again drops nothing. -/
theorem trimGen_idem (p : Char → Bool) (s : List Char) :
    let t := ((s.dropWhile p).reverse.dropWhile p).reverse
    ((t.dropWhile p).reverse.dropWhile p).reverse = t := by
  intro t
  have hu : s.dropWhile p = t ++ ((s.dropWhile p).reverse.takeWhile p).reverse := by
    rw [← List.reverse_append, List.takeWhile_append_dropWhile, List.reverse_reverse]
  have hhead : ∀ c, t.head? = some c → p c = false := fun c hc =>
    dropWhile_head_not p s c (by rw [hu, List.head?_append, hc]; rfl)
  have hlast : ∀ c, t.reverse.head? = some c → p c = false := fun c hc =>
    dropWhile_head_not p _ c (by rwa [List.reverse_reverse] at hc)
  rw [RF.Skip.dropWhile_eq_self_of_head hhead, RF.Skip.dropWhile_eq_self_of_head hlast,
    List.reverse_reverse]

theorem trim_idem (s : List Char) : RF.Skip.trim (RF.Skip.trim s) = RF.Skip.trim s :=
  trimGen_idem RF.Skip.isWhitespace s

theorem exists_snoc_of_ne {α} {l : List α} (h : l ≠ []) : ∃ init x, l = init ++ [x] :=
  ⟨l.dropLast, l.getLast h, (List.dropLast_concat_getLast h).symm⟩

/-- The result of a finished step is again finished by the step, as itself, unless it is empty or the
bare `self` that the next call deletes. -/
theorem stepLast_done_fixed {a v r : Bool} {rest q : List Seg} {last : Seg}
    (h : stepLast a v rest last = .done q) (hin : innerAll r rest = true) (hne : q ≠ [])
    (hbare : ¬(a = false ∧ v = true ∧ q = [.slf none])) :
    ∃ rest' last', q = rest' ++ [last'] ∧ stepLast a v rest' last' = .done q := by
  rcases stepLast_done h with ⟨rfl, -⟩ | ⟨rfl, -⟩ | ⟨-, rfl, hr⟩ | ⟨init, n, rn, rfl, -, rfl⟩
  · exact ⟨rest, last, rfl, h⟩
  · exact absurd rfl hne
  · -- the final `self` went: the segment before it is a name, or the `self` that may head a path
    obtain ⟨init, x, rfl⟩ := exists_snoc_of_ne hr
    refine ⟨init, x, rfl, ?_⟩
    rw [innerAll_append, Bool.and_eq_true, innerAll, innerAll, Bool.and_true] at hin
    rcases innerOK_cases hin.2 with ⟨n, rfl⟩ | rfl | rfl | ⟨rfl, hroot⟩
    · rfl
    · rfl
    · rfl
    · obtain rfl : init = [] := List.isEmpty_iff.1 (Bool.and_eq_true_iff.1 hroot).2
      cases a <;> cases v <;> first | rfl | exact absurd ⟨rfl, rfl, rfl⟩ hbare
  · exact ⟨init, _, rfl, rfl⟩

theorem mapE_fixed {α ε} (f : α → Except ε α) : ∀ (l : List α), (∀ a ∈ l, f a = .ok a) → mapE f l = .ok l
  | [], _ => rfl
  | a :: l, h => by
    rw [mapE, h a List.mem_cons_self, mapE_fixed f l (fun a' ha' => h a' (List.mem_cons_of_mem a ha'))]

theorem soleSplice_none_iff (l : List Tree) :
    soleSplice l = none ↔ l.length ≠ 1 ∨ ∃ t, l = [t] ∧ displaysSelf t = true := by
  rcases l with _ | ⟨t, _ | ⟨u, l⟩⟩
  · exact ⟨fun _ => Or.inl nofun, fun _ => rfl⟩
  · cases hd : displaysSelf t <;> simp [soleSplice, hd]
  · exact ⟨fun _ => Or.inl (by simp), fun _ => rfl⟩

/-- `normalize` leaves a nested tree that prints as `self` as it is. -/
theorem normPath_displaysSelf (cmp : Tree → Tree → Ordering) (fuel : Nat) {t : Tree}
    (hd : displaysSelf t = true) : normPath cmp (fuel + 1) false false t.path = .ok t.path := by
  unfold displaysSelf at hd
  split at hd
  · rename_i al
    exact (normPath_snoc cmp fuel false false [] (.slf al)).trans (by cases al <;> rfl)
  · exact normPath_snoc cmp fuel false false [] _
  · cases hd

/-- The result of `normalize` has no nested tree with an empty path (an element normalised to the
empty path is removed from its list): for every path as the parser builds it, `{}` included. -/
theorem normPath_ne (cmp : Tree → Tree → Ordering) (fuel : Nat) (a v : Bool) (path q : List Seg)
    (r : Bool) (h : normPath cmp fuel a v path = .ok q) (hwf : wfPath r path = true) :
    nePath q = true :=
  wfPath_nePath r q (normPath_wf cmp fuel a v path q r h hwf)

/-- `normalize` is idempotent: on every path as the parser builds it (`{}` allowed anywhere: an element
that imports nothing is removed and the tree normalised again) the result, unless it is empty or the
bare `self` that is deleted next time, is returned unchanged by a second call (with any fuel above its
size). -/
theorem normPath_idem {cmp : Tree → Tree → Ordering} (tp : TotalPreorder cmp) :
    ∀ (fuel : Nat) (a v : Bool) (path q : List Seg) (r : Bool),
      normPath cmp fuel a v path = .ok q → wfPath r path = true → q ≠ [] →
      ¬(a = false ∧ v = true ∧ q = [.slf none]) →
      ∀ fuel2, pathSize q < fuel2 → normPath cmp fuel2 a v q = .ok q := by
  intro fuel
  induction fuel with
  | zero => intro _ _ _ _ _ h; cases h
  | succ fuel ih =>
    intro a v path q r h hwf hne hbare fuel2 hf2
    obtain _ | f2 := fuel2
    · cases hf2
    rcases List.eq_nil_or_concat path with rfl | ⟨rest, last, rfl⟩
    · cases h
    rw [List.concat_eq_append] at h hwf
    rw [normPath_snoc] at h
    obtain ⟨hin, hwl⟩ := wfPath_snoc.1 hwf
    cases hs : stepLast a v rest last with
    | done q' =>
      simp only [hs, afterStep, Except.ok.injEq] at h
      subst h
      obtain ⟨rest', last', rfl, hfix⟩ := stepLast_done_fixed hs hin hne hbare
      rw [normPath_snoc, hfix, afterStep]
    | splice p =>
      simp only [hs, afterStep] at h
      obtain ⟨t, rfl, rfl, -⟩ := stepLast_splice hs
      exact ih a v _ q r h (wfPath_splice hwf).2 hne hbare _ hf2
    | sortList rest' l =>
      simp only [hs, afterStep] at h
      obtain ⟨rfl, rfl, hsole, hc⟩ := stepLast_sortList hs
      split at h
      · cases h
      rename_i l2 hl2
      split at h
      · -- an element was removed: the shorter tree was normalised again
        exact ih _ _ _ _ r h (norm_list_wf cmp fuel hwf hl2) hne hbare _ hf2
      rename_i hlt
      simp only [Except.ok.injEq] at h
      subst h
      -- nothing was removed: the list is `S`, the normalised elements sorted
      have hlen2 := mapE_length _ _ _ hl2
      have hK : l2.filter (fun t => !t.path.isEmpty) = l2 :=
        List.filter_eq_self.2 (List.length_filter_eq_length_iff.1 (Nat.le_antisymm
          (List.length_filter_le _ l2) (hlen2 ▸ Nat.le_of_not_lt hlt)))
      rw [hK] at hf2 ⊢
      obtain ⟨S, hS⟩ : ∃ S, stableSort cmp l2 = S := ⟨_, rfl⟩
      rw [hS] at hf2 ⊢
      rw [pathSize_append, pathSize, segSize, pathSize] at hf2
      have hmem : ∀ t ∈ S, t ∈ l2 := fun t ht => (mem_stableSort cmp l2 t).1 (hS ▸ ht)
      have hlen : S.length = l.length := by rw [← hS, (stableSort_perm cmp l2).length_eq, hlen2]
      have hc' : (!a && S.isEmpty) = false := by
        cases l <;> cases S <;> first | exact hc | exact Bool.and_false _ | cases hlen
      have hsole' : soleSplice S = none := by
        rcases (soleSplice_none_iff l).1 hsole with hl1 | ⟨t, rfl, hd⟩
        · exact (soleSplice_none_iff S).2 (Or.inl (hlen ▸ hl1))
        · -- `l = [t]`, `t` prints as `self`: unchanged
          cases fuel with
          | zero => cases hl2
          | succ fuel =>
            rw [mapE, normPath_displaysSelf cmp fuel hd] at hl2
            cases hl2
            cases t
            exact hS ▸ hsole
      -- every element of `S` is its own normal form
      have hfix : mapE (fun t => (normPath cmp f2 false false t.path).map Tree.mk) S = .ok S := by
        refine mapE_fixed _ _ fun t ht => ?_
        obtain ⟨t0, ht0, hf⟩ := mapE_mem _ _ _ hl2 t (hmem t ht)
        obtain ⟨qt, hqt, rfl⟩ := except_map_ok hf
        have hqne : qt ≠ [] := by simpa [RF.Imports.Tree.path] using List.filter_eq_self.1 hK _ (hmem _ ht)
        have hsz : pathSize qt < f2 := by
          have h1 := treeSize_le_of_mem ht
          rw [treeSize] at h1
          omega
        rw [RF.Imports.Tree.path, ih false false t0.path qt _ hqt (wfLast_list_mem hwl t0 ht0).2 hqne (by simp)
          f2 hsz]
        rfl
      have hkeep : S.filter (fun t => !t.path.isEmpty) = S :=
        List.filter_eq_self.2 fun t ht => List.filter_eq_self.1 hK t (hmem t ht)
      rw [normPath_snoc]
      simp only [stepLast, hc', Bool.false_eq_true, if_false, hsole', afterStep, hfix, hkeep,
        Nat.lt_irrefl]
      rw [← hS, stableSort_idem tp]

/-- The last segment is not a list, or is `{self}` / `{self as x}`: what `flatten` leaves alone. -/
def flatLast (p : List Seg) : Bool :=
  match p.getLast? with
  | some (.list l) => isSoleSelf l
  | _ => true

theorem flatLast_cons (s : Seg) (q : List Seg) (hs : isList s = false) (h : flatLast q = true) :
    flatLast (s :: q) = true := by
  cases q with
  | nil => cases s <;> simp_all [flatLast, isList]
  | cons t r => simpa [flatLast, List.getLast?_cons_cons] using h

/-- No list among the segments before the last. -/
def innerPlain (p : List Seg) : Bool := p.dropLast.all (fun s => !isList s)

theorem innerPlain_cons (s : Seg) (q : List Seg) (hs : isList s = false) (h : innerPlain q = true) :
    innerPlain (s :: q) = true := by
  cases q with
  | nil => rfl
  | cons t r =>
    rw [innerPlain, List.dropLast_cons_cons, List.all_cons, hs]
    exact h

theorem flattenTree_flat : ∀ (t : Tree) (r : Bool), wfTree r t = true → ∀ q ∈ flattenTree t, flatLast q = true :=
  (flatten_forall_all (flatLast · = true) rfl (fun s hs => flatLast_cons s [] hs rfl) (fun _ h => h) flatLast_cons).2.1

theorem flattenPath_flat : ∀ (p : List Seg) (r : Bool), wfPath r p = true → ∀ q ∈ flattenPath p, flatLast q = true :=
  (flatten_forall_all (flatLast · = true) rfl (fun s hs => flatLast_cons s [] hs rfl) (fun _ h => h) flatLast_cons).2.2.1

theorem flattenLast_inner : ∀ (s : Seg) (r : Bool), wfLast r s = true → ∀ q ∈ flattenLast s, innerPlain q = true :=
  (flatten_forall_all (innerPlain · = true) rfl (fun _ _ => rfl) (fun _ _ => rfl) innerPlain_cons).1

theorem flattenTree_inner : ∀ (t : Tree) (r : Bool), wfTree r t = true → ∀ q ∈ flattenTree t, innerPlain q = true :=
  (flatten_forall_all (innerPlain · = true) rfl (fun _ _ => rfl) (fun _ _ => rfl) innerPlain_cons).2.1

theorem flattenTrees_inner : ∀ (ts : List Tree) (r : Bool), wfTrees r ts = true → ∀ q ∈ flattenTrees ts, innerPlain q = true :=
  (flatten_forall_all (innerPlain · = true) rfl (fun _ _ => rfl) (fun _ _ => rfl) innerPlain_cons).2.2.2

theorem isSoleSelf_iff (l : List Tree) : isSoleSelf l = true ↔ ∃ a, l = [.mk [.slf a]] := by
  constructor
  · intro h
    unfold isSoleSelf at h
    split at h
    · exact ⟨_, rfl⟩
    · cases h
  · rintro ⟨a, rfl⟩; rfl

theorem neSeg_of_not_list {s : Seg} (h : isList s = false) : neSeg s = true := by
  cases s <;> first | rfl | cases h

theorem nePath_single_nonlist (s : Seg) (h : isList s = false) : nePath [s] = true := by
  rw [nePath, neSeg_of_not_list h]; rfl

/-- No piece `flatten` returns has a nested tree with an empty path. -/
theorem flattenPath_nePath : ∀ (p : List Seg) (r : Bool), wfPath r p = true → ∀ q ∈ flattenPath p, nePath q = true := by
  refine (flatten_forall_all (nePath · = true) rfl nePath_single_nonlist (fun l h => ?_) (fun s q hs hq => ?_)).2.2.1
  · obtain ⟨a, rfl⟩ := (isSoleSelf_iff l).1 h; rfl
  · rw [nePath, neSeg_of_not_list hs, hq]; rfl

/-- An item `flatten` returns as it is. -/
def FlatItem (x : Item) : Prop := x.hasComment = true ∨ flatLast x.tree.path = true

theorem flatLast_iff (p : List Seg) :
    flatLast p = true ↔ ∀ l, p.getLast? = some (.list l) → isSoleSelf l = true := by
  unfold flatLast
  split
  · rename_i l hl
    exact ⟨fun h l' hl' => by cases hl.symm.trans hl'; exact h, fun h => h l hl⟩
  · rename_i hnl
    exact ⟨fun _ l hl => absurd hl (hnl l), fun _ => rfl⟩

theorem flattenItem_of_flat (g : Granularity) {x : Item} (h : FlatItem x) : flattenItem g x = [x] := by
  rcases flattenItem_cases g x with ⟨e, _⟩ | ⟨_, _, hc, l, hl, hs⟩
  · exact e
  · rcases h with h | h
    · rw [hc] at h; cases h
    · rw [(flatLast_iff _).1 h l hl] at hs; cases hs

/-- A piece returned by `flatten` is the item itself, which `flatten` leaves alone, or a new flat
path without nested empty trees. -/
theorem flattenItem_mem (g : Granularity) (it : Item) (hwf : wfPath true it.tree.path = true) :
    ∀ x ∈ flattenItem g it, (x = it ∧ FlatItem it) ∨
      (flatLast x.tree.path = true ∧ nePath x.tree.path = true) := by
  intro x hx
  rcases flattenItem_cases g it with ⟨e, h⟩ | ⟨e, _⟩ <;> rw [e] at hx
  · exact Or.inl ⟨List.mem_singleton.1 hx, h.imp id (flatLast_iff _).2⟩
  · obtain ⟨q, hq, rfl⟩ := List.mem_map.1 hx
    exact Or.inr ⟨flattenPath_flat _ true hwf q hq, flattenPath_nePath _ true hwf q hq⟩

theorem flattenItem_flat (g : Granularity) (it : Item) (hwf : wfPath true it.tree.path = true) :
    ∀ x ∈ flattenItem g it, FlatItem x := fun x hx =>
  (flattenItem_mem g it hwf x hx).elim (fun h => h.1 ▸ h.2) (fun h => Or.inr h.1)

/-- `nest_trailing_self` leaves a path that does not end in `self` as it is, and turns a final `self`
into `{self}`. -/
theorem nestPath_cases (p : List Seg) : (nestPath p = p ∧ ∀ a, p.getLast? ≠ some (.slf a)) ∨
    ∃ r a, p = r ++ [.slf a] ∧ nestPath p = r ++ [.list [.mk [.slf a]]] := by
  unfold nestPath
  split
  · rename_i a ha
    exact Or.inr ⟨_, a, eq_dropLast_append ha, rfl⟩
  · rename_i hn
    exact Or.inl ⟨rfl, hn⟩

theorem nestPath_eq_of_not_slf (p : List Seg) (h : ∀ a, p.getLast? ≠ some (.slf a)) : nestPath p = p := by
  rcases nestPath_cases p with ⟨e, _⟩ | ⟨r, a, rfl, _⟩
  · exact e
  · exact absurd List.getLast?_concat (h a)

theorem nestPath_idem (p : List Seg) : nestPath (nestPath p) = nestPath p := by
  rcases nestPath_cases p with ⟨e, _⟩ | ⟨r, a, rfl, e⟩
  · rw [e, e]
  · rw [e]
    exact nestPath_eq_of_not_slf _ (by simp)

theorem nestItem_idem (x : Item) : nestItem (nestItem x) = nestItem x := by
  simp only [nestItem, RF.Imports.Tree.path, nestPath_idem]

theorem nestPath_eq_nil {p : List Seg} : nestPath p = [] ↔ p = [] := by
  rcases nestPath_cases p with ⟨e, _⟩ | ⟨r, a, rfl, e⟩
  · rw [e]
  · simp [e]

theorem nePath_append (a b : List Seg) : nePath (a ++ b) = (nePath a && nePath b) := by
  induction a with
  | nil => rfl
  | cons s r ih => rw [List.cons_append, nePath, nePath, ih, Bool.and_assoc]

theorem nePath_nestPath (p : List Seg) (h : nePath p = true) : nePath (nestPath p) = true := by
  rcases nestPath_cases p with ⟨e, _⟩ | ⟨r, a, rfl, e⟩
  · rwa [e]
  · rw [nePath_append, Bool.and_eq_true] at h
    rw [e, nePath_append, h.1]
    rfl

/-- The last segment is neither `self` nor a list other than `{self}`: a path `flatten` and
`nest_trailing_self` leave alone. -/
def fixedLast (p : List Seg) : Bool :=
  match p.getLast? with
  | some (.list l) => isSoleSelf l
  | some (.slf _) => false
  | _ => true

theorem flatLast_of_fixedLast {p : List Seg} (h : fixedLast p = true) : flatLast p = true := by
  unfold fixedLast at h
  unfold flatLast
  generalize p.getLast? = o at h ⊢
  rcases o with _ | s
  · rfl
  · cases s <;> first | rfl | exact h

theorem fixedLast_nestPath (p : List Seg) (h : flatLast p = true) : fixedLast (nestPath p) = true := by
  rcases nestPath_cases p with ⟨e, hn⟩ | ⟨r, a, rfl, e⟩
  · rw [e]
    unfold flatLast at h
    unfold fixedLast
    generalize p.getLast? = o at h hn ⊢
    rcases o with _ | s
    · rfl
    · cases s <;> first | rfl | exact h | exact absurd rfl (hn _)
  · rw [e, fixedLast, List.getLast?_concat]
    rfl

theorem FlatItem.nest {x : Item} (h : FlatItem x) : FlatItem (nestItem x) :=
  h.imp id fun h => flatLast_of_fixedLast (fixedLast_nestPath _ h)

/-- `flatten` does nothing to a nested flat item. -/
theorem flattenItem_nest_fixed (g : Granularity) (x : Item) (h : FlatItem x) :
    flattenItem g (nestItem x) = [nestItem x] :=
  flattenItem_of_flat g h.nest

theorem sameVis_comm (a b : Option (List Char)) : sameVis a b = sameVis b a := by
  cases a <;> cases b <;> first | rfl | exact Bool.beq_comm

theorem treeBEq_comm (a b : Tree) : treeBEq a b = treeBEq b a := by
  rw [Bool.eq_iff_iff, treeBEq_iff, treeBEq_iff]; exact eq_comm

/-- `is_repeated_by` is symmetric. -/
theorem isRepeatedBy_comm (s t : Item) : isRepeatedBy s t = isRepeatedBy t s := by
  rw [isRepeatedBy, isRepeatedBy, treeBEq_comm s.tree t.tree, sameVis_comm s.vis t.vis]
  ac_rfl

/-- `b` does not repeat `a` (symmetric: `NoRep.symm`). -/
def NoRep (a b : Item) : Prop := isRepeatedBy a b = false

theorem NoRep.symm {a b : Item} (h : NoRep a b) : NoRep b a := (isRepeatedBy_comm b a).trans h

/-- What `flatten_use_trees` keeps is pairwise not repeated. -/
theorem dedupItems_pairwise (xs res : List Item) (h : res.Pairwise NoRep) :
    (dedupItems xs res).Pairwise NoRep := by
  obtain ⟨ys, he, -, -, hpw⟩ := dedupItems_spec xs res
  rw [he]
  exact hpw h

/-- A list without repeated imports passes the loop of `flatten_use_trees` unchanged. -/
theorem dedupItems_of_pairwise : ∀ (l res : List Item), (res ++ l).Pairwise NoRep →
    dedupItems l res = res ++ l
  | [], res, _ => (List.append_nil res).symm
  | t :: ts, res, h => by
    have hnot : (res.any fun s => isRepeatedBy s t) = false :=
      List.any_eq_false.2 fun s hs => Bool.eq_false_iff.1
        ((List.pairwise_append.1 h).2.2 s hs t List.mem_cons_self)
    rw [dedupItems, hnot, if_neg Bool.false_ne_true,
      dedupItems_of_pairwise ts (res ++ [t]) (by rwa [List.append_assoc]), List.append_assoc]
    rfl

theorem dedupItems_nil_sub (xs : List Item) : ∀ x ∈ dedupItems xs [], x ∈ xs := by
  obtain ⟨ys, he, hsub, -⟩ := dedupItems_spec xs []
  rw [he]
  exact fun x hx => hsub.subset hx

/-- `flatten_use_trees` returns a list as it is when `flatten` and `nest_trailing_self` leave its items
alone and none repeats another. -/
theorem flattenUseTrees_fixed (g : Granularity) (l : List Item)
    (h : ∀ y ∈ l, flattenItem g y = [y] ∧ nestItem y = y) (hd : l.Pairwise NoRep) :
    flattenUseTrees g l = l := by
  rw [flattenUseTrees, flatMap_congr' fun y hy => (h y hy).1, List.flatMap_singleton',
    List.map_congr_left fun y hy => (h y hy).2, List.map_id']
  exact dedupItems_of_pairwise l [] hd

theorem filter_class_self (c : Group) (l : List Item) (h : ∀ t ∈ l, classify t.tree = c) :
    l.filter (classify ·.tree == c) = l :=
  List.filter_eq_self.2 fun t ht => beq_iff_eq.2 (h t ht)

theorem filter_class_other (c c' : Group) (hc : c ≠ c') (l : List Item)
    (h : ∀ t ∈ l, classify t.tree = c) : l.filter (classify ·.tree == c') = [] :=
  List.filter_eq_nil_iff.2 fun t ht => by rw [h t ht]; exact fun e => hc (beq_iff_eq.1 e)

theorem classify_sort_mem {cmp : Item → Item → Ordering} {l : List Item} {c : Group}
    (h : ∀ t ∈ l, classify t.tree = c) : ∀ t ∈ stableSort cmp l, classify t.tree = c :=
  fun t ht => h t ((stableSort_perm cmp l).mem_iff.1 ht)

/-- Grouping the concatenation of a std, an external and a local group gives back the three groups. -/
theorem groupImports_of_grouped (g1 g2 g3 : List Item) (h1 : ∀ t ∈ g1, classify t.tree = .std)
    (h2 : ∀ t ∈ g2, classify t.tree = .external) (h3 : ∀ t ∈ g3, classify t.tree = .localG) :
    groupImports (g1 ++ g2 ++ g3) = [g1, g2, g3] := by
  simp only [groupImports, List.filter_append]
  rw [filter_class_self _ _ h1, filter_class_self _ _ h2, filter_class_self _ _ h3,
    filter_class_other _ _ (by decide) _ h1, filter_class_other _ _ (by decide) _ h1,
    filter_class_other _ _ (by decide) _ h2, filter_class_other _ _ (by decide) _ h2,
    filter_class_other _ _ (by decide) _ h3, filter_class_other _ _ (by decide) _ h3]
  simp only [List.append_nil, List.nil_append]

/-- Grouping again what is left of the groups after each has lost or reordered some of its items
gives the same groups. -/
theorem pregroup_map (gt : GroupTactic) (f : List Item → List Item) (hf : ∀ g, ∀ x ∈ f g, x ∈ g)
    (l : List Item) : pregroup gt ((pregroup gt l).map f).flatten = (pregroup gt l).map f := by
  cases gt with
  | stdExternalCrate =>
    have hc : ∀ c, ∀ t ∈ f (l.filter (classify ·.tree == c)), classify t.tree = c :=
      fun c t ht => beq_iff_eq.1 (List.mem_filter.1 (hf _ t ht)).2
    show groupImports (f _ ++ (f _ ++ (f _ ++ []))) = [f _, f _, f _]
    rw [List.append_nil, ← List.append_assoc]
    exact groupImports_of_grouped _ _ _ (hc .std) (hc .external) (hc .localG)
  | preserve => exact congrArg (fun x => [x]) (List.append_nil _)
  | one => exact congrArg (fun x => [x]) (List.append_nil _)

mutual
theorem reparseSeg_ne : ∀ s : Seg, neSeg s = true → reparseSeg s = s
  | .list l, h => by rw [reparseSeg, reparseTrees_ne l h]
  | .ident .., _ | .slf _, _ | .super _, _ | .crate _, _ | .glob, _ => rfl
theorem reparsePath_ne : ∀ p : List Seg, nePath p = true → reparsePath p = p
  | [], _ => rfl
  | s :: r, h => by
    rw [nePath, Bool.and_eq_true] at h
    rw [reparsePath, reparseSeg_ne s h.1, reparsePath_ne r h.2]
theorem reparseTrees_ne : ∀ l : List Tree, neTrees l = true → reparseTrees l = l
  | [], _ => rfl
  | .mk p :: r, h => by
    rw [neTrees, neTree, Bool.and_eq_true, Bool.and_eq_true, Bool.not_eq_true'] at h
    rw [reparseTrees, h.1.1, reparsePath_ne p h.1.2, reparseTrees_ne r h.2]
    rfl
end

theorem mk_path (t : Tree) : Tree.mk t.path = t := by cases t; rfl

/-- `normalize` applied to its own result, top level. -/
theorem normalizeItem_idem {cmp : Tree → Tree → Ordering} (tp : TotalPreorder cmp) (it it' : Item)
    (h : normalizeItem cmp it = .ok it') (hwf : wfPath true it.tree.path = true)
    (hne : it'.tree.path ≠ []) (hb : bareSelf it' = false) : normalizeItem cmp it' = .ok it' := by
  obtain ⟨hp, hv, ha, _⟩ := normalizeItem_normPath h
  have hbare : ¬(it.attrs.isSome = false ∧ it.vis.isSome = true ∧ it'.tree.path = [.slf none]) := by
    rintro ⟨h1, h2, h3⟩
    rw [bareSelf, h3, ha, hv, h2] at hb
    cases hat : it.attrs <;> simp_all
  rw [← hv, ← ha] at hp hbare
  rw [normalizeItem, normPath_idem tp _ _ _ _ _ true hp hwf hne hbare _ (Nat.lt_succ_self _)]
  exact congrArg Except.ok (by rw [mk_path])

/-- Items whose path is not empty (what is written out). -/
def written (l : List Item) : List Item := l.filter fun it => !it.tree.path.isEmpty

theorem reparseItems_eq_written (l : List Item) (h : ∀ it ∈ l, reparseTree it.tree = it.tree) :
    reparseItems l = written l := by
  rw [reparseItems, List.map_congr_left fun it hit => by rw [h it (List.mem_filter.1 hit).1],
    List.map_id']
  rfl

theorem written_sublist (l : List Item) : (written l).Sublist l := List.filter_sublist

theorem written_flatten (L : List (List Item)) : written L.flatten = (L.map written).flatten := by
  induction L with
  | nil => rfl
  | cons a L ih => rw [List.flatten_cons, written, List.filter_append, ← written, ← written, ih]; rfl

theorem filter_map_filter_nonempty {α} (f : List α → List α) (hf : f [] = []) (L : List (List α)) :
    ((L.filter fun g => !g.isEmpty).map f).filter (fun g => !g.isEmpty) =
      (L.map f).filter (fun g => !g.isEmpty) := by
  induction L with
  | nil => rfl
  | cons a L ih =>
    cases a with
    | nil => simp [hf, ih]
    | cons x xs => simp [List.filter_cons, ih]

/-- `finish` on what is written of its own output gives that output again. -/
theorem finish_written {cmp : Tree → Tree → Ordering} (tp : TotalPreorder cmp) (gt : GroupTactic)
    (reorder : Bool) (merged : List Item) :
    finish cmp gt reorder (written (finish cmp gt reorder merged).flatten) =
      ((finish cmp gt reorder merged).map written).filter (fun grp => !grp.isEmpty) := by
  -- `s`: what is done to each group before the empty ones are dropped
  obtain ⟨s, hs, hsub, hfix⟩ : ∃ s : List Item → List Item,
      (∀ G : List (List Item),
        (if reorder then G.map (stableSort fun a b => cmp a.tree b.tree) else G) = G.map s) ∧
      (∀ g, ∀ x ∈ s g, x ∈ g) ∧ ∀ g, s (written (s g)) = written (s g) := by
    cases reorder with
    | false => exact ⟨id, fun G => (List.map_id G).symm, fun _ _ h => h, fun _ => rfl⟩
    | true =>
      exact ⟨_, fun G => rfl, fun g x => (mem_stableSort _ g x).1, fun g =>
        stableSort_of_sorted _ _ ((stableSort_sorted (tp.pullback fun it : Item => it.tree) g).sublist
          (written_sublist _))⟩
  have hG : ∀ l, finish cmp gt reorder l = ((pregroup gt l).map s).filter (fun grp => !grp.isEmpty) :=
    fun l => by rw [finish, hs]
  rw [hG merged, flatten_filter_nonempty, filter_map_filter_nonempty written rfl, hG, written_flatten,
    List.map_map,
    pregroup_map gt (written ∘ s) fun g x hx => hsub g x ((written_sublist _).subset hx), List.map_map]
  exact congrArg _ (List.map_congr_left fun g _ => hfix g)

/-- Two runs of the `use` arm when the second run's `normalize` and granularity step leave the items
written by the first run as they are: the groups do not change. -/
theorem runTwice_of_fixed {cmp : Tree → Tree → Ordering} (tp : TotalPreorder cmp) (g : Granularity)
    (gt : GroupTactic) (reorder : Bool) (items normalized merged : List Item)
    (hn : mapE (normalizeItem cmp) items = .ok normalized)
    (hm : withGranularity cmp g normalized = .ok merged)
    (hre : ∀ it ∈ merged, reparseTree it.tree = it.tree)
    (hnorm : ∀ it ∈ merged, it.tree.path ≠ [] → normalizeItem cmp it = .ok it)
    (hg2 : ∀ l l' : List Item, l'.Perm merged → l.Sublist l' → withGranularity cmp g l = .ok l) :
    ∃ a, runTwice cmp g gt reorder items = .ok (a, a) := by
  have hfirst : rewriteUseRun cmp g gt reorder items = .ok (finish cmp gt reorder merged) := by
    rw [rewriteUseRun_eq, hn]; simp only [hm]
  have hperm := finish_flatten_perm cmp gt reorder merged
  obtain ⟨F, hF⟩ : ∃ F, finish cmp gt reorder merged = F := ⟨_, rfl⟩
  rw [hF] at hfirst hperm
  have hread : ∀ l : List Item, (∀ x ∈ l, x ∈ F.flatten) → reparseItems l = written l :=
    fun l hl => reparseItems_eq_written l fun it hit => hre it (hperm.subset (hl it hit))
  have hn2 : mapE (normalizeItem cmp) (written F.flatten) = .ok (written F.flatten) :=
    mapE_fixed _ _ fun x hx => hnorm x (hperm.subset ((written_sublist _).subset hx))
      (by simpa using (List.mem_filter.1 hx).2)
  have hsecond : rewriteUseRun cmp g gt reorder (written F.flatten) =
      .ok (finish cmp gt reorder (written F.flatten)) := by
    rw [rewriteUseRun_eq, hn2]; simp only [hg2 _ _ hperm (written_sublist _)]
  refine ⟨(F.map written).filter (fun grp => !grp.isEmpty), ?_⟩
  rw [runTwice, hfirst]
  simp only [hread _ fun _ h => h, hsecond,
    List.map_congr_left fun grp hgrp => hread grp fun x hx => List.mem_flatten.2 ⟨grp, hgrp, hx⟩]
  rw [← hF, finish_written tp]

/-- `normalize` leaves a non-empty path with a `fixedLast` last segment as it is (whatever the other
segments, the flags, and the order). -/
theorem normPath_fixedLast (cmp : Tree → Tree → Ordering) (fuel : Nat) (a v : Bool) (p : List Seg)
    (hne : p ≠ []) (h : fixedLast p = true) : normPath cmp (fuel + 2) a v p = .ok p := by
  obtain ⟨rest, last, rfl⟩ := exists_snoc_of_ne hne
  rw [fixedLast, List.getLast?_concat] at h
  rw [normPath_snoc]
  cases last with
  | list l =>
    obtain ⟨al, rfl⟩ := (isSoleSelf_iff l).1 h
    -- the list `{self}` is sorted, its one element normalised to itself
    have : normPath cmp (fuel + 1) false false [.slf al] = .ok [.slf al] :=
      normPath_displaysSelf cmp fuel (t := .mk [.slf al]) rfl
    simp [stepLast, afterStep, soleSplice, displaysSelf, mapE, this, Except.map, stableSort,
      insertSorted, RF.Imports.Tree.path]
  | slf al => cases h
  | _ => rfl

theorem pathSize_pos {p : List Seg} (h : p ≠ []) : 0 < pathSize p := by
  cases p with
  | nil => exact absurd rfl h
  | cons s r =>
    have : 0 < segSize s := by cases s <;> simp only [segSize] <;> omega
    rw [pathSize]
    omega

theorem normalizeItem_fixedLast (cmp : Tree → Tree → Ordering) (y : Item) (hne : y.tree.path ≠ [])
    (h : fixedLast y.tree.path = true) : normalizeItem cmp y = .ok y := by
  obtain ⟨f, hf⟩ : ∃ f, pathSize y.tree.path + 1 = f + 2 :=
    ⟨pathSize y.tree.path - 1, by have := pathSize_pos hne; omega⟩
  rw [normalizeItem, hf, normPath_fixedLast cmp f _ _ _ hne h]
  exact congrArg Except.ok (by rw [mk_path])

theorem nestItem_eq_self {x : Item} (h : ∀ a, x.tree.path.getLast? ≠ some (.slf a)) : nestItem x = x := by
  rw [nestItem, nestPath_eq_of_not_slf _ h, mk_path]

/-- What holds of every item `flatten_use_trees` returns, when its input is the `normalize`d run:
the four steps of the next run leave it alone. -/
theorem flattened_fixed {cmp : Tree → Tree → Ordering} (tp : TotalPreorder cmp) (g : Granularity)
    (items normalized : List Item) (hn : mapE (normalizeItem cmp) items = .ok normalized)
    (hok : ∀ it ∈ items, wfPath true it.tree.path = true)
    (hwfN : ∀ it ∈ normalized, wfPath true it.tree.path = true) :
    ∀ y ∈ flattenUseTrees g normalized,
      reparseTree y.tree = y.tree ∧ (y.tree.path ≠ [] → normalizeItem cmp y = .ok y) ∧
      flattenItem g y = [y] ∧ nestItem y = y := by
  intro y hy
  have := dedupItems_nil_sub _ y hy
  simp only [List.mem_map, List.mem_flatMap] at this
  obtain ⟨x, ⟨nn, hnn, hx⟩, rfl⟩ := this
  have hcases := flattenItem_mem g nn (hwfN nn hnn) x hx
  refine ⟨?_, fun hne => ?_, flattenItem_nest_fixed g x (flattenItem_flat g nn (hwfN nn hnn) x hx),
    nestItem_idem x⟩
  · -- read back unchanged: no nested tree with an empty path
    have hne : nePath (nestItem x).tree.path = true := by
      refine nePath_nestPath _ ?_
      rcases hcases with ⟨rfl, _⟩ | ⟨_, h⟩
      · exact wfPath_nePath true _ (hwfN x hnn)
      · exact h
    rw [reparseTree, reparsePath_ne _ hne, mk_path]
  · by_cases hfl : flatLast x.tree.path = true
    · exact normalizeItem_fixedLast cmp _ hne (fixedLast_nestPath _ hfl)
    · -- not flat: the normalised item itself, with a comment, ending in a list; `nest` does nothing
      rcases hcases with ⟨rfl, _⟩ | ⟨hf, _⟩
      · have hnest : nestItem x = x :=
          nestItem_eq_self fun a ha => hfl (by rw [flatLast, ha])
        rw [hnest] at hne ⊢
        obtain ⟨it, hit, h⟩ := mapE_mem _ _ _ hn x hnn
        refine normalizeItem_idem tp it x h (hok it hit) hne (Bool.eq_false_iff.2 fun hb => hfl ?_)
        -- the bare `self` is flat
        rw [bareSelf, Bool.and_eq_true] at hb
        have hp := hb.2
        split at hp
        · rename_i hpath; rw [hpath]; rfl
        · cases hp
      · exact absurd hf hfl

/-! ## Decidable equality of items (for the concrete counter-examples) -/

instance : DecidableEq Tree := fun a b => decidable_of_iff _ (treeBEq_iff a b)
deriving instance DecidableEq for Item
instance {ε α} [DecidableEq ε] [DecidableEq α] : DecidableEq (Except ε α) := fun a b =>
  match a, b with
  | .ok x, .ok y => if h : x = y then isTrue (by rw [h]) else isFalse (by intro e; cases e; exact h rfl)
  | .error x, .error y =>
    if h : x = y then isTrue (by rw [h]) else isFalse (by intro e; cases e; exact h rfl)
  | .ok _, .error _ => isFalse (by intro e; cases e)
  | .error _, .ok _ => isFalse (by intro e; cases e)

end RF.Lemmas.Idem

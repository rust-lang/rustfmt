import RF.Model.Emit
import RF.Lemmas.Diff
import RF.Lemmas.Backup
/-!
Proofs for C06 (`RF/Props/C06.lean`) about `RF/Model/Emit.lean`: at context 0 the hunks of `make_diff`
carry no context lines (`makeDiff0_noctx`), so every checkstyle error names the formatted text's line at
its number (`checkstyle_points_at_fmt`); the json blocks carry the modified-lines chunks
(`json_chunks`); the Diff emitter's `has_diff` (`diff_hasDiff_iff`); and the ops of every emitter are
the guarded op list of `RF/Model/Backup.lean` (`emit_ops`).
-/
namespace RF.Emit
open RF.Diff

/-- The assumption on the external `diff` crate, for one emitter input and a line splitter
`lines` (Rust's `str::lines`): the script's two sides are the line lists of the two texts, and it
is all-`both` when the line lists are equal (the crate strips the common prefix first).  The
correspondence checks it on every case. -/
structure ScriptOk {α : Type} (lines : List Char → List α) (i : Input α) : Prop where
  lefts_eq  : lefts i.script = lines i.orig
  rights_eq : rights i.script = lines i.fmt
  all_both  : lines i.orig = lines i.fmt → hasChange i.script = false

end RF.Emit

namespace RF.Lemmas.Emit
open RF.Gen.Emitters RF.Diff RF.Emit RF.Lemmas.Diff

theorem go0_noctx {α} (ds : List (Edit α)) ln lno q since (cur : Mismatch α) (hq : q = [])
    (h : newSide cur.lines = newLines cur.lines) :
    ∀ m ∈ go 0 ln lno q since cur ds, newSide m.lines = newLines m.lines := by
  fun_induction go 0 ln lno q since cur ds
  case case1 => intro m hm; rw [List.mem_singleton.mp hm]; exact h
  case case2 ih | case4 ih =>
    intro m hm
    rcases List.mem_cons.mp hm with rfl | hm
    · exact h
    · exact ih rfl (by simp [hq, newSide, newLines]) m hm
  case case3 ih | case5 ih => exact ih rfl (by simp [hq, newSide, newLines, h])
  -- at context 0 the arms `since < ctx` and `ctx > 0` of `go` cannot be taken
  case case6 hc _ => omega
  case case7 h0 _ => omega
  case case8 ih => exact ih (by subst hq; rfl) h

theorem makeDiff0_noctx {α} (ds : List (Edit α)) :
    ∀ m ∈ makeDiff ds 0, newSide m.lines = newLines m.lines := by
  intro m hm
  exact go0_noctx ds 1 1 [] 1 ⟨0, 0, []⟩ rfl rfl m (List.mem_of_mem_tail hm)

theorem checkstyleLoop_mem {α} (b : Nat) (ls : List (DiffLine α)) :
    ∀ c n s, (n, s) ∈ checkstyleLoop b c ls → ∃ i, n = b + c + i ∧ (newLines ls)[i]? = some s := by
  induction ls with
  | nil => intro c n s h; simp [checkstyleLoop] at h
  | cons x ls ih =>
    intro c n s h
    cases x with
    | context t => exact ih c n s (by simpa [checkstyleLoop] using h)
    | resulting t => exact ih c n s (by simpa [checkstyleLoop] using h)
    | expected t =>
      simp only [checkstyleLoop, List.mem_cons, Prod.mk.injEq] at h
      rcases h with ⟨rfl, rfl⟩ | h
      · exact ⟨0, by simp, by simp [newLines]⟩
      · obtain ⟨i, hi, hs⟩ := ih (c + 1) n s h
        exact ⟨i + 1, by omega, by simpa [newLines] using hs⟩

theorem checkstyle_points_at_fmt {α} (ds : List (Edit α)) :
    ∀ e ∈ checkstyleErrors (makeDiff ds 0), 1 ≤ e.1 ∧ (rights ds)[e.1 - 1]? = some e.2 := by
  intro e he
  simp only [checkstyleErrors, List.mem_flatMap] at he
  obtain ⟨m, hm, hem⟩ := he
  obtain ⟨i, hi, hs⟩ := checkstyleLoop_mem m.lineNumber m.lines 0 e.1 e.2 hem
  obtain ⟨_, A, T, hR, hA⟩ := hunks_consistent ds 0 m hm
  rw [makeDiff0_noctx ds m hm] at hR
  have hlt : i < (newLines m.lines).length := by
    rcases Nat.lt_or_ge i (newLines m.lines).length with h | h
    · exact h
    · rw [List.getElem?_eq_none h] at hs; exact absurd hs (by simp)
  refine ⟨by omega, ?_⟩
  have hidx : e.1 - 1 = A.length + i := by omega
  rw [hR, hidx, List.append_assoc, List.getElem?_append_right (by omega),
    Nat.add_sub_cancel_left, List.getElem?_append_left hlt]
  exact hs

theorem blockChunk_jsonBlock {α} (m : Mismatch α) : blockChunk (jsonBlock m) = toChunk m := by
  obtain ⟨h1, h2, _, h4, _⟩ := json_lines_agree m
  simp only [blockChunk]
  rw [h1, h2, h4]

theorem json_chunks {α} (ms : List (Mismatch α)) :
    (ms.map jsonBlock).map blockChunk = ofMismatches ms := by
  simp [ofMismatches, List.map_map, Function.comp_def, blockChunk_jsonBlock]

theorem isEmpty_makeDiff {α} (ds : List (Edit α)) (ctx : Nat) :
    (makeDiff ds ctx).isEmpty = !hasChange ds := by
  have := empty_iff_no_change ds ctx
  cases h : hasChange ds
  · simp [this.mpr h]
  · have hne : makeDiff ds ctx ≠ [] := fun e => by rw [this.mp e] at h; exact absurd h (by simp)
    cases hm : makeDiff ds ctx with
    | nil => exact absurd hm hne
    | cons _ _ => simp

theorem diff_hasDiff {α} (cfg : Cfg) (i : Input α) :
    (emit .diff cfg i).hasDiff = (hasChange i.script || decide (i.orig ≠ i.fmt)) := by
  simp only [emit, isEmpty_makeDiff, Bool.not_not]
  cases h : hasChange i.script
  · by_cases e : i.orig = i.fmt <;> simp [e]
  · simp

theorem diff_hasDiff_iff {α} (cfg : Cfg) (i : Input α)
    (h : i.orig = i.fmt → hasChange i.script = false) :
    (emit .diff cfg i).hasDiff = true ↔ i.orig ≠ i.fmt := by
  rw [diff_hasDiff]
  by_cases e : i.orig = i.fmt
  · simp [e, h e]
  · simp [e]

theorem emit_ops {α} (kind : EmitterKind) (cfg : Cfg) (i : Input α) :
    (emit kind cfg i).ops = RF.Backup.guardedOps kind i.orig i.fmt := by
  cases kind <;> simp only [emit] <;> (repeat' split) <;> rfl

end RF.Lemmas.Emit

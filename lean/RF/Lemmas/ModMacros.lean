import RF.Model.ModMacros
import RF.Lemmas.Modules
/-!
Lemmas for the macro-based module discovery (`RF/Model/ModMacros.lean`):

1. `visitS_eq`: the literal walk of the code over surface items (`visit_cfg_if` calling
   `visit_sub_mod` for every collected `mod`, inline modules walked by the same loop) is the walk
   `visitItemsW` of the flat list `discItems`, whatever the recursion into loaded files does;
2. `discBranches_flatten`: the structural definition of the discovered list is "parse the macro body,
   then list what the parser returned" (`parseMacroBody`, see `RF.Props.C13.discovered_is_parsed`);
3. `disc_eq_exp`: on tame items the code discovers exactly what the specification expands.
-/
namespace RF.Lemmas.ModMacros
open RF.Modules RF.Lemmas.Modules

theorem sitem_ind {P : SItem → Prop} {Q : List SItem → Prop} {R : List (List SItem) → Prop}
    (h1 : ∀ n a, P (.ext n a)) (h2 : ∀ n a is, Q is → P (.inline n a is))
    (h3 : ∀ sh bs, R bs → P (.cfgIf sh bs)) (h4 : ∀ sh bs, R bs → P (.cfgMatch sh bs))
    (h5 : P .other) (h6 : P .junk)
    (h7 : Q []) (h8 : ∀ d ds, P d → Q ds → Q (d :: ds))
    (h9 : R []) (h10 : ∀ b bs, Q b → R bs → R (b :: bs)) :
    (∀ d, P d) ∧ (∀ ds, Q ds) ∧ (∀ bs, R bs) :=
  ⟨fun d => SItem.rec (motive_1 := P) (motive_2 := Q) (motive_3 := R) h1 h2 h3 h4 h5 h6 h7 h8 h9 h10 d,
   fun ds => SItem.rec_1 (motive_1 := P) (motive_2 := Q) (motive_3 := R) h1 h2 h3 h4 h5 h6 h7 h8 h9 h10 ds,
   fun bs => SItem.rec_2 (motive_1 := P) (motive_2 := Q) (motive_3 := R) h1 h2 h3 h4 h5 h6 h7 h8 h9 h10 bs⟩

theorem visitItemsW_append (fs : FS) (rec : RecFn) (cur : FileName) (xs ys : List Decl) :
    ∀ st, visitItemsW fs rec cur st (xs ++ ys) =
      match visitItemsW fs rec cur st xs with
      | .error e => .error e
      | .ok st' => visitItemsW fs rec cur st' ys := by
  induction xs with
  | nil => intro st; rfl
  | cons d ds ih =>
    intro st
    simp only [List.cons_append, visitItemsW]
    cases visitSubModW fs rec cur st d with
    | error e => rfl
    | ok st1 => exact ih st1

theorem visitItemsW_single (fs : FS) (rec : RecFn) (cur : FileName) (d : Decl) (st : St) :
    visitItemsW fs rec cur st [d] = visitSubModW fs rec cur st d := by
  simp only [visitItemsW]
  cases visitSubModW fs rec cur st d <;> rfl

theorem visitS_eq (fs : FS) (rec : RecFn) (cur : FileName) :
    (∀ it : SItem, ∀ st,
      visitItemS fs rec cur st it = visitItemsW fs rec cur st (discItem it)) ∧
    (∀ items : List SItem, ∀ st,
      visitItemsS fs rec cur st items = visitItemsW fs rec cur st (discItems items) ∧
      visitBranchItemsS fs rec cur st items = visitItemsW fs rec cur st (discBranchItems items)) ∧
    (∀ bs : List (List SItem), ∀ st,
      visitBranchesS fs rec cur st bs = visitItemsW fs rec cur st (discBranches bs)) := by
  apply sitem_ind
  · intro n a st
    rw [visitItemS, discItem, visitItemsW_single]
  · intro n a items ih st
    rw [visitItemS, discItem, visitItemsW_single, visitSubModW]
    split
    · rfl
    · rw [(ih _).1]
      cases visitItemsW fs rec cur _ (discItems items) <;> rfl
  · intro sh bs ih st
    rw [visitItemS, discItem]
    split
    · exact ih st
    · rfl
  · intro sh bs ih st
    rw [visitItemS, discItem]
    split
    · exact ih st
    · rfl
  · intro st; rfl
  · intro st; rfl
  · intro st; exact ⟨rfl, rfl⟩
  · intro d ds ihd ihds st
    constructor
    · rw [visitItemsS, discItems, visitItemsW_append, ihd st]
      cases visitItemsW fs rec cur st (discItem d) with
      | error e => rfl
      | ok st1 => exact (ihds st1).1
    · rw [visitBranchItemsS, discBranchItems, visitItemsW_append]
      split
      · rw [ihd st]
        cases visitItemsW fs rec cur st (discItem d) with
        | error e => rfl
        | ok st1 => exact (ihds st1).2
      · simp only [visitItemsW]
        exact (ihds st).2
  · intro st; rfl
  · intro b bs ihb ihbs st
    rw [visitBranchesS, discBranches, visitItemsW_append, (ihb st).2]
    cases visitItemsW fs rec cur st (discBranchItems b) with
    | error e => rfl
    | ok st1 => exact ihbs st1

theorem visitItemsS_eq (fs : FS) (rec : RecFn) (cur : FileName) (st : St) (items : List SItem) :
    visitItemsS fs rec cur st items = visitItemsW fs rec cur st (discItems items) :=
  ((visitS_eq fs rec cur).2.1 items st).1

theorem discItems_append (xs ys : List SItem) :
    discItems (xs ++ ys) = discItems xs ++ discItems ys := by
  induction xs with
  | nil => rfl
  | cons d ds ih => simp [discItems, ih]

theorem discBranchItems_filter (b : List SItem) :
    discBranchItems b = discItems (b.filter isModItem) := by
  induction b with
  | nil => rfl
  | cons d ds ih =>
    rw [discBranchItems, List.filter_cons]
    split <;> simp [discItems, ih]

theorem discBranches_flatten (bs : List (List SItem)) :
    discBranches bs = discItems (bs.flatten.filter isModItem) := by
  induction bs with
  | nil => rfl
  | cons b bs ih =>
    rw [discBranches, List.flatten_cons, List.filter_append, discItems_append, ih,
      discBranchItems_filter]

theorem discBranchItems_noMacro (b : List SItem) (h : noMacroItems b = true) :
    discBranchItems b = discItems b := by
  induction b with
  | nil => rfl
  | cons d ds ih =>
    rw [noMacroItems, Bool.and_eq_true] at h
    rw [discBranchItems, discItems, ih h.2]
    cases d <;> simp_all [isModItem, isMacroItem, discItem]

theorem branchesParse_of_tame (bs : List (List SItem)) (h : tameBranches bs = true) :
    branchesParse bs = true := by
  induction bs with
  | nil => rfl
  | cons b bs ih =>
    rw [tameBranches] at h
    simp only [Bool.and_eq_true] at h
    simp [branchesParse, h.1.1.1, ih h.2]

theorem disc_eq_exp :
    (∀ it : SItem, tameItem it = true → discItem it = expItem it) ∧
    (∀ items : List SItem, tameItems items = true → discItems items = expItems items) ∧
    (∀ bs : List (List SItem), tameBranches bs = true → discBranches bs = expBranches bs) := by
  apply sitem_ind
  · intro n a _; rw [discItem, expItem]
  · intro n a items ih h
    rw [tameItem] at h
    rw [discItem, expItem, ih h]
  · intro sh bs ih h
    rw [tameItem, Bool.and_eq_true, decide_eq_true_eq] at h
    rw [discItem, expItem, macroAccepted, branchesParse_of_tame bs h.2, h.1, ih h.2]
    simp
  · intro sh bs ih h
    rw [tameItem, Bool.and_eq_true, decide_eq_true_eq] at h
    rw [discItem, expItem, macroAccepted, branchesParse_of_tame bs h.2, h.1, ih h.2]
    simp
  · intro _; rw [discItem, expItem]
  · intro _; rw [discItem, expItem]
  · intro _; rw [discItems, expItems]
  · intro d ds ihd ihds h
    rw [tameItems, Bool.and_eq_true] at h
    rw [discItems, expItems, ihd h.1, ihds h.2]
  · intro _; rw [discBranches, expBranches]
  · intro b bs ihb ihbs h
    rw [tameBranches] at h
    simp only [Bool.and_eq_true] at h
    rw [discBranches, expBranches, discBranchItems_noMacro b h.1.1.2, ihb h.1.2, ihbs h.2, h.1.1.1]
    simp

theorem codeFS_eq_specFS (sfs : SFS) (h : sfsTame sfs = true) : codeFS sfs = specFS sfs := by
  unfold codeFS specFS
  apply List.map_congr_left
  intro e he
  have ht : nodeTame e.2 = true := by
    unfold sfsTame at h
    exact (List.all_eq_true.1 h) e he
  cases hn : e.2 with
  | dir => rfl
  | file s g items =>
    rw [hn] at ht
    simp only [lowerNode]
    rw [disc_eq_exp.2.1 items ht]

end RF.Lemmas.ModMacros

import RF.Lemmas.Lists
import RF.Model.ListsRc
import RF.Lemmas.CharClasses
/-!
The instance of the comment rewriter the driver uses (`rewriteCommentLight`, the model of
`rewrite_comment` under the default comment options) keeps the non-blank characters of a comment:
the hypothesis of `writeList_content` holds for it (`rewriteCommentLight_content`).  The two halves are
stated on their own, for any indentation and edition, because the missed-span theorems use them directly:
`identifyCommentLight_content` (the loop over the groups of a comment) and
`trimLeftPreserveLayout_content` (`trim_left_preserve_layout`, the rewriter of bare-line block comments).
-/
namespace RF.Lemmas.ListsRc
open RF.Lists RF.Shape RF.Lemmas.Lists

theorem splitInclusiveGo_flatten (s : List Char) :
    ∀ cur : List Char, (splitInclusiveGo cur s).flatten = cur.reverse ++ s := by
  induction s with
  | nil =>
    intro cur
    simp only [splitInclusiveGo]
    split
    · rename_i h; simp [List.isEmpty_iff.mp h]
    · simp
  | cons c rest ih =>
    intro cur
    simp only [splitInclusiveGo]
    split
    · simp [ih]
    · simp [ih]

theorem squeeze_stripLineEnding (l : List Char) : squeeze (stripLineEnding l) = squeeze l := by
  unfold stripLineEnding
  split
  · rename_i r h
    have : l = r.reverse ++ ['\r', '\n'] := by simpa using congrArg List.reverse h
    rw [this, squeeze_append, show squeeze ['\r', '\n'] = [] from rfl, List.append_nil]
  · rename_i r _ h
    have : l = r.reverse ++ ['\n'] := by simpa using congrArg List.reverse h
    rw [this, squeeze_append, squeeze_nl, List.append_nil]
  · rfl

theorem squeeze_rustLines (g : List Char) : ((rustLines g).map squeeze).flatten = squeeze g := by
  unfold rustLines
  rw [List.map_map]
  have : (squeeze ∘ stripLineEnding) = squeeze := by
    funext l; exact squeeze_stripLineEnding l
  rw [this, ← squeeze_flatten, splitInclusiveGo_flatten]
  simp

theorem squeeze_takeWhile_ws (l : List Char) : squeeze (l.takeWhile isWhitespace) = [] :=
  squeeze_of_ws (List.all_eq_true.mp List.all_takeWhile)

theorem squeeze_lightLine (l : List Char) : squeeze (lightLine l) = squeeze l := by
  unfold lightLine
  simp only
  rw [squeeze_trimEnd]
  have hsplit : squeeze l = squeeze (l.dropWhile isWhitespace) := by
    conv => lhs; rw [← List.takeWhile_append_dropWhile (p := isWhitespace) (l := l)]
    rw [squeeze_append, squeeze_takeWhile_ws, List.nil_append]
  rw [hsplit]
  split
  · rename_i h; rw [h]
  · rename_i c rest' h
    split
    · rw [h, squeeze_append]
      have : squeeze (l.takeWhile isWhitespace).getLast?.toList = [] := by
        apply squeeze_of_ws
        intro x hx
        cases hg : (l.takeWhile isWhitespace).getLast? with
        | none => simp [hg] at hx
        | some y =>
          simp only [hg, Option.toList, List.mem_singleton] at hx
          subst hx
          exact List.all_eq_true.mp List.all_takeWhile _ (List.mem_of_getLast? hg)
      rw [this, List.nil_append]
    · rw [h]

theorem squeeze_lightRewriteComment (g nl : List Char) (hnl : squeeze nl = []) :
    squeeze (lightRewriteComment g nl) = squeeze g := by
  unfold lightRewriteComment
  rw [squeeze_intercalate nl hnl, List.map_map]
  have : (squeeze ∘ lightLine) = squeeze := by funext l; exact squeeze_lightLine l
  rw [this, squeeze_rustLines]

/-- The consumed lines are a prefix of the lines. -/
theorem consume_prefix (style : CommentStyle) (ls : List Char) (raws : List (List Char)) :
    ∃ rem, raws = (consumeSameLineComments style ls raws).2 ++ rem := by
  fun_induction consumeSameLineComments style ls raws
  case case3 hrec ih =>
    obtain ⟨rem, hrem⟩ := ih
    rw [hrec] at hrem
    exact ⟨rem, by simp [← hrem]⟩
  all_goals exact ⟨_, rfl⟩

theorem blockGroup_prefix (ol : Nat) (raws : List (List Char)) (first : Bool) (count : Nat) (hbl : Bool) :
    ∃ rem, raws = (blockGroup ol raws first count hbl).2 ++ rem := by
  fun_induction blockGroup ol raws first count hbl
  case case3 | case4 =>
    rename_i hrec ih
    obtain ⟨rem, hrem⟩ := ih
    rw [hrec] at hrem
    exact ⟨rem, by simp [← hrem]⟩
  all_goals exact ⟨_, rfl⟩

/-- The first group is a prefix of the comment. -/
theorem firstGroup_prefix (orig : List Char) :
    ∃ rest, orig = (firstGroupOf orig).2.flatten ++ rest := by
  have hflat : (splitInclusiveGo [] orig).flatten = orig := by
    simpa using splitInclusiveGo_flatten orig []
  have key : ∀ got : List (List Char), (∃ rem, splitInclusiveGo [] orig = got ++ rem) →
      ∃ rest, orig = got.flatten ++ rest := by
    intro got ⟨rem, hrem⟩
    refine ⟨rem.flatten, ?_⟩
    conv => lhs; rw [← hflat, hrem]
    simp
  unfold firstGroupOf
  simp only
  split
  · exact key _ (consume_prefix _ _ _)
  · exact key _ (consume_prefix _ _ _)
  · exact key _ (consume_prefix _ _ _)
  · exact key _ (consume_prefix _ _ _)
  · exact key _ (blockGroup_prefix _ _ _ _ _)

theorem squeeze_popCr (l : List Char) : squeeze (RF.CharClasses.popCr l) = squeeze l := by
  unfold RF.CharClasses.popCr
  split
  · rename_i h
    obtain ⟨l', hl'⟩ := List.getLast?_eq_some_iff.mp h
    subst hl'
    rw [List.dropLast_concat, squeeze_append]
    rw [show squeeze ['\r'] = [] from rfl, List.append_nil]
  · rfl

theorem squeeze_linesGo : ∀ (t : List (RF.CharClasses.Kind × Char)) (start : RF.CharClasses.Kind)
    (acc : List Char) (last : RF.CharClasses.Kind),
    ((RF.CharClasses.linesGo start acc last t).map (fun kl => squeeze kl.2)).flatten =
      squeeze acc ++ squeeze (t.map (·.2)) := by
  intro t
  induction t with
  | nil =>
    intro start acc last
    simp only [RF.CharClasses.linesGo, List.map_cons, List.map_nil, List.flatten_cons,
      List.flatten_nil, List.append_nil, squeeze_popCr, squeeze_nil]
  | cons kc rest ih =>
    intro start acc last
    obtain ⟨k, c⟩ := kc
    simp only [RF.CharClasses.linesGo]
    split
    · rename_i hc
      subst hc
      simp only [List.map_cons, List.flatten_cons, squeeze_popCr, squeeze_cons_newline]
      congr 1
      cases rest with
      | nil => simp only [List.map_nil, List.flatten_nil, squeeze_nil]
      | cons kc' rest' =>
        obtain ⟨k', c'⟩ := kc'
        simp only
        rw [ih k' [] k', squeeze_nil, List.nil_append]
    · rw [ih start (acc ++ [c]) k, squeeze_append, List.append_assoc]
      congr 1
      simp only [List.map_cons]
      exact (squeeze_append [c] _).symm

theorem squeeze_lineClasses (s : List Char) :
    ((RF.CharClasses.lineClasses s).map (fun kl => squeeze kl.2)).flatten = squeeze s := by
  unfold RF.CharClasses.lineClasses RF.CharClasses.lineClassesOf
  have hs := RF.Lemmas.CharClasses.classes_map_snd s
  cases hcl : RF.CharClasses.classes s with
  | nil =>
    rw [hcl] at hs
    simp only [List.map_nil] at hs
    subst hs
    rfl
  | cons kc rest =>
    obtain ⟨k, c⟩ := kc
    simp only
    rw [squeeze_linesGo, ← hcl, hs, squeeze_nil, List.nil_append]

theorem squeeze_of_isEmptyLine {l : List Char} (h : isEmptyLine l = true) : squeeze l = [] := by
  apply squeeze_of_ws
  intro c hc
  exact List.all_eq_true.mp h c hc

theorem squeeze_tlplLines (ts : Nat) (ed : Bool) (render : Bool × List Char × Option Nat → List Char)
    (hr1 : ∀ l p, render (false, l, p) = l)
    (hr2 : ∀ l w, squeeze (render (true, l, some w)) = squeeze l)
    (hr3 : ∀ l, render (true, l, none) = []) :
    ∀ (lines : List (RF.CharClasses.Kind × List Char)) (veto : Bool),
      (((tlplLines ts ed lines veto).1.map render).map squeeze).flatten =
        (lines.map (fun kl => squeeze kl.2)).flatten := by
  intro lines
  induction lines with
  | nil => intro veto; simp [tlplLines]
  | cons kl rest ih =>
    intro veto
    obtain ⟨kind, line⟩ := kl
    simp only [tlplLines, List.map_cons, List.flatten_cons]
    split
    · rename_i hv
      simp only [hr1, ih]
    · simp only [ih]
      congr 1
      cases he : isEmptyLine line with
      | true =>
        simp only [↓reduceIte, hr3, squeeze_nil]
        exact (squeeze_of_isEmptyLine he).symm
      | false => simp [hr2, squeeze_trim]

theorem trimLeftPreserveLayout_content (orig : List Char) (indent : Indent) (config : Config)
    (ed : Bool) (r : List Char) (h : trimLeftPreserveLayout orig indent config ed = some r) :
    squeeze r = squeeze orig := by
  unfold trimLeftPreserveLayout at h
  have hlc := squeeze_lineClasses orig
  split at h
  · simp at h
  · rename_i k first rest hl
    rw [hl] at hlc
    simp only at h
    generalize htl : tlplLines config.tab_spaces ed rest false = tl at h
    obtain ⟨entries, widths⟩ := tl
    simp only at h
    split at h
    · simp at h
    · rename_i w ws
      simp only [Option.some.injEq] at h
      subst h
      rw [squeeze_append, squeeze_append, squeeze_trimEnd, squeeze_nl, List.append_nil,
        squeeze_intercalate ['\n'] squeeze_nl, List.map_map]
      -- the function below is the model's closure that renders an entry, written out so that
      -- `squeeze_tlplLines` applies to it
      have := squeeze_tlplLines config.tab_spaces ed
        (fun e => if (!e.1) = true then e.2.1 else
          match e.2.2 with
          | some originalIndentWidth =>
            (match Indent.from_width config (indent.width + (originalIndentWidth - List.foldl min w ws)) with
              | .ok ni => indentString ni config
              | .error _ => []) ++ e.2.1
          | none => [])
        (by intro l p; simp)
        (by
          intro l w'
          simp only [Bool.not_true, Bool.false_eq_true, ↓reduceIte, squeeze_append]
          have : squeeze (match Indent.from_width config (indent.width + (w' - List.foldl min w ws)) with
              | .ok ni => indentString ni config
              | .error _ => []) = [] := by
            split
            · exact squeeze_of_ws (indentString_ws _ _)
            · rfl
          rw [this, List.nil_append])
        (by intro l; simp)
        rest false
      rw [htl] at this
      simp only [List.map_map] at this
      rw [← hlc]
      simp only [List.map_cons, List.flatten_cons]
      congr 1

/-- **The light rewriter keeps the content of a comment**, for every indentation string made of white
space and every rewriter of bare-line block comments that keeps the content. -/
theorem identifyCommentLight_content (ind : List Char) (hind : squeeze ind = [])
    (bare : List Char → Option (List Char)) (hbare : ∀ g r, bare g = some r → squeeze r = squeeze g) :
    ∀ (fuel : Nat) (orig r : List Char), identifyCommentLight ind bare fuel orig = some r →
      squeeze r = squeeze orig := by
  intro fuel
  induction fuel with
  | zero => intro orig r h; simp [identifyCommentLight] at h
  | succ fuel ih =>
    intro orig r h
    -- the result is the rewritten first group ++ optional line feed ++ indentation ++ the result on
    -- `trimStart rest`, where `orig = group ++ rest`
    obtain ⟨rest, hrest⟩ := firstGroup_prefix orig
    unfold identifyCommentLight at h
    generalize hfg : firstGroupOf orig = fg at h hrest
    obtain ⟨hbl, group⟩ := fg
    simp only at h hrest
    have hdrop : orig.drop group.flatten.length = rest := by
      conv => lhs; rw [hrest]
      simp
    rw [hdrop] at h
    have hnl : squeeze ('\n' :: ind) = [] := (squeeze_cons_newline ind).trans hind
    split at h
    · simp at h  -- the rewriter of the first group failed
    · rename_i rw1 hrw1
      have hfirst : squeeze rw1 = squeeze group.flatten := by
        split at hrw1
        · exact hbare _ _ hrw1
        · simp only [Option.some.injEq] at hrw1
          subst hrw1
          exact squeeze_lightRewriteComment _ _ hnl
      split at h
      · -- nothing behind the first group
        rename_i hre
        simp only [Option.some.injEq] at h
        subst h
        have : rest = [] := List.isEmpty_iff.mp hre
        rw [hfirst]
        conv => rhs; rw [hrest, this]
        simp
      · split at h
        · simp at h  -- the recursive call failed
        · rename_i restStr hrec
          simp only [Option.some.injEq] at h
          subst h
          have hr := ih _ _ hrec
          rw [squeeze_trimStart] at hr
          have hmid : squeeze (if (hbl && (commentStyle orig).isLineComment) = true then ['\n'] else []) = [] := by
            split <;> rfl
          simp only [squeeze_append, hfirst, squeeze_nl, hmid, hind, hr, List.append_nil]
          conv => rhs; rw [hrest, squeeze_append]

/-- `rewriteCommentLight` satisfies the hypothesis of `writeList_content`. -/
theorem rewriteCommentLight_content (config : Config) :
    ∀ c bs sh r, rewriteCommentLight config c bs sh = some r → squeeze r = squeeze c := by
  intro c bs sh r h
  unfold rewriteCommentLight at h
  exact identifyCommentLight_content _ (squeeze_of_ws (indentString_ws sh.indent config)) _
    (fun g r hg => trimLeftPreserveLayout_content g sh.indent config false r hg) _ _ _ h

end RF.Lemmas.ListsRc

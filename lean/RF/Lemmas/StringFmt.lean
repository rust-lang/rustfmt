import RF.Model.StringFmt
import RF.Lemmas.Shape
/-!
Lemmas for `RF/Props/StringFmt.lean`, about the model of src/string.rs.

* `break_string`: where it calls `break_at` (`Calls`, `breakString_cases`) and, relative to its input, what it
  can return (`Step`, `breakString_step`); every later fact about a line it returns is read off `Step`
  (`lenOk`, `payloadOk`, `wordsOk`); the width of the line `break_at` returns (`breakAt_line_width`).
* the loop of `rewrite_string`: an induction over its turns (`loop_ind`), each with its `Step`.
* string literals (`StringLike`): the text the loop writes (`Rebroken`), its value (`valStep`, `Rebroken.value`);
  the continuation regex as a step function (`stripStep`) and its simulation of Rust's reading of a continuation
  (`StripRel`, `strip_sim`); on a text without backslash–line-break (`noBsNl`) stripping what was written gives the
  text back (`strip_copy`, `Restrips`).
* any format: the payload (`Woven`, `BlankIndent`, `loop_payload`).
* comments (`CommentLike`): equations of `words` (`words_append_ws`, `words_take_drop`, …); a step keeps the words when
  every boundary is white space (`NoPunctBreak`, with `noPunctBreakB` as the Boolean that test vectors evaluate and
  `noPunct` as the condition that survives `drop`); the buffer between two pushes (`EndsWs`); `pushFit_words`,
  `loop_words`.
* `rewriteString_ok`, `CfgOf`: from a successful `rewrite_string` on a `StringFormat` to the loop and its constants.
-/
namespace RF.Lemmas.StringFmt
open RF.StringFmt

theorem take_succ_of_getElem? {α : Type} {l : List α} {i : Nat} {c : α} (h : l[i]? = some c) :
    l.take (i + 1) = l.take i ++ [c] := by
  rw [List.take_add_one, h]; rfl

theorem drop_eq_cons_of_getElem? {α : Type} {l : List α} {i : Nat} {c : α} (h : l[i]? = some c) :
    l.drop i = c :: l.drop (i + 1) := by
  rcases List.getElem?_eq_some_iff.mp h with ⟨hlt, rfl⟩
  exact List.drop_eq_getElem_cons hlt

theorem take_eq_snoc {α : Type} {rem : List α} {n : Nat} {c : α} (h1 : 1 ≤ n) (hc : rem[n - 1]? = some c) :
    rem.take n = rem.take (n - 1) ++ [c] := by
  rw [← take_succ_of_getElem? hc, Nat.sub_add_cancel h1]

theorem take_eq_take_append {α : Type} {l : List α} {a b : Nat} (h : a ≤ b) : l.take b = l.take a ++ (l.take b).drop a := by
  conv => lhs; rw [← List.take_append_drop a (l.take b), List.take_take, Nat.min_eq_left h]

theorem drop_split {α : Type} (l : List α) (a b : Nat) (hab : a ≤ b) (hb : b ≤ l.length) :
    l.drop a = (l.take b).drop a ++ l.drop b := by
  have h : (l.take b ++ l.drop b).drop a = (l.take b).drop a ++ l.drop b :=
    List.drop_append_of_le_length (by simp; omega)
  rwa [List.take_append_drop] at h

theorem position_eq_findIdx? (p : Char → Bool) : ∀ l : List Char, position p l = l.findIdx? p
  | [] => rfl
  | c :: r => by rw [position, List.findIdx?_cons, position_eq_findIdx? p r]

theorem position_spec {p : Char → Bool} {l : List Char} {i : Nat} (h : position p l = some i) :
    (∃ c, l[i]? = some c ∧ p c = true) ∧ ∀ j, j < i → ∀ c, l[j]? = some c → p c = false := by
  rw [position_eq_findIdx?, List.findIdx?_eq_some_iff_getElem] at h
  obtain ⟨hi, hp, hb⟩ := h
  refine ⟨⟨l[i], List.getElem?_eq_getElem hi, hp⟩, fun j hj c hc => ?_⟩
  obtain ⟨_, rfl⟩ := List.getElem?_eq_some_iff.mp hc
  simpa using hb j hj

theorem position_lt {p : Char → Bool} {l : List Char} {i : Nat} (h : position p l = some i) : i < l.length := by
  obtain ⟨⟨c, hc, _⟩, _⟩ := position_spec h
  exact (List.getElem?_eq_some_iff.mp hc).1

theorem position_none {p : Char → Bool} {l : List Char} (h : position p l = none) : ∀ c ∈ l, p c = false := by
  rwa [position_eq_findIdx?, List.findIdx?_eq_none_iff] at h

theorem rposition_none {p : Char → Bool} : ∀ {l : List Char}, rposition p l = none → ∀ c ∈ l, p c = false
  | [], _, c, hc => nomatch hc
  | d :: r, h, c, hc => by
    unfold rposition at h
    split at h
    · cases h
    · next hr =>
      split at h
      · cases h
      · next hd =>
        rcases List.mem_cons.mp hc with rfl | hc'
        · simpa using hd
        · exact rposition_none hr c hc'

theorem rposition_spec {p : Char → Bool} : ∀ {l : List Char} {i : Nat}, rposition p l = some i →
    (∃ c, l[i]? = some c ∧ p c = true) ∧ ∀ j, i < j → ∀ c, l[j]? = some c → p c = false
  | [], i, h => by cases h
  | c :: r, i, h => by
    unfold rposition at h
    split at h
    · next j hr =>
      cases h
      obtain ⟨hf, hafter⟩ := rposition_spec hr
      refine ⟨by simpa using hf, fun k hk e he => ?_⟩
      cases k with
      | zero => omega
      | succ k => exact hafter k (by omega) e (by simpa using he)
    · next hr =>
      split at h
      · next hc =>
        cases h
        refine ⟨⟨c, rfl, hc⟩, fun k hk e he => ?_⟩
        cases k with
        | zero => omega
        | succ k => exact rposition_none hr e (List.mem_of_getElem? (by simpa using he))
      · cases h

theorem rposition_lt {p : Char → Bool} {l : List Char} {i : Nat} (h : rposition p l = some i) : i < l.length := by
  obtain ⟨⟨c, hc, _⟩, _⟩ := rposition_spec h
  exact (List.getElem?_eq_some_iff.mp hc).1

/-- white space that is not a line feed: what `break_at` skips on both sides of the break -/
def blank (c : Char) : Bool := isWs c && !isNl c

theorem notWsExceptLf_false {c : Char} : notWsExceptLf c = false ↔ blank c = true := by
  unfold notWsExceptLf blank
  cases isNl c <;> cases isWs c <;> simp

/-- The second loop of `break_at` skips `n` blanks and stops at a line feed, at another grapheme that is not
blank, or at the end. -/
theorem scanRight_spec (te : Bool) : ∀ (l : List Char) (k : Nat),
    match scanRight te l k with
    | .feed i => ∃ n, i = k + n ∧ (l.take n).all blank = true ∧ l[n]? = some '\n' ∧ te = false
    | .stop i => ∃ n c, i = k + n ∧ (l.take n).all blank = true ∧ l[n]? = some c ∧ notWsExceptLf c = true ∧
        (te = false → isNl c = false)
    | .exhausted => l.all blank = true
  | [], k => by simp [scanRight]
  | g :: r, k => by
    rw [scanRight]
    by_cases h1 : (!te && isNl g) = true
    · rw [if_pos h1]
      simp only [Bool.and_eq_true, Bool.not_eq_eq_eq_not, Bool.not_true, isNl, beq_iff_eq] at h1
      exact ⟨0, rfl, rfl, by simp [h1.2], h1.1⟩
    · rw [if_neg h1]
      by_cases h2 : notWsExceptLf g = true
      · rw [if_pos h2]
        exact ⟨0, g, rfl, rfl, rfl, h2, fun hte => by simpa [hte] using h1⟩
      · rw [if_neg h2]
        have hg : blank g = true := notWsExceptLf_false.mp (by simpa using h2)
        have ih := scanRight_spec te r (k + 1)
        generalize scanRight te r (k + 1) = s at ih ⊢
        cases s with
        | feed i =>
          obtain ⟨n, rfl, hb, hn, hte⟩ := ih
          exact ⟨n + 1, by omega, by rw [List.take_succ_cons, List.all_cons, hg, hb]; rfl, hn, hte⟩
        | stop i =>
          obtain ⟨n, c, rfl, hb, hn, hc⟩ := ih
          exact ⟨n + 1, c, by omega, by rw [List.take_succ_cons, List.all_cons, hg, hb]; rfl, hn, hc⟩
        | exhausted => exact (List.all_cons).trans (by rw [hg, ih]; rfl)

theorem maxWidthIndexGo_spec (mw : Nat) : ∀ (l : List Char) (i w ci : Nat), l ≠ [] →
    i ≤ maxWidthIndexGo mw l i w ci ∧ maxWidthIndexGo mw l i w ci < i + l.length ∧
      ∀ j, j < maxWidthIndexGo mw l i w ci - i → w + width (l.take (j + 1)) ≤ mw
  | [], _, _, _, h => absurd rfl h
  | g :: r, i, w, ci, _ => by
    rw [maxWidthIndexGo]
    by_cases hgt : w + cw g > mw
    · rw [if_pos hgt]
      exact ⟨Nat.le_refl _, by simp, fun j hj => by omega⟩
    · rw [if_neg hgt]
      cases r with
      | nil => exact ⟨by simp [maxWidthIndexGo], by simp [maxWidthIndexGo], fun j hj => by simp [maxWidthIndexGo] at hj⟩
      | cons g' r' =>
        obtain ⟨h1, h2, h3⟩ := maxWidthIndexGo_spec mw (g' :: r') (i + 1) (w + cw g) i (by simp)
        simp only [List.length_cons] at h2 ⊢
        refine ⟨by omega, by omega, fun j hj => ?_⟩
        cases j with
        | zero => simp [width]; omega
        | succ j =>
          have := h3 j (by omega)
          rw [List.take_succ_cons, width]
          omega

theorem maxWidthIndex_lt (mw : Nat) (l : List Char) (h : l ≠ []) : maxWidthIndex mw l < l.length := by
  have := (maxWidthIndexGo_spec mw l 0 0 0 h).2.1
  rwa [Nat.zero_add] at this

theorem maxWidthIndex_nil (mw : Nat) : maxWidthIndex mw [] = 0 := rfl

theorem width_append (a b : List Char) : width (a ++ b) = width a + width b := by
  induction a with
  | nil => simp [width]
  | cons c r ih => simp [width, ih]; omega

theorem maxWidthIndex_fits (mw : Nat) (l : List Char) (j : Nat) (h : j < maxWidthIndex mw l) :
    width (l.take (j + 1)) ≤ mw := by
  have hl : l ≠ [] := fun hl => by subst hl; exact absurd h (Nat.not_lt_zero _)
  have := (maxWidthIndexGo_spec mw l 0 0 0 hl).2.2 j h
  rwa [Nat.zero_add] at this

theorem lastValidBelow_spec {input : List Char} : ∀ {n i : Nat}, lastValidBelow input n = some i →
    i < n ∧ isValidLinebreak input i = true ∧ ∀ p, i < p → p < n → isValidLinebreak input p = false
  | 0, _, h => by cases h
  | n + 1, i, h => by
    unfold lastValidBelow at h
    split at h
    · next hv => cases h; exact ⟨by omega, hv, fun p h1 h2 => by omega⟩
    · next hv =>
      obtain ⟨h1, h2, h3⟩ := lastValidBelow_spec h
      refine ⟨by omega, h2, fun p hip hp => ?_⟩
      by_cases hpn : p = n
      · subst hpn; simpa using hv
      · exact h3 p hip (by omega)

theorem lastValidBelow_none {input : List Char} : ∀ {n : Nat}, lastValidBelow input n = none →
    ∀ p, p < n → isValidLinebreak input p = false
  | 0, _, p, hp => by omega
  | n + 1, h, p, hp => by
    unfold lastValidBelow at h
    split at h
    · cases h
    · next hv =>
      by_cases hpn : p = n
      · subst hpn; simpa using hv
      · exact lastValidBelow_none h p (by omega)

theorem firstValidFrom_range {input : List Char} : ∀ {count pos i : Nat}, firstValidFrom input pos count = some i →
    pos ≤ i ∧ i < pos + count ∧ isValidLinebreak input i = true
  | 0, _, _, h => by cases h
  | count + 1, pos, i, h => by
    unfold firstValidFrom at h
    split at h
    · next hv => cases h; exact ⟨by omega, by omega, hv⟩
    · have := firstValidFrom_range h
      exact ⟨by omega, by omega, this.2.2⟩

theorem detectUrl_some {s : List Char} {index e : Nat} (h : detectUrl s index = some e) :
    (∃ pos, position isWs (s.drop index) = some pos ∧ e = index + pos - 1) ∨
      (position isWs (s.drop index) = none ∧ e = s.length - 1) := by
  unfold detectUrl at h
  simp at h
  obtain ⟨_, _, h⟩ := h
  cases hp : position isWs (s.drop index) with
  | none => rw [hp] at h; right; exact ⟨rfl, by cases h; rfl⟩
  | some pos => rw [hp] at h; left; exact ⟨pos, rfl, by cases h; rfl⟩

theorem detectUrl_lt {s : List Char} {index e : Nat} (hi : index < s.length) (h : detectUrl s index = some e) :
    e < s.length := by
  rcases detectUrl_some h with ⟨pos, hp, rfl⟩ | ⟨_, rfl⟩
  · have := position_lt hp
    simp at this
    omega
  · omega

theorem detectUrl_next_ws {s : List Char} {index e : Nat} (hi : 1 ≤ index) (h : detectUrl s index = some e) :
    ∀ c, s[e + 1]? = some c → isWs c = true := by
  intro c hc
  rcases detectUrl_some h with ⟨pos, hp, rfl⟩ | ⟨_, rfl⟩
  · obtain ⟨⟨d, hd, hpd⟩, _⟩ := position_spec hp
    rw [show index + pos - 1 + 1 = index + pos by omega, ← List.getElem?_drop, hd] at hc
    cases hc
    exact hpd
  · have := (List.getElem?_eq_some_iff.mp hc).1
    omega

/-- Where `break_string` calls `break_at`: at a boundary grapheme, or directly before white space (or
at the last grapheme). -/
def CallSite (input : List Char) (index : Nat) : Prop :=
  isValidLinebreak input index = true ∨ ∀ c, input[index + 1]? = some c → isWs c = true

/-- the reasons for which a line may be longer than the width: a URL is detected at the limit, or there is
no boundary (white space, or punctuation outside `::`) between `MIN_STRING` and the limit -/
def Unbreakable (mw : Nat) (input : List Char) : Prop :=
  (detectUrl input (maxWidthIndex mw input)).isSome = true ∨
    ∀ p, MIN_STRING ≤ p → p < maxWidthIndex mw input → isValidLinebreak input p = false

/-- How a stage of the search of `break_string` ends: it gives up (`EndOfInput` with the whole input), or it
calls `break_at` at an index inside the input (no slice of string.rs is out of range), at a `CallSite`, and
before the limit `mwi` unless `late` holds. -/
def Calls (te : Bool) (input : List Char) (mwi : Nat) (late : Prop) (s : Snippet) : Prop :=
  s = .endOfInput input ∨
    ∃ index, index < input.length ∧ CallSite input index ∧ (index < mwi ∨ late) ∧ s = breakAt te input index

theorem Calls.mono {te : Bool} {input : List Char} {mwi : Nat} {late late' : Prop} {s : Snippet} (h : late → late') :
    Calls te input mwi late s → Calls te input mwi late' s
  | .inl h' => .inl h'
  | .inr ⟨i, hi, hcs, hl, hs⟩ => .inr ⟨i, hi, hcs, hl.imp id h, hs⟩

theorem isValidLinebreak_of_isWs {input : List Char} {i : Nat} {c : Char} (h : input[i]? = some c)
    (hc : isWs c = true) : isValidLinebreak input i = true := by
  unfold isValidLinebreak
  simp [h, hc]

theorem searchRight_cases (te : Bool) (input : List Char) (mwi : Nat) :
    Calls te input mwi True (searchRight te input mwi) := by
  unfold searchRight
  cases h : firstValidFrom input mwi (input.length - mwi) with
  | none => exact .inl rfl
  | some index =>
    obtain ⟨h1, h2, h3⟩ := firstValidFrom_range h
    exact .inr ⟨index, by omega, .inl h3, .inr trivial, rfl⟩

theorem searchPunct_cases (te : Bool) (input : List Char) (mwi : Nat) (hm : mwi < input.length) :
    Calls te input mwi (∀ p, MIN_STRING ≤ p → p < mwi → isValidLinebreak input p = false)
      (searchPunct te input mwi) := by
  unfold searchPunct
  cases h : lastValidBelow input mwi with
  | none => exact (searchRight_cases te input mwi).mono fun _ p _ hp => lastValidBelow_none h p hp
  | some index =>
    obtain ⟨h1, h2, h3⟩ := lastValidBelow_spec h
    simp only
    split
    · exact .inr ⟨index, by omega, .inl h2, .inl h1, rfl⟩
    · exact (searchRight_cases te input mwi).mono fun _ p hp1 hp2 => h3 p (by omega) hp2

theorem searchBreak_cases (te : Bool) (input : List Char) (mwi : Nat) (hm : mwi < input.length) :
    Calls te input mwi (∀ p, MIN_STRING ≤ p → p < mwi → isValidLinebreak input p = false)
      (searchBreak te input mwi) := by
  unfold searchBreak
  cases h : rposition isWs (input.take mwi) with
  | none => exact searchPunct_cases te input mwi hm
  | some index =>
    have h1 := rposition_lt h
    simp only [List.length_take] at h1
    have h1' : index < mwi := by omega
    obtain ⟨⟨c, hc, hws⟩, _⟩ := rposition_spec h
    rw [List.getElem?_take, if_pos h1'] at hc
    simp only
    split
    · exact .inr ⟨index, by omega, .inl (isValidLinebreak_of_isWs hc hws), .inl h1', rfl⟩
    · exact searchPunct_cases te input mwi hm

theorem breakString_cases (mw : Nat) (te : Bool) (le input : List Char) :
    Calls te input (maxWidthIndex mw input) (Unbreakable mw input) (breakString mw te le input) := by
  unfold breakString
  simp only
  split
  · exact .inl rfl
  · next hm =>
    have hlt := maxWidthIndex_lt mw input (fun hl => hm (hl ▸ rfl))
    split
    · next hcond =>
      refine .inr ⟨maxWidthIndex mw input - 1, by omega, .inr fun c hc => ?_, .inl (by omega), rfl⟩
      rw [show maxWidthIndex mw input - 1 + 1 = maxWidthIndex mw input by omega] at hc
      simp only [Bool.and_eq_true] at hcond
      simpa [List.getD, hc] using hcond.2
    · cases hu : detectUrl input (maxWidthIndex mw input) with
      | some urlEnd =>
        exact .inr ⟨urlEnd, detectUrl_lt hlt hu, .inr (detectUrl_next_ws (by omega) hu), .inr (.inl (by simp [hu])), rfl⟩
      | none => exact (searchBreak_cases te input _ hlt).mono .inr

/-- `index_minus_ws` of `break_at`. -/
def indexMinusWs (input : List Char) (index : Nat) : Nat :=
  (rposition notWsExceptLf (input.take (index + 1))).getD index

theorem indexMinusWs_le (input : List Char) (index : Nat) : indexMinusWs input index ≤ index := by
  unfold indexMinusWs
  cases h : rposition notWsExceptLf (input.take (index + 1)) with
  | none => simp
  | some j =>
    have := rposition_lt h
    simp at this
    simp; omega

theorem indexMinusWs_blank (input : List Char) (index : Nat) :
    ((input.take (index + 1)).drop (indexMinusWs input index + 1)).all blank = true := by
  unfold indexMinusWs
  rw [List.all_eq_true]
  intro c hc
  apply notWsExceptLf_false.mp
  cases h : rposition notWsExceptLf (input.take (index + 1)) with
  | none => exact rposition_none h c (List.mem_of_mem_drop hc)
  | some j =>
    rw [h] at hc
    obtain ⟨k, hk⟩ := List.mem_iff_getElem?.mp hc
    rw [List.getElem?_drop] at hk
    exact (rposition_spec h).2 _ (by simp; omega) c hk

theorem le_indexMinusWs {input : List Char} {index i : Nat} {c : Char} (hi : i ≤ index) (hc : input[i]? = some c)
    (hn : notWsExceptLf c = true) : i ≤ indexMinusWs input index := by
  have hc' : (input.take (index + 1))[i]? = some c := by rw [List.getElem?_take, if_pos (by omega), hc]
  unfold indexMinusWs
  cases h : rposition notWsExceptLf (input.take (index + 1)) with
  | none => rw [rposition_none h c (List.mem_of_getElem? hc')] at hn; cases hn
  | some j =>
    refine Nat.le_of_not_lt fun hji => ?_
    rw [(rposition_spec h).2 i hji c hc'] at hn
    cases hn

/-- The outcomes of the right half of `break_at`: `n` blanks behind `input[index]` are taken in; then comes a
line feed, another grapheme, or nothing. -/
theorem breakAtRight_cases (te : Bool) (input : List Char) (index imw : Nat) :
    (∃ n, ((input.take (index + 1 + n)).drop (index + 1)).all blank = true ∧ input[index + 1 + n]? = some '\n' ∧
        te = false ∧
        breakAtRight te input index imw = .endWithLineFeed (input.take (index + 1 + n + 1)) (index + 1 + n + 1)) ∨
    (∃ n c, ((input.take (index + 1 + n)).drop (index + 1)).all blank = true ∧ input[index + 1 + n]? = some c ∧
        notWsExceptLf c = true ∧ (te = false → isNl c = false) ∧
        breakAtRight te input index imw =
          .lineEnd (input.take (if te then imw + 1 else index + 1 + n)) (index + 1 + n)) ∨
    ((input.drop (index + 1)).all blank = true ∧
        breakAtRight te input index imw = .endOfInput (if te then input.take (imw + 1) else input)) := by
  unfold breakAtRight
  have hs := scanRight_spec te (input.drop (index + 1)) 0
  generalize scanRight te (input.drop (index + 1)) 0 = s at hs ⊢
  cases s with
  | feed i =>
    obtain ⟨n, rfl, hb, hn, hte⟩ := hs
    rw [List.take_drop] at hb
    rw [List.getElem?_drop] at hn
    refine .inl ⟨n, hb, hn, hte, ?_⟩
    simp only [Nat.zero_add]
    rw [show index + 2 + n = index + 1 + n + 1 by omega]
  | stop i =>
    obtain ⟨n, c, rfl, hb, hn, hc⟩ := hs
    rw [List.take_drop] at hb
    rw [List.getElem?_drop] at hn
    refine .inr (.inl ⟨n, c, hb, hn, hc.1, hc.2, ?_⟩)
    simp only [Nat.zero_add]
    rw [show index + n + 1 = index + 1 + n by omega]
    cases te <;> rfl
  | exhausted => exact .inr (.inr ⟨hs, by cases te <;> rfl⟩)

/-- The outcomes of `break_at`: a line feed in `input[0..=index]` ends the line there; otherwise the
white space to the right is taken in. -/
theorem breakAt_cases (te : Bool) (input : List Char) (index : Nat) :
    (∃ i, i ≤ index ∧ input[i]? = some '\n' ∧ (∀ c ∈ input.take i, isNl c = false) ∧
        breakAt te input index =
          .endWithLineFeed ((if te then trimEndWs (input.take i) else input.take i) ++ ['\n']) (i + 1)) ∨
    ((∀ c ∈ input.take (index + 1), isNl c = false) ∧
        breakAt te input index = breakAtRight te input index (indexMinusWs input index)) := by
  unfold breakAt
  simp only
  cases hp : position isNl (input.take (index + 1)) with
  | none => exact .inr ⟨position_none hp, rfl⟩
  | some i =>
    obtain ⟨⟨c, hc, hpc⟩, hb⟩ := position_spec hp
    have hi : i < index + 1 := by have := position_lt hp; simp at this; omega
    rw [List.getElem?_take, if_pos hi] at hc
    have : c = '\n' := by simpa [isNl] using hpc
    subst this
    -- the line feed is itself `not_whitespace_except_line_feed`, so `index_minus_ws` is at or after it
    have hle : i ≤ (rposition notWsExceptLf (input.take (index + 1))).getD index :=
      le_indexMinusWs (by omega) hc (by decide)
    refine .inl ⟨i, by omega, hc, fun d hd => ?_, by simp [hle]⟩
    obtain ⟨j, hj, rfl⟩ := List.mem_take_iff_getElem.mp hd
    exact hb j (by omega) _ (by rw [List.getElem?_take, if_pos (by omega)]; exact List.getElem?_eq_getElem _)

/-- What one call of `break_string` returns, relative to its input (the flag is `trim_end`). -/
inductive Step : Bool → List Char → Snippet → Prop
  /-- the input cannot be broken -/
  | eoi {te input} : Step te input (.endOfInput input)
  /-- only blanks follow the break point: the input without them, no next line -/
  | eoiTrim {input} (m : Nat) : (input.drop m).all blank = true → Step true input (.endOfInput (input.take m))
  /-- the line up to the first line feed, trimmed -/
  | feedTrim {input} (i : Nat) : input[i]? = some '\n' → (∀ c ∈ input.take i, isNl c = false) →
      Step true input (.endWithLineFeed (trimEndWs (input.take i) ++ ['\n']) (i + 1))
  /-- the first `n` graphemes, the last of which is a line feed -/
  | feed {input} (n : Nat) : 1 ≤ n → input[n - 1]? = some '\n' → Step false input (.endWithLineFeed (input.take n) n)
  /-- `n` graphemes are read, the first `m` of them are the line, the others are blank; the line holds no
  line feed; the cut is next to a blank or a boundary -/
  | lineTrim {input} (m n : Nat) : m ≤ n → 1 ≤ n → n ≤ input.length →
      ((input.take n).drop m).all blank = true → (∀ c ∈ input.take m, isNl c = false) →
      (m < n ∨ CallSite input (n - 1)) → Step true input (.lineEnd (input.take m) n)
  /-- the first `n` graphemes, without a line feed, not ending in a backslash, and the next grapheme is
  not white space -/
  | line {input} (n : Nat) : 1 ≤ n → (∀ c ∈ input.take n, isNl c = false) →
      (∃ c, input[n - 1]? = some c ∧ c ≠ '\\') → (∃ d, input[n]? = some d ∧ isWs d = false) →
      Step false input (.lineEnd (input.take n) n)

theorem all_isWs_of_all_blank {b : List Char} (hb : b.all blank = true) : b.all isWs = true := by
  rw [List.all_eq_true] at hb ⊢
  intro c hc
  have := hb c hc
  simp only [blank, Bool.and_eq_true] at this
  exact this.1

theorem all_blank_no_nl {l : List Char} (h : l.all blank = true) : ∀ c ∈ l, isNl c = false := by
  intro c hc
  have := List.all_eq_true.mp h c hc
  simp only [blank, Bool.and_eq_true, Bool.not_eq_eq_eq_not, Bool.not_true] at this
  exact this.2

theorem isWs_backslash : isWs '\\' = false := by decide

theorem blank_ne_backslash {c : Char} (h : blank c = true) : c ≠ '\\' := by
  intro hc; subst hc; simp [blank, isWs_backslash] at h

theorem valid_ne_backslash {input : List Char} {i : Nat} {c : Char} (h : input[i]? = some c)
    (hv : isValidLinebreak input i = true) : c ≠ '\\' := by
  intro hc; subst hc
  unfold isValidLinebreak at hv
  simp [h, isWs_backslash] at hv

theorem breakAt_step (te : Bool) (input : List Char) (index : Nat) (hi : index < input.length)
    (hcs : CallSite input index) : Step te input (breakAt te input index) := by
  rcases breakAt_cases te input index with ⟨i, _, hnl, hbefore, heq⟩ | ⟨hnonl, heq⟩
  · rw [heq]
    cases te with
    | true => exact Step.feedTrim i hnl hbefore
    | false =>
      rw [if_neg Bool.false_ne_true, ← take_succ_of_getElem? hnl]
      exact Step.feed (i + 1) (by omega) (by simpa using hnl)
  · rw [heq]
    have himw := indexMinusWs_le input index
    have hblank := indexMinusWs_blank input index
    rcases breakAtRight_cases te input index (indexMinusWs input index) with
      ⟨n, hb, hn, rfl, heq2⟩ | ⟨n, c, hb, hn, hc, hcnl, heq2⟩ | ⟨hall, heq2⟩
    · rw [heq2]
      exact Step.feed _ (by omega) (by simpa using hn)
    · rw [heq2]
      have hlen : index + 1 + n < input.length := (List.getElem?_eq_some_iff.mp hn).1
      cases te with
      | true =>
        rw [if_pos rfl]
        refine Step.lineTrim (indexMinusWs input index + 1) (index + 1 + n) (by omega) (by omega) (by omega) ?_
          (fun d hd => hnonl d (List.take_subset_take_left _ (by omega) hd)) ?_
        · -- the blanks before `index`, then the blanks taken in
          rw [drop_split (input.take (index + 1 + n)) (indexMinusWs input index + 1) (index + 1) (by omega)
            (by simp; omega), List.take_take, Nat.min_eq_left (by omega), List.all_append, hblank, hb]
          rfl
        · by_cases hm : indexMinusWs input index + 1 < index + 1 + n
          · exact .inl hm
          · rw [show index + 1 + n - 1 = index by omega]
            exact .inr hcs
      | false =>
        have hcws : isWs c = false := by simpa [notWsExceptLf, hcnl rfl] using hc
        rw [if_neg Bool.false_ne_true]
        refine Step.line _ (by omega) (fun d hd => ?_) ?_ ⟨c, hn, hcws⟩
        · rw [take_eq_take_append (show index + 1 ≤ index + 1 + n by omega)] at hd
          exact (List.mem_append.mp hd).elim (hnonl d) (all_blank_no_nl hb d)
        · -- the last grapheme of the line: `input[index]` at a call site, or one of the blanks
          refine ⟨_, List.getElem?_eq_getElem (show index + 1 + n - 1 < input.length by omega), ?_⟩
          cases n with
          | zero =>
            rcases hcs with hv | hnx
            · exact valid_ne_backslash (List.getElem?_eq_getElem _) hv
            · rw [hnx c hn] at hcws; cases hcws
          | succ n =>
            refine blank_ne_backslash (List.all_eq_true.mp hb _ (List.mem_of_getElem? (i := n) ?_))
            rw [List.getElem?_drop, List.getElem?_take, if_pos (by omega)]
            exact List.getElem?_eq_getElem _
    · rw [heq2]
      cases te with
      | true =>
        refine Step.eoiTrim (indexMinusWs input index + 1) ?_
        rw [drop_split input (indexMinusWs input index + 1) (index + 1) (by omega) (by omega),
          List.all_append, hblank, hall]
        rfl
      | false => exact Step.eoi

theorem breakString_step (mw : Nat) (te : Bool) (le input : List Char) :
    Step te input (breakString mw te le input) := by
  rcases breakString_cases mw te le input with h | ⟨index, hi, hcs, _, h⟩
  · rw [h]; exact Step.eoi
  · rw [h]; exact breakAt_step te input index hi hcs

theorem trimEndWs_append_ws (a b : List Char) (hb : b.all isWs = true) : trimEndWs (a ++ b) = trimEndWs a := by
  unfold trimEndWs
  rw [List.reverse_append]
  have : ∀ (x y : List Char), x.all isWs = true → (x ++ y).dropWhile isWs = y.dropWhile isWs := by
    intro x y hx
    induction x with
    | nil => rfl
    | cons c r ih =>
      simp only [List.all_cons, Bool.and_eq_true] at hx
      simp [hx.1, ih hx.2]
  rw [this _ _ (by simpa using hb)]

theorem trimEndWs_prefix (a : List Char) : ∃ rest, a = trimEndWs a ++ rest := by
  refine ⟨(a.reverse.takeWhile isWs).reverse, ?_⟩
  rw [trimEndWs, ← List.reverse_append, List.takeWhile_append_dropWhile, List.reverse_reverse]

theorem width_trimEndWs_le (a : List Char) : width (trimEndWs a) ≤ width a := by
  obtain ⟨rest, h⟩ := trimEndWs_prefix a
  have := congrArg width h
  rw [width_append] at this
  omega

theorem width_take_le (l : List Char) (a b : Nat) (h : a ≤ b) : width (l.take a) ≤ width (l.take b) := by
  rw [take_eq_take_append h, width_append]
  omega

theorem breakAt_line_width (te : Bool) (input : List Char) (index : Nat) :
    match breakAt te input index with
    | .endOfInput _ => True
    | .lineEnd line _ | .endWithLineFeed line _ => width (trimEndWs line) ≤ width (input.take (index + 1)) := by
  have himw := indexMinusWs_le input index
  rcases breakAt_cases te input index with ⟨i, hle, _, _, heq⟩ | ⟨_, heq⟩
  · rw [heq]
    show width (trimEndWs (_ ++ ['\n'])) ≤ _
    rw [trimEndWs_append_ws _ _ (by decide)]
    have h1 := width_take_le input i (index + 1) (by omega)
    have h2 := width_trimEndWs_le (input.take i)
    cases te with
    | false => exact Nat.le_trans h2 h1
    | true => exact Nat.le_trans (width_trimEndWs_le _) (Nat.le_trans h2 h1)
  · rw [heq]
    have hsplit : ∀ n, input.take (index + 1 + n) = input.take (index + 1) ++ (input.take (index + 1 + n)).drop (index + 1) :=
      fun n => take_eq_take_append (by omega)
    rcases breakAtRight_cases te input index (indexMinusWs input index) with
      ⟨n, hb, hn, _, heq2⟩ | ⟨n, c, hb, _, _, _, heq2⟩ | ⟨_, heq2⟩
    · rw [heq2]
      show width (trimEndWs (input.take (index + 1 + n + 1))) ≤ _
      rw [take_succ_of_getElem? hn, trimEndWs_append_ws _ _ (by decide), hsplit,
        trimEndWs_append_ws _ _ (all_isWs_of_all_blank hb)]
      exact width_trimEndWs_le _
    · rw [heq2]
      show width (trimEndWs (input.take _)) ≤ _
      cases te with
      | false =>
        rw [if_neg Bool.false_ne_true, hsplit, trimEndWs_append_ws _ _ (all_isWs_of_all_blank hb)]
        exact width_trimEndWs_le _
      | true => exact Nat.le_trans (width_trimEndWs_le _) (width_take_le _ _ _ (by rw [if_pos rfl]; omega))
    · rw [heq2]
      trivial

/-- `EndOfInput` carries the whole input (under `trim_end`: without the blanks at its end); the length read by
the other two is at least one grapheme and at most the input (`graphemes[cur_start..]` of the next turn is
in range). -/
def lenOk (input : List Char) : Snippet → Prop
  | .endOfInput l => ∃ m, l = input.take m ∧ (input.drop m).all blank = true
  | .lineEnd _ n => 1 ≤ n ∧ n ≤ input.length
  | .endWithLineFeed _ n => 1 ≤ n ∧ n ≤ input.length

theorem Step.len_bounds {te : Bool} {input : List Char} {s : Snippet} (h : Step te input s) : lenOk input s := by
  cases h with
  | eoi => exact ⟨input.length, by simp, by simp⟩
  | eoiTrim m hb => exact ⟨m, rfl, hb⟩
  | feedTrim i hnl _ =>
    have := (List.getElem?_eq_some_iff.mp hnl).1
    exact ⟨by omega, by omega⟩
  | feed n h1 hnl =>
    have := (List.getElem?_eq_some_iff.mp hnl).1
    exact ⟨h1, by omega⟩
  | lineTrim m n _ h1 h2 _ _ _ => exact ⟨h1, h2⟩
  | line n h1 _ _ hd' =>
    obtain ⟨d, hd, _⟩ := hd'
    have := (List.getElem?_eq_some_iff.mp hd).1
    exact ⟨h1, by omega⟩

/-- The loop of `rewrite_string` ends before the fuel does: every turn consumes a grapheme. -/
theorem loop_fuel (k : LoopCfg) : ∀ (fuel : Nat) (rem acc : List Char) (curMax : Nat),
    rem.length < fuel → (loop k fuel rem acc curMax).isSome = true
  | 0, _, _, _, h => by omega
  | fuel + 1, rem, acc, curMax, h => by
    unfold loop
    have hb := (breakString_step curMax k.trimEnd k.lineEnd rem).len_bounds
    split
    · rfl
    · split
      · next heq =>
        rw [heq] at hb
        exact loop_fuel k fuel _ _ _ (by simp only [lenOk, List.length_drop] at hb ⊢; omega)
      · next heq =>
        rw [heq] at hb
        split <;> exact loop_fuel k fuel _ _ _ (by simp only [lenOk, List.length_drop] at hb ⊢; omega)
      · rfl

/-- Induction over the turns of the loop: a property of (what is left of the input, the buffer, the final
buffer) that holds when the loop stops and is carried back over a `LineEnd` and an `EndWithLineFeed` turn holds
of every run.  Each turn comes with the `Step` that `break_string` made. -/
theorem loop_ind (k : LoopCfg) {P : List Char → List Char → List Char → Prop}
    (fit : ∀ rem acc, P rem acc (trimEndButLf k.trimEnd (pushFit k rem acc)))
    (eoi : ∀ rem acc line, Step k.trimEnd rem (.endOfInput line) → P rem acc (pushStr acc line))
    (line : ∀ rem acc line len res, Step k.trimEnd rem (.lineEnd line len) →
      P (rem.drop len) (pushStr (pushStr (pushStr (pushStr acc line) k.lineEnd) k.indentNl) k.lineStart) res →
      P rem acc res)
    (feed : ∀ rem acc line len res, Step k.trimEnd rem (.endWithLineFeed line len) →
      P (rem.drop len)
        (if k.bareOk then feedAcc k acc line else pushStr (pushStr (feedAcc k acc line) k.indentNoNl) k.lineStart)
        res →
      P rem acc res) :
    ∀ (fuel : Nat) (rem acc : List Char) (curMax : Nat) (res : List Char),
      loop k fuel rem acc curMax = some res → P rem acc res := by
  intro fuel rem acc curMax
  fun_induction loop k fuel rem acc curMax with
  | case1 => exact fun _ h => nomatch h
  | case2 fuel rem acc curMax _ =>
    intro _ h
    cases h
    exact fit rem acc
  | case3 fuel rem acc curMax _ l len heq ih =>
    exact fun res h => line _ _ _ _ _ (heq ▸ breakString_step curMax k.trimEnd k.lineEnd rem) (ih res h)
  | case4 fuel rem acc curMax _ l len heq hb ih =>
    refine fun res h => feed _ _ _ _ _ (heq ▸ breakString_step curMax k.trimEnd k.lineEnd rem) ?_
    rw [if_pos hb]
    exact ih res h
  | case5 fuel rem acc curMax _ l len heq hb ih =>
    refine fun res h => feed _ _ _ _ _ (heq ▸ breakString_step curMax k.trimEnd k.lineEnd rem) ?_
    rw [if_neg hb]
    exact ih res h
  | case6 fuel rem acc curMax _ l heq =>
    intro _ h
    cases h
    exact eoi _ _ _ (heq ▸ breakString_step curMax k.trimEnd k.lineEnd rem)

theorem rewriteRaw_some {k : LoopCfg} {opener closer orig r : List Char}
    (h : rewriteRaw k opener closer orig = some r) :
    ∃ acc, loop k ((stripLineBreaks orig).length + 1) (stripLineBreaks orig) opener.reverse k.mwWith = some acc ∧
      r = acc.reverse ++ closer := by
  unfold rewriteRaw at h
  simp only at h
  split at h
  · next acc hl => cases h; exact ⟨acc, hl, by simp [pushStr]⟩
  · cases h

/-- one character of the scanner `strValueGo`: what it emits and the next state -/
def valStep : ValState → Char → List Char × ValState
  | .normal, c => if c == '\\' then ([], .esc) else ([c], .normal)
  | .esc, c => if c == '\n' then ([], .skip) else (['\\', c], .normal)
  | .skip, c => if isContWs c then ([], .skip) else if c == '\\' then ([], .esc) else ([c], .normal)

def valOut : ValState → List Char → List Char
  | _, [] => []
  | st, c :: r => (valStep st c).1 ++ valOut (valStep st c).2 r

def valEnd : ValState → List Char → ValState
  | st, [] => st
  | st, c :: r => valEnd (valStep st c).2 r

theorem strValueGo_cons (st : ValState) (c : Char) (r : List Char) :
    strValueGo st (c :: r) = (valStep st c).1 ++ strValueGo (valStep st c).2 r := by
  cases st <;> rw [strValueGo, valStep]
  · cases c == '\\' <;> rfl
  · cases c == '\n' <;> rfl
  · cases isContWs c <;> cases c == '\\' <;> rfl

theorem strValueGo_append (st : ValState) (x y : List Char) :
    strValueGo st (x ++ y) = valOut st x ++ strValueGo (valEnd st x) y := by
  induction x generalizing st with
  | nil => simp [valOut, valEnd]
  | cons c r ih =>
    simp only [List.cons_append, strValueGo_cons, valOut, valEnd, ih, List.append_assoc]

theorem valEnd_append (st : ValState) (x y : List Char) : valEnd st (x ++ y) = valEnd (valEnd st x) y := by
  induction x generalizing st with
  | nil => rfl
  | cons c r ih => simp only [List.cons_append, valEnd, ih]

theorem valStep_ne_esc (st : ValState) {c : Char} (hc : c ≠ '\\') : (valStep st c).2 ≠ .esc := by
  cases st <;> simp only [valStep] <;> (repeat' split) <;> simp_all

theorem valEnd_ne_esc (st : ValState) {x : List Char} {c : Char} (hc : c ≠ '\\') :
    valEnd st (x ++ [c]) ≠ .esc := by
  rw [valEnd_append]
  exact valStep_ne_esc _ hc

theorem isWs_of_isContWs {c : Char} (h : isContWs c = true) : isWs c = true := by
  unfold isContWs at h
  simp only [Bool.or_eq_true, beq_iff_eq] at h
  rcases h with ((rfl | rfl) | rfl) | rfl <;> decide

theorem strValueGo_skip_ws (ws y : List Char) (h : ws.all isContWs = true) :
    strValueGo .skip (ws ++ y) = strValueGo .skip y := by
  induction ws with
  | nil => rfl
  | cons c r ih =>
    simp only [List.all_cons, Bool.and_eq_true] at h
    simp only [List.cons_append, strValueGo, h.1, if_true, ih h.2]

/-- A line continuation (backslash, line feed, white space) read outside an escape denotes nothing. -/
theorem strValueGo_continuation {st : ValState} (hst : st ≠ .esc) (ws y : List Char)
    (h : ws.all isContWs = true) : strValueGo st ('\\' :: '\n' :: (ws ++ y)) = strValueGo .skip y := by
  cases st with
  | esc => exact absurd rfl hst
  | normal => simp [strValueGo, strValueGo_skip_ws ws y h]
  | skip =>
    have : isContWs '\\' = false := by decide
    simp [strValueGo, this, strValueGo_skip_ws ws y h]

/-- before a character that a continuation does not swallow, "skipping" is the same as "normal" -/
theorem strValueGo_skip_eq {st : ValState} (hst : st ≠ .esc) {y : List Char}
    (hy : ∀ d r, y = d :: r → isContWs d = false) : strValueGo .skip y = strValueGo st y := by
  cases st with
  | esc => exact absurd rfl hst
  | skip => rfl
  | normal =>
    cases y with
    | nil => rfl
    | cons d r => simp [strValueGo, hy d r rfl]

/-- The format of a string literal as far as the loop is concerned: nothing is trimmed, a line ends in a
backslash, the next one starts after a line feed and blanks or tabs. -/
structure StringLike (k : LoopCfg) : Prop where
  trim : k.trimEnd = false
  lineEnd : k.lineEnd = ['\\']
  bare : k.bareOk = true
  indent : ∃ t, k.indentNl = '\n' :: t ∧ t.all isContWs = true
  lineStart : k.lineStart.all isContWs = true

theorem pushFit_verbatim (k : LoopCfg) (ht : k.trimEnd = false) (hb : k.bareOk = true) :
    ∀ (rem acc : List Char), pushFit k rem acc = rem.reverse ++ acc
  | [], acc => by simp [pushFit]
  | g :: r, acc => by
    unfold pushFit
    split
    · rename_i hg
      have hg' : g = '\n' := by simpa [isNl] using hg
      simp only [trimEndButLf, ht, hb]
      simp only [Bool.false_eq_true, if_false, Bool.not_true, Bool.false_and]
      rw [pushFit_verbatim k ht hb]
      simp [hg']
    · rw [pushFit_verbatim k ht hb]
      simp

/-- What the loop of `rewrite_string` writes for `rem` in the format of a string literal (`sep` is the
indentation and the line start): `rem` itself; or a first piece that ends in a line feed, then the rest
re-broken; or a first piece that does not end in a backslash, a line continuation, and the rest, which does not
start with white space, re-broken. -/
inductive Rebroken (sep : List Char) : List Char → List Char → Prop
  | all (rem : List Char) : Rebroken sep rem rem
  | feed {rem mid : List Char} (n : Nat) : 1 ≤ n → rem[n - 1]? = some '\n' → Rebroken sep (rem.drop n) mid →
      Rebroken sep rem (rem.take n ++ mid)
  | line {rem mid : List Char} (n : Nat) : 1 ≤ n → (∃ c, rem[n - 1]? = some c ∧ c ≠ '\\') →
      (∃ d, rem[n]? = some d ∧ isWs d = false) → Rebroken sep (rem.drop n) mid →
      Rebroken sep rem (rem.take n ++ '\\' :: '\n' :: (sep ++ mid))

theorem loop_rebroken (k : LoopCfg) (hk : StringLike k) : ∃ sep, sep.all isContWs = true ∧
    ∀ (fuel : Nat) (rem acc : List Char) (curMax : Nat) (acc' : List Char),
      loop k fuel rem acc curMax = some acc' → ∃ mid, acc' = mid.reverse ++ acc ∧ Rebroken sep rem mid := by
  obtain ⟨t, hnl, ht⟩ := hk.indent
  refine ⟨t ++ k.lineStart, by rw [List.all_append, ht, hk.lineStart]; rfl, ?_⟩
  refine loop_ind k (fun rem acc => ?_) (fun rem acc line hs => ?_) (fun rem acc line len acc' hs ih => ?_)
    (fun rem acc line len acc' hs ih => ?_)
  · refine ⟨rem, ?_, .all rem⟩
    rw [pushFit_verbatim k hk.trim hk.bare]
    simp [trimEndButLf, hk.trim]
  · rw [hk.trim] at hs
    cases hs
    exact ⟨rem, by simp [pushStr], .all rem⟩
  · rw [hk.trim] at hs
    obtain ⟨mid', rfl, hr⟩ := ih
    cases hs with
    | line _ h1 _ hlast hnext =>
      refine ⟨_, ?_, .line len h1 hlast hnext hr⟩
      rw [hk.lineEnd, hnl]
      simp [pushStr]
  · rw [hk.trim] at hs
    rw [hk.bare, if_pos rfl] at ih
    obtain ⟨mid', rfl, hr⟩ := ih
    cases hs with
    | feed _ h1 hnl' => exact ⟨_, by simp [feedAcc, hk.trim, pushStr], .feed len h1 hnl' hr⟩

theorem Rebroken.value {sep rem mid : List Char} (hsep : sep.all isContWs = true) (h : Rebroken sep rem mid) :
    ∀ st, st ≠ .esc → strValueGo st mid = strValueGo st rem := by
  induction h with
  | all => exact fun _ _ => rfl
  | @feed rem mid n h1 hnl _ ih =>
    intro st _
    have hs1 : valEnd st (rem.take n) ≠ .esc := by
      rw [take_eq_snoc h1 hnl]
      exact valEnd_ne_esc st (by decide)
    rw [strValueGo_append, ih _ hs1, ← strValueGo_append, List.take_append_drop]
  | @line rem mid n h1 hlast hnext _ ih =>
    intro st _
    obtain ⟨c, hc, hcb⟩ := hlast
    obtain ⟨d, hd, hdws⟩ := hnext
    -- after the piece the scanner is outside an escape, so the continuation denotes nothing; and the
    -- rest starts with a grapheme that a continuation does not swallow
    have hs1 : valEnd st (rem.take n) ≠ .esc := by
      rw [take_eq_snoc h1 hc]
      exact valEnd_ne_esc st hcb
    rw [strValueGo_append, strValueGo_continuation hs1 sep mid hsep, ih .skip (by simp),
      strValueGo_skip_eq hs1 (y := rem.drop n) (fun d' r' hd' => ?_), ← strValueGo_append,
      List.take_append_drop]
    rw [drop_eq_cons_of_getElem? hd] at hd'
    cases hd'
    cases hcw : isContWs d with
    | false => rfl
    | true => rw [isWs_of_isContWs hcw] at hdws; cases hdws

theorem rewriteRaw_value {k : LoopCfg} (hk : StringLike k) {opener closer orig r : List Char}
    (h : rewriteRaw k opener closer orig = some r) :
    ∃ body, r = opener ++ body ++ closer ∧ strValue body = strValue (stripLineBreaks orig) := by
  obtain ⟨acc, hl, rfl⟩ := rewriteRaw_some h
  obtain ⟨sep, hsep, hloop⟩ := loop_rebroken k hk
  obtain ⟨mid, rfl, hr⟩ := hloop _ _ _ _ _ hl
  exact ⟨mid, by simp, hr.value hsep .normal (by simp)⟩

/-- one character of the matcher `stripGo`: what it emits and the next state -/
def stripStep : ReState → Char → List Char × ReState
  | .start, c => ([c], if c == '\\' then .start else .even)
  | .even, c => if c == '\\' then ([], .odd) else ([c], .even)
  | .odd, c =>
    if c == '\\' then (['\\', '\\'], .even) else if c == '\n' || c == '\r' then ([], .space) else (['\\', c], .even)
  | .space, c => if isContWs c then ([], .space) else if c == '\\' then ([], .spaceBs) else ([c], .even)
  | .spaceBs, c =>
    if c == '\n' || c == '\r' then ([], .space) else if c == '\\' then (['\\', '\\'], .start) else (['\\', c], .even)

theorem stripGo_cons (rs : ReState) (c : Char) (r : List Char) :
    stripGo rs (c :: r) = (stripStep rs c).1 ++ stripGo (stripStep rs c).2 r := by
  cases rs <;> rw [stripGo, stripStep]
  · cases c == '\\' <;> rfl
  · cases c == '\\' <;> rfl
  · cases c == '\\' <;> cases (c == '\n' || c == '\r') <;> rfl
  · cases isContWs c <;> cases c == '\\' <;> rfl
  · cases (c == '\n' || c == '\r') <;> cases c == '\\' <;> rfl

/-- How the matcher (`stripGo`), the scanner over what the matcher has emitted (`vo`) and the scanner over
the original text (`vi`) stand to each other between two characters. -/
inductive StripRel : ReState → ValState → ValState → Prop
  | start (v : ValState) : StripRel .start v v
  | even (v : ValState) : v ≠ .esc → StripRel .even v v
  | odd (v : ValState) : v ≠ .esc → StripRel .odd v .esc
  | space (v : ValState) : v ≠ .esc → StripRel .space v .skip
  | spaceBs (v : ValState) : v ≠ .esc → StripRel .spaceBs v .esc

theorem isContWs_backslash : isContWs '\\' = false := by decide

theorem valStep_bs {v : ValState} (hv : v ≠ .esc) : valStep v '\\' = ([], .esc) := by
  cases v <;> first | rfl | exact absurd rfl hv

theorem valStep_plain {v : ValState} {c : Char} (hv : v ≠ .esc) (hw : isContWs c = false) (hb : c ≠ '\\') :
    valStep v c = ([c], .normal) := by
  cases v <;> simp_all [valStep]

theorem stripRel_step {rs : ReState} {vo vi : ValState} (hr : StripRel rs vo vi) {c : Char} (hc : c ≠ '\r') :
    valOut vo (stripStep rs c).1 = (valStep vi c).1 ∧
      StripRel (stripStep rs c).2 (valEnd vo (stripStep rs c).1) (valStep vi c).2 := by
  have hcr : (c == '\r') = false := by simpa using hc
  -- a character that is copied: both scanners read it in the same state
  have copy : ∀ v, c ≠ '\\' → valOut v [c] = (valStep v c).1 ∧ StripRel .even (valEnd v [c]) (valStep v c).2 :=
    fun v h1 => ⟨List.append_nil _, .even _ (valStep_ne_esc v h1)⟩
  -- a backslash that was held back, then `c`: the scanner of the output reads both now
  have held : vo ≠ .esc → c ≠ '\n' → ∀ rs', StripRel rs' .normal .normal →
      valOut vo ['\\', c] = (valStep .esc c).1 ∧ StripRel rs' (valEnd vo ['\\', c]) (valStep .esc c).2 := by
    intro hv h2 rs' h
    have he : valStep .esc c = (['\\', c], .normal) := by simp [valStep, h2]
    simp only [valOut, valEnd, valStep_bs hv, he]
    exact ⟨rfl, h⟩
  by_cases h1 : c = '\\'
  · subst h1
    cases hr with
    | start _ => exact ⟨List.append_nil _, .start _⟩
    | even _ hv => rw [valStep_bs hv]; exact ⟨rfl, .odd vo hv⟩
    | odd _ hv => exact held hv (by decide) _ (.even _ (by decide))
    | space _ hv => exact ⟨rfl, .spaceBs vo hv⟩
    | spaceBs _ hv => exact held hv (by decide) _ (.start _)
  · have hb : (c == '\\') = false := by simpa using h1
    cases hr with
    | start _ => simp only [stripStep, hb]; exact copy vo h1
    | even _ hv => simp only [stripStep, hb]; exact copy vo h1
    | odd _ hv =>
      by_cases h2 : c = '\n'
      · subst h2; exact ⟨rfl, .space vo hv⟩
      · have hn : (c == '\n') = false := by simpa using h2
        simp only [stripStep, hb, hn, hcr, Bool.or_self, Bool.false_eq_true, if_false]
        exact held hv h2 _ (.even _ (by decide))
    | space _ hv =>
      cases hw : isContWs c with
      | true => simp only [stripStep, valStep, hw, if_true]; exact ⟨rfl, .space vo hv⟩
      | false =>
        simp only [stripStep, hw, hb, Bool.false_eq_true, if_false, valOut, valEnd, valStep_plain hv hw h1,
          valStep_plain (v := .skip) (by decide) hw h1]
        exact ⟨rfl, .even _ (by decide)⟩
    | spaceBs _ hv =>
      by_cases h2 : c = '\n'
      · subst h2; exact ⟨rfl, .space vo hv⟩
      · have hn : (c == '\n') = false := by simpa using h2
        simp only [stripStep, hb, hn, hcr, Bool.or_self, Bool.false_eq_true, if_false]
        exact held hv h2 _ (.even _ (by decide))

/-- Stripping the continuations the regex finds does not change the value, as long as there is no bare
carriage return (the regex takes backslash-CR for a continuation, Rust does not). -/
theorem strip_sim : ∀ (s : List Char), (∀ c ∈ s, c ≠ '\r') → ∀ (rs : ReState) (vo vi : ValState),
    StripRel rs vo vi → strValueGo vo (stripGo rs s) = strValueGo vi s
  | [], _, rs, vo, vi, hr => by
    cases hr with
    | start _ => cases vo <;> rfl
    | even _ _ => cases vo <;> rfl
    | odd _ hv => cases vo <;> first | rfl | exact absurd rfl hv
    | space _ hv => cases vo <;> first | rfl | exact absurd rfl hv
    | spaceBs _ hv => cases vo <;> first | rfl | exact absurd rfl hv
  | c :: r, hcr, rs, vo, vi, hr => by
    obtain ⟨ho, hr'⟩ := stripRel_step hr (hcr c (by simp))
    rw [stripGo_cons, strValueGo_append, strValueGo_cons, ho,
      strip_sim r (fun d hd => hcr d (by simp [hd])) _ _ _ hr']

/-- `b` is `a` with blocks from `ds` inserted. -/
inductive Woven {α : Type} (ds : List (List α)) : List α → List α → Prop
  | nil : Woven ds [] []
  | keep (c : α) {a b : List α} : Woven ds a b → Woven ds (c :: a) (c :: b)
  | ins (d : List α) {a b : List α} : d ∈ ds → Woven ds a b → Woven ds a (d ++ b)

theorem Woven.refl {α : Type} (ds : List (List α)) : ∀ a, Woven ds a a
  | [] => .nil
  | c :: a => .keep c (Woven.refl ds a)

theorem Woven.append {α : Type} {ds : List (List α)} {a1 b1 a2 b2 : List α} (h1 : Woven ds a1 b1)
    (h2 : Woven ds a2 b2) : Woven ds (a1 ++ a2) (b1 ++ b2) := by
  induction h1 with
  | nil => simpa using h2
  | keep c _ ih => simpa using Woven.keep c ih
  | ins d hd _ ih => simpa [List.append_assoc] using Woven.ins d hd ih

theorem payload_append (a b : List Char) : payload (a ++ b) = payload a ++ payload b := by
  simp [payload]

theorem payload_reverse (a : List Char) : payload a.reverse = (payload a).reverse := by
  simp [payload, List.filter_reverse]

theorem payload_cons (c : Char) (r : List Char) :
    payload (c :: r) = if isWs c then payload r else c :: payload r := by
  cases h : isWs c <;> simp [payload, h]

theorem payload_of_all_ws {a : List Char} (h : a.all isWs = true) : payload a = [] := by
  rw [payload, List.filter_eq_nil_iff]
  intro c hc
  simp [List.all_eq_true.mp h c hc]

theorem payload_of_all_blank {a : List Char} (h : a.all blank = true) : payload a = [] :=
  payload_of_all_ws (all_isWs_of_all_blank h)

/-- dropping leading white space (of the reversed buffer: trailing white space) keeps the payload -/
theorem payload_dropWhile {q : Char → Bool} (hq : ∀ c, q c = true → isWs c = true) :
    ∀ l : List Char, payload (l.dropWhile q) = payload l
  | [] => rfl
  | c :: r => by
    rw [List.dropWhile_cons]
    split
    · next hc => rw [payload_dropWhile hq r, payload_cons, if_pos (hq c hc)]
    · rfl

theorem payload_trimEndButLf (te : Bool) (acc : List Char) : payload (trimEndButLf te acc) = payload acc := by
  unfold trimEndButLf
  split
  · exact payload_dropWhile (by intro c hc; simp at hc; exact hc.1) acc
  · rfl

theorem payload_trimEndWs (l : List Char) : payload (trimEndWs l) = payload l := by
  unfold trimEndWs
  rw [payload_reverse, payload_dropWhile (fun _ h => h), payload_reverse, List.reverse_reverse]

theorem payload_pushStr (acc s : List Char) : payload (pushStr acc s).reverse = payload acc.reverse ++ payload s := by
  simp [pushStr, payload_append]

/-- the two decorations of a format: what stands between two lines, as payload -/
def decorations (k : LoopCfg) : List (List Char) :=
  [payload k.lineEnd ++ payload k.lineStart, payload k.lineStart]

/-- the indentation strings carry no payload -/
structure BlankIndent (k : LoopCfg) : Prop where
  nl : k.indentNl.all isWs = true
  noNl : k.indentNoNl.all isWs = true

theorem pushFit_payload (k : LoopCfg) (hk : BlankIndent k) : ∀ (rem acc : List Char),
    ∃ X, payload (pushFit k rem acc).reverse = payload acc.reverse ++ X ∧ Woven (decorations k) (payload rem) X
  | [], acc => ⟨[], by simp [pushFit], .nil⟩
  | g :: r, acc => by
    rw [pushFit, payload_cons]
    by_cases hg : isNl g = true
    · obtain rfl : g = '\n' := by simpa [isNl] using hg
      rw [if_pos hg, if_pos (by decide)]
      have hnl : payload ('\n' :: trimEndButLf k.trimEnd acc).reverse = payload acc.reverse := by
        rw [payload_reverse, payload_cons, if_pos (by decide), payload_trimEndButLf, payload_reverse]
      simp only
      split
      · obtain ⟨X, hX, hW⟩ := pushFit_payload k hk r
          (pushStr (pushStr ('\n' :: trimEndButLf k.trimEnd acc) k.indentNoNl) k.lineStart)
        refine ⟨payload k.lineStart ++ X, ?_, Woven.ins _ (by simp [decorations]) hW⟩
        rw [hX, payload_pushStr, payload_pushStr, hnl, payload_of_all_ws hk.noNl]
        simp
      · obtain ⟨X, hX, hW⟩ := pushFit_payload k hk r ('\n' :: trimEndButLf k.trimEnd acc)
        exact ⟨X, by rw [hX, hnl], hW⟩
    · rw [if_neg hg]
      obtain ⟨X, hX, hW⟩ := pushFit_payload k hk r (g :: acc)
      rw [List.reverse_cons, payload_append, payload_cons, List.append_assoc] at hX
      by_cases hgws : isWs g = true
      · rw [if_pos hgws] at hX ⊢
        exact ⟨X, hX, hW⟩
      · rw [if_neg hgws] at hX ⊢
        exact ⟨g :: X, hX, .keep g hW⟩

/-- the payload of the line a step returns is the payload of what it read -/
def payloadOk (input : List Char) : Snippet → Prop
  | .endOfInput l => payload l = payload input
  | .lineEnd l n => payload l = payload (input.take n)
  | .endWithLineFeed l n => payload l = payload (input.take n)

theorem Step.payload_line {te : Bool} {input : List Char} {s : Snippet} (h : Step te input s) :
    payloadOk input s := by
  cases h with
  | eoi => rfl
  | eoiTrim m hb =>
    show payload (input.take m) = payload input
    conv => rhs; rw [← List.take_append_drop m input]
    rw [payload_append, payload_of_all_blank hb, List.append_nil]
  | feedTrim i hnl _ =>
    show payload (trimEndWs (input.take i) ++ ['\n']) = payload (input.take (i + 1))
    rw [take_succ_of_getElem? hnl, payload_append, payload_append, payload_trimEndWs]
  | feed n _ _ => rfl
  | lineTrim m n hmn _ hn hblank _ _ =>
    show payload (input.take m) = payload (input.take n)
    rw [take_eq_take_append hmn, payload_append, payload_of_all_blank hblank, List.append_nil]
  | line n _ _ _ _ => rfl

theorem payload_take_drop (l : List Char) (n : Nat) : payload (l.take n) ++ payload (l.drop n) = payload l := by
  rw [← payload_append, List.take_append_drop]

theorem loop_payload (k : LoopCfg) (hk : BlankIndent k) : ∀ (fuel : Nat) (rem acc : List Char) (curMax : Nat)
    (acc' : List Char), loop k fuel rem acc curMax = some acc' →
    ∃ X, payload acc'.reverse = payload acc.reverse ++ X ∧ Woven (decorations k) (payload rem) X := by
  refine loop_ind k (fun rem acc => ?_) (fun rem acc line hs => ?_) (fun rem acc line len acc' hs ih => ?_)
    (fun rem acc line len acc' hs ih => ?_)
  · obtain ⟨X, hX, hW⟩ := pushFit_payload k hk rem acc
    exact ⟨X, by rw [payload_reverse, payload_trimEndButLf, ← payload_reverse, hX], hW⟩
  · have hp : payload line = payload rem := hs.payload_line
    exact ⟨payload line, payload_pushStr _ _, hp ▸ Woven.refl _ _⟩
  · have hp : payload line = payload (rem.take len) := hs.payload_line
    obtain ⟨X, hX, hW⟩ := ih
    refine ⟨payload (rem.take len) ++ ((payload k.lineEnd ++ payload k.lineStart) ++ X), ?_, ?_⟩
    · rw [hX, payload_pushStr, payload_pushStr, payload_pushStr, payload_pushStr, hp, payload_of_all_ws hk.nl]
      simp
    · rw [← payload_take_drop rem len]
      exact Woven.append (Woven.refl _ _) (Woven.ins _ (by simp [decorations]) hW)
  · have hp : payload line = payload (rem.take len) := hs.payload_line
    have hfeed : payload (feedAcc k acc line).reverse = payload acc.reverse ++ payload (rem.take len) := by
      unfold feedAcc
      rw [payload_pushStr, hp]
      split
      · rw [payload_reverse, payload_dropWhile (fun _ h => h), ← payload_reverse]
      · rfl
    obtain ⟨X, hX, hW⟩ := ih
    rw [← payload_take_drop rem len]
    split at hX
    · exact ⟨payload (rem.take len) ++ X, by rw [hX, hfeed, List.append_assoc],
        Woven.append (Woven.refl _ _) hW⟩
    · refine ⟨payload (rem.take len) ++ (payload k.lineStart ++ X), ?_,
        Woven.append (Woven.refl _ _) (Woven.ins _ (by simp [decorations]) hW)⟩
      rw [hX, payload_pushStr, payload_pushStr, hfeed, payload_of_all_ws hk.noNl]
      simp

theorem rewriteRaw_payload {k : LoopCfg} (hk : BlankIndent k) {opener closer orig r : List Char}
    (h : rewriteRaw k opener closer orig = some r) :
    ∃ X, payload r = payload opener ++ X ++ payload closer ∧
      Woven (decorations k) (payload (stripLineBreaks orig)) X := by
  obtain ⟨acc, hl, rfl⟩ := rewriteRaw_some h
  obtain ⟨X, hX, hW⟩ := loop_payload k hk _ _ _ _ _ hl
  exact ⟨X, by rw [payload_append, hX, List.reverse_reverse], hW⟩

/-- no backslash directly in front of a line feed or a carriage return: nothing for the continuation
regex to find -/
def noBsNl : List Char → Bool
  | [] => true
  | [_] => true
  | c :: d :: r => !(c == '\\' && (d == '\n' || d == '\r')) && noBsNl (d :: r)

/-- the text does not start with a line break (so a backslash in front of it is not a continuation) -/
def headNotNl : List Char → Bool
  | [] => true
  | c :: _ => !(c == '\n' || c == '\r')

/-- the text does not start with something a continuation swallows -/
def headNotContWs : List Char → Bool
  | [] => true
  | c :: _ => !isContWs c

theorem noBsNl_tail {c : Char} {r : List Char} (h : noBsNl (c :: r) = true) : noBsNl r = true := by
  cases r with
  | nil => rfl
  | cons d r' => simp [noBsNl] at h; exact h.2

theorem noBsNl_head_bs {r : List Char} (h : noBsNl ('\\' :: r) = true) : headNotNl r = true := by
  cases r with
  | nil => rfl
  | cons d r' =>
    simp only [noBsNl, beq_self_eq_true, Bool.true_and, Bool.and_eq_true, Bool.not_eq_eq_eq_not, Bool.not_true] at h
    simp [headNotNl, h.1]

theorem isContWs_of_nl {c : Char} (h : (c == '\n' || c == '\r') = true) : isContWs c = true := by
  simp only [Bool.or_eq_true, beq_iff_eq] at h
  rcases h with rfl | rfl <;> decide

/-- A text without backslash–line-break is copied, whatever the state of the matcher; when it does not end in
a backslash the matcher is then ready for a match (`even`), whatever comes behind it. -/
theorem strip_copy : ∀ (l x : List Char), noBsNl l = true → (x = [] ∨ ∃ z, l.getLast? = some z ∧ z ≠ '\\') →
    stripGo .start (l ++ x) = l ++ stripGo .even x ∧ stripGo .even (l ++ x) = l ++ stripGo .even x ∧
    (headNotNl l = true → stripGo .odd (l ++ x) = '\\' :: (l ++ stripGo .even x) ∧
      stripGo .spaceBs (l ++ x) = '\\' :: (l ++ stripGo .even x)) ∧
    (headNotContWs l = true → stripGo .space (l ++ x) = l ++ stripGo .even x)
  | [], x, _, hx => by
    obtain rfl : x = [] := by simpa using hx
    simp [stripGo]
  | [c], x, _, hx => by
    by_cases hc : c = '\\'
    · -- a text that ends in a backslash is only allowed at the end: the matcher flushes the backslash it holds
      obtain rfl : x = [] := by simpa [hc] using hx
      subst hc
      simp [stripGo_cons, stripStep, stripGo, isContWs_backslash]
    · -- any other character is copied from every state (the head conditions rule out the other arms)
      have hb : (c == '\\') = false := by simpa using hc
      simp +contextual [stripGo_cons, stripStep, hb, headNotNl, headNotContWs]
  | c :: d :: r, x, h, hx => by
    have ih := strip_copy (d :: r) x (noBsNl_tail h) (by rwa [List.getLast?_cons_cons] at hx)
    rw [List.cons_append]
    generalize (d :: r) ++ x = y at ih ⊢
    simp only [stripGo_cons _ c]
    by_cases hc : c = '\\'
    · -- a backslash is held back (`even`, `space`) or released with the one held (`odd`, `spaceBs`); no line
      -- break follows it (`noBsNl_head_bs`), so the tail releases it: the `odd` / `spaceBs` parts of `ih`
      subst hc
      have hodd := ih.2.2.1 (noBsNl_head_bs h)
      simp [stripStep, ih.1, ih.2.1, hodd.1, hodd.2, isContWs_backslash]
    · -- any other character is copied and leaves the matcher in `even`: the `even` part of `ih`
      have hb : (c == '\\') = false := by simpa using hc
      simp +contextual [stripStep, hb, ih.2.1, headNotNl, headNotContWs]

theorem noBsNl_append : ∀ (a b : List Char), noBsNl (a ++ b) = true → noBsNl a = true ∧ noBsNl b = true
  | [], b, h => ⟨rfl, h⟩
  | [c], b, h => ⟨rfl, noBsNl_tail h⟩
  | c :: d :: r, b, h => by
    have h' : noBsNl (c :: d :: (r ++ b)) = true := h
    simp only [noBsNl, Bool.and_eq_true] at h'
    have ih := noBsNl_append (d :: r) b h'.2
    refine ⟨?_, ih.2⟩
    simp only [noBsNl, Bool.and_eq_true]
    exact ⟨h'.1, ih.1⟩

theorem stripGo_space_ws (ws y : List Char) (h : ws.all isContWs = true) :
    stripGo .space (ws ++ y) = stripGo .space y := by
  induction ws with
  | nil => rfl
  | cons c r ih =>
    simp only [List.all_cons, Bool.and_eq_true] at h
    rw [List.cons_append, stripGo_cons]
    simp only [stripStep, h.1, if_true, List.nil_append]
    exact ih h.2

/-- from `start`, from `even`, and (if `rem` does not begin with continuation white space) from `space`, the
matcher turns `mid` into `rem` -/
def Restrips (mid rem : List Char) : Prop :=
  stripGo .start mid = rem ∧ stripGo .even mid = rem ∧ (headNotContWs rem = true → stripGo .space mid = rem)

theorem restrips_self {l : List Char} (h : noBsNl l = true) : Restrips l l := by
  have hc := strip_copy l [] h (.inl rfl)
  simp only [List.append_nil, stripGo] at hc
  exact ⟨hc.1, hc.2.1, hc.2.2.2⟩

/-- a piece that does not end in a backslash, then (optionally after a line continuation) something that
strips to the rest -/
theorem restrips_piece {l rest mid' : List Char} {z : Char} (hl : noBsNl (l ++ [z]) = true) (hz : z ≠ '\\')
    (hrest : stripGo .even mid' = rest) : Restrips (l ++ [z] ++ mid') (l ++ [z] ++ rest) := by
  have hc := strip_copy (l ++ [z]) mid' hl (.inr ⟨z, by simp, hz⟩)
  refine ⟨by rw [hc.1, hrest], by rw [hc.2.1, hrest], fun hh => ?_⟩
  rw [hc.2.2.2 (by cases l <;> simpa [headNotContWs] using hh), hrest]

theorem Rebroken.restrips {sep rem mid : List Char} (hsep : sep.all isContWs = true) (h : Rebroken sep rem mid) :
    noBsNl rem = true → Restrips mid rem := by
  induction h with
  | all rem => exact restrips_self
  | @feed rem mid n h1 hnl _ ih =>
    intro hno
    have hsplit := noBsNl_append (rem.take n) (rem.drop n) (by rw [List.take_append_drop]; exact hno)
    rw [take_eq_snoc h1 hnl] at hsplit
    have := restrips_piece hsplit.1 (by decide) (ih hsplit.2).2.1
    rwa [← take_eq_snoc h1 hnl, List.take_append_drop] at this
  | @line rem mid n h1 hlast hnext _ ih =>
    intro hno
    obtain ⟨c, hc, hcb⟩ := hlast
    obtain ⟨d, hd, hdws⟩ := hnext
    have hsplit := noBsNl_append (rem.take n) (rem.drop n) (by rw [List.take_append_drop]; exact hno)
    have hhead : headNotContWs (rem.drop n) = true := by
      rw [drop_eq_cons_of_getElem? hd]
      cases hcw : isContWs d with
      | false => simp [headNotContWs, hcw]
      | true => rw [isWs_of_isContWs hcw] at hdws; cases hdws
    -- the continuation the loop wrote is one match of the pattern
    have hsep' : stripGo .even ('\\' :: '\n' :: (sep ++ mid)) = rem.drop n := by
      rw [stripGo_cons, stripGo_cons]
      show stripGo .space _ = _
      rw [stripGo_space_ws _ _ hsep, (ih hsplit.2).2.2 hhead]
    rw [take_eq_snoc h1 hc] at hsplit
    have := restrips_piece hsplit.1 hcb hsep'
    rwa [← take_eq_snoc h1 hc, List.take_append_drop] at this

theorem stripLineBreaks_of_noBsNl {orig : List Char} (hno : noBsNl orig = true) : stripLineBreaks orig = orig :=
  (restrips_self hno).1

/-- Stripping the continuations of a re-broken literal gives back the text that was broken: the second
pass of `rewrite_string` starts from the same graphemes as the first. -/
theorem rewriteRaw_restrip {k : LoopCfg} (hk : StringLike k) {opener closer orig r : List Char}
    (hno : noBsNl orig = true) (h : rewriteRaw k opener closer orig = some r) :
    ∃ body, r = opener ++ body ++ closer ∧ stripLineBreaks body = orig := by
  have hid := stripLineBreaks_of_noBsNl hno
  obtain ⟨acc, hl, rfl⟩ := rewriteRaw_some h
  obtain ⟨sep, hsep, hloop⟩ := loop_rebroken k hk
  rw [hid] at hl
  obtain ⟨mid, rfl, hr⟩ := hloop _ _ _ _ _ hl
  exact ⟨mid, by simp, (hr.restrips hsep hno).1⟩

theorem wordsGo_cur (s cur : List Char) (hs : s.all isWs = true) : wordsGo s cur = if cur.isEmpty then [] else [cur.reverse] := by
  induction s generalizing cur with
  | nil => simp [wordsGo]
  | cons c r ih =>
    simp only [List.all_cons, Bool.and_eq_true] at hs
    simp only [wordsGo, hs.1, if_true]
    split
    · rw [ih [] hs.2]; simp
    · rw [ih [] hs.2]; simp

theorem wordsGo_ws (a b : List Char) (w : Char) (hw : isWs w = true) (cur : List Char) :
    wordsGo (a ++ w :: b) cur = wordsGo a cur ++ wordsGo b [] := by
  induction a generalizing cur with
  | nil =>
    simp only [List.nil_append, wordsGo, hw, if_true]
    split <;> simp
  | cons c r ih =>
    simp only [List.cons_append, wordsGo]
    split
    · split
      · exact ih []
      · simp [ih []]
    · exact ih (c :: cur)

theorem words_append_ws (a b : List Char) (w : Char) (hw : isWs w = true) :
    words (a ++ w :: b) = words a ++ words b :=
  wordsGo_ws a b w hw []

theorem words_cons_ws (b : List Char) (w : Char) (hw : isWs w = true) : words (w :: b) = words b :=
  words_append_ws [] b w hw

theorem words_snoc_ws (a : List Char) (w : Char) (hw : isWs w = true) : words (a ++ [w]) = words a := by
  rw [words_append_ws a [] w hw]
  exact List.append_nil _

theorem words_ws_prefix (ws b : List Char) (h : ws.all isWs = true) : words (ws ++ b) = words b := by
  induction ws with
  | nil => rfl
  | cons c r ih =>
    simp only [List.all_cons, Bool.and_eq_true] at h
    rw [List.cons_append, words_cons_ws _ _ h.1, ih h.2]

theorem words_append_all_ws : ∀ (ws a : List Char), ws.all isWs = true → words (a ++ ws) = words a
  | [], a, _ => by simp
  | w :: r, a, h => by
    simp only [List.all_cons, Bool.and_eq_true] at h
    have : a ++ w :: r = (a ++ [w]) ++ r := by simp
    rw [this, words_append_all_ws r (a ++ [w]) h.2, words_snoc_ws _ _ h.1]

theorem words_all_ws {ws : List Char} (h : ws.all isWs = true) : words ws = [] :=
  wordsGo_cur ws [] h

/-- a nonempty run of white space between two texts separates their words -/
theorem words_sep (a ws b : List Char) (hws : ws.all isWs = true) (hne : ws ≠ []) :
    words (a ++ ws ++ b) = words a ++ words b := by
  cases ws with
  | nil => exact absurd rfl hne
  | cons w r =>
    simp only [List.all_cons, Bool.and_eq_true] at hws
    rw [List.append_assoc, List.cons_append, words_append_ws _ _ _ hws.1, words_ws_prefix _ _ hws.2]

theorem words_dropWhile_rev {q : Char → Bool} (hq : ∀ c, q c = true → isWs c = true) (acc : List Char) :
    words (acc.dropWhile q).reverse = words acc.reverse := by
  have h : acc = acc.takeWhile q ++ acc.dropWhile q := (List.takeWhile_append_dropWhile).symm
  conv => rhs; rw [h]
  rw [List.reverse_append, words_append_all_ws]
  rw [List.all_eq_true]
  intro c hc
  exact hq c (List.all_eq_true.mp List.all_takeWhile c (List.mem_reverse.mp hc))

theorem words_trimEndButLf_rev (te : Bool) (acc : List Char) :
    words (trimEndButLf te acc).reverse = words acc.reverse := by
  unfold trimEndButLf
  split
  · exact words_dropWhile_rev (by intro c hc; simp at hc; exact hc.1) acc
  · rfl

theorem words_trimEndWs (l : List Char) : words (trimEndWs l) = words l := by
  unfold trimEndWs
  rw [words_dropWhile_rev (fun _ h => h), List.reverse_reverse]

/-- the cut of a text next to a white-space character (before it, after it) or at its end keeps the words -/
theorem words_take_drop (l : List Char) (n : Nat)
    (h : l.length ≤ n ∨ (∃ c, l[n]? = some c ∧ isWs c = true) ∨ (1 ≤ n ∧ ∃ c, l[n - 1]? = some c ∧ isWs c = true)) :
    words (l.take n) ++ words (l.drop n) = words l := by
  rcases h with h | ⟨c, hc, hw⟩ | ⟨h1, c, hc, hw⟩
  · rw [List.take_of_length_le h, List.drop_of_length_le h]; simp [words, wordsGo]
  · conv => rhs; rw [← List.take_append_drop n l]
    rw [drop_eq_cons_of_getElem? hc, words_append_ws _ _ _ hw, words_cons_ws _ _ hw]
  · have htake := take_eq_snoc h1 hc
    have hl : l = l.take (n - 1) ++ c :: l.drop n := by
      conv => lhs; rw [← List.take_append_drop n l, htake]
      simp
    rw [htake, words_snoc_ws _ _ hw]
    conv => rhs; rw [hl, words_append_ws _ _ _ hw]

/-- every boundary of the text is white space: no punctuation that `break_string` could break after -/
def NoPunctBreak (input : List Char) : Prop :=
  ∀ p c, input[p]? = some c → isValidLinebreak input p = true → isWs c = true

/-- the words of the line a step returns, then those of what is left, are the words of its input -/
def wordsOk (input : List Char) : Snippet → Prop
  | .endOfInput l => words l = words input
  | .lineEnd l n => words l ++ words (input.drop n) = words input
  | .endWithLineFeed l n => words l ++ words (input.drop n) = words input

/-- **One step of `break_string` keeps the words**, when the text offers no punctuation to break after:
the words of the line followed by the words of what is left are the words of the input. -/
theorem Step.words_ok {input : List Char} (hnp : NoPunctBreak input) {s : Snippet} (h : Step true input s) :
    wordsOk input s := by
  have hnlws : isWs '\n' = true := by decide
  cases h with
  | eoi => rfl
  | eoiTrim m hb =>
    show words (input.take m) = words input
    conv => rhs; rw [← List.take_append_drop m input]
    rw [words_append_all_ws _ _ (all_isWs_of_all_blank hb)]
  | feedTrim i hnl _ =>
    show words (trimEndWs (input.take i) ++ ['\n']) ++ words (input.drop (i + 1)) = words input
    rw [words_snoc_ws _ _ hnlws, words_trimEndWs]
    conv => rhs; rw [← List.take_append_drop i input]
    rw [drop_eq_cons_of_getElem? hnl, words_append_ws _ _ _ hnlws]
  | lineTrim m len hmn h1 hn hblank _ hcut =>
    show words (input.take m) ++ words (input.drop len) = words input
    have hbws := all_isWs_of_all_blank hblank
    by_cases hlt : m < len
    · -- the cut is in front of the blanks that are dropped
      have hm : m < input.length := by omega
      have hcb : isWs input[m] = true := by
        refine List.all_eq_true.mp hbws _ (List.mem_of_getElem? (i := 0) ?_)
        rw [List.getElem?_drop, List.getElem?_take, Nat.add_zero, if_pos hlt]
        exact List.getElem?_eq_getElem hm
      rw [← words_take_drop input m (.inr (.inl ⟨_, List.getElem?_eq_getElem hm, hcb⟩)),
        drop_split input m len hmn hn, words_ws_prefix _ _ hbws]
    · obtain rfl : m = len := by omega
      rcases hcut with hlt' | hv | hnext
      · omega
      · have hl : m - 1 < input.length := by omega
        exact words_take_drop input m (.inr (.inr ⟨h1, _, List.getElem?_eq_getElem hl,
          hnp (m - 1) _ (List.getElem?_eq_getElem hl) hv⟩))
      · rw [Nat.sub_add_cancel h1] at hnext
        by_cases hend : input.length ≤ m
        · exact words_take_drop input m (.inl hend)
        · have hm : m < input.length := by omega
          exact words_take_drop input m (.inr (.inl ⟨_, List.getElem?_eq_getElem hm,
            hnext _ (List.getElem?_eq_getElem hm)⟩))

/-- `NoPunctBreak` as a computation -/
def noPunctBreakB (input : List Char) : Bool :=
  (List.range input.length).all (fun p => !isValidLinebreak input p || isWs (input.getD p ' '))

theorem noPunctBreak_of_B {input : List Char} (h : noPunctBreakB input = true) : NoPunctBreak input := by
  intro p c hc hv
  have hp : p < input.length := (List.getElem?_eq_some_iff.mp hc).1
  have := List.all_eq_true.mp h p (List.mem_range.mpr hp)
  simp only [hv, Bool.not_true, Bool.false_or] at this
  simpa [List.getD, hc] using this

/-- the buffer (reversed) is empty or ends in white space: what is pushed next starts a new word -/
def EndsWs (acc : List Char) : Prop := acc = [] ∨ ∃ w r, acc = w :: r ∧ isWs w = true

theorem words_push {acc : List Char} (h : EndsWs acc) (x : List Char) :
    words (pushStr acc x).reverse = words acc.reverse ++ words x := by
  unfold pushStr
  rcases h with rfl | ⟨w, r, rfl, hw⟩
  · simp [words, wordsGo]
  · simp only [List.reverse_append, List.reverse_reverse, List.reverse_cons, List.append_assoc, List.singleton_append]
    rw [words_append_ws _ _ _ hw, words_snoc_ws _ _ hw]

/-- The format of a comment as far as the words are concerned: trimmed lines, no line end, blank
indentation, a line start that is empty or ends in white space. -/
structure CommentLike (k : LoopCfg) : Prop where
  trim : k.trimEnd = true
  lineEnd : k.lineEnd = []
  blank : BlankIndent k
  nlNe : k.indentNl ≠ []
  bare : k.bareOk = k.lineStart.all isWs
  lineStart : k.lineStart = [] ∨ ∃ l w, k.lineStart = l ++ [w] ∧ isWs w = true

theorem endsWs_push {acc s : List Char} (hs : ∀ c, s.getLast? = some c → isWs c = true)
    (hacc : EndsWs acc ∨ s ≠ []) : EndsWs (pushStr acc s) := by
  unfold pushStr
  cases hr : s.reverse with
  | nil => exact hacc.resolve_right (· (List.reverse_eq_nil_iff.mp hr))
  | cons c t => exact .inr ⟨c, _, rfl, hs c (by rw [← List.head?_reverse, hr]; rfl)⟩

theorem endsWs_push_lineStart {k : LoopCfg} (hk : CommentLike k) {acc ind : List Char}
    (hind : ind.all isWs = true) (hacc : EndsWs acc ∨ ind ≠ []) :
    EndsWs (pushStr (pushStr acc ind) k.lineStart) := by
  refine endsWs_push (fun c hc => ?_)
    (.inl (endsWs_push (fun c hc => List.all_eq_true.mp hind c (List.mem_of_getLast? hc)) hacc))
  rcases hk.lineStart with h | ⟨l, w, h, hw⟩
  · rw [h] at hc; cases hc
  · rw [h, List.getLast?_concat] at hc
    cases hc
    exact hw

theorem words_push_indent {k : LoopCfg} {acc ind : List Char} (hind : ind.all isWs = true)
    (hacc : EndsWs acc ∨ ind ≠ []) :
    words (pushStr (pushStr acc ind) k.lineStart).reverse = words acc.reverse ++ words k.lineStart := by
  by_cases hne : ind = []
  · subst hne
    exact words_push (hacc.resolve_right (· rfl)) k.lineStart
  · unfold pushStr
    rw [List.reverse_append, List.reverse_append, List.reverse_reverse, List.reverse_reverse]
    exact words_sep _ _ _ hind hne

/-- no punctuation at all (a backslash apart): then every boundary `break_string` can use is white space,
in the text and in everything that is left of it later -/
def noPunct (l : List Char) : Bool := l.all (fun c => !isPunct c || c == '\\')

theorem noPunctBreak_of_noPunct {l : List Char} (h : noPunct l = true) : NoPunctBreak l := by
  intro p c hc hv
  have hg : l.getD p ' ' = c := by simp [List.getD, hc]
  simp only [isValidLinebreak, hg] at hv
  have hmem : c ∈ l := List.mem_of_getElem? hc
  have hnp := List.all_eq_true.mp h c hmem
  cases hw : isWs c with
  | true => rfl
  | false =>
    exfalso
    simp only [hw, Bool.false_or, Bool.and_eq_true] at hv
    obtain ⟨⟨hp, hb⟩, _⟩ := hv
    simp only [hp, Bool.not_true, Bool.false_or, beq_iff_eq] at hnp
    subst hnp
    simp at hb

theorem noPunct_drop {l : List Char} (n : Nat) (h : noPunct l = true) : noPunct (l.drop n) = true := by
  unfold noPunct at h ⊢
  rw [List.all_eq_true] at h ⊢
  exact fun c hc => h c (List.mem_of_mem_drop hc)

theorem endsWs_cons_ws {w : Char} (hw : isWs w = true) (acc : List Char) : EndsWs (w :: acc) :=
  Or.inr ⟨w, acc, rfl, hw⟩

/-- "All the input fits": the words of what is pushed are the words of the input, with the words of the
line start after every line feed that gets one.  `seg` is what has been pushed of the current line. -/
theorem pushFit_words (k : LoopCfg) (hk : CommentLike k) : ∀ (rem seg acc : List Char), EndsWs acc →
    ∃ X, words (pushFit k rem (seg.reverse ++ acc)).reverse = words acc.reverse ++ X ∧
      Woven [words k.lineStart] (words (seg ++ rem)) X
  | [], seg, acc, hacc => ⟨words seg, words_push hacc seg, by rw [List.append_nil]; exact Woven.refl _ _⟩
  | g :: r, seg, acc, hacc => by
    have hnlws : isWs '\n' = true := by decide
    rw [pushFit]
    by_cases hg : isNl g = true
    · rw [if_pos hg]
      obtain rfl : g = '\n' := by simpa [isNl] using hg
      -- the buffer after the line feed (and the decoration, if any)
      have hbase : words ('\n' :: trimEndButLf k.trimEnd (seg.reverse ++ acc)).reverse = words acc.reverse ++ words seg := by
        rw [List.reverse_cons, words_snoc_ws _ _ hnlws, words_trimEndButLf_rev]
        exact words_push hacc seg
      have hE1 : EndsWs ('\n' :: trimEndButLf k.trimEnd (seg.reverse ++ acc)) := endsWs_cons_ws hnlws _
      rw [words_append_ws _ _ _ hnlws]
      simp only
      split
      · obtain ⟨X, hX, hW⟩ := pushFit_words k hk r [] _ (endsWs_push_lineStart hk hk.blank.noNl (.inl hE1))
        refine ⟨words seg ++ (words k.lineStart ++ X), ?_,
          Woven.append (Woven.refl _ _) (Woven.ins _ (by simp) hW)⟩
        rw [List.reverse_nil, List.nil_append] at hX
        rw [hX, words_push_indent hk.blank.noNl (.inl hE1), hbase]
        simp
      · obtain ⟨X, hX, hW⟩ := pushFit_words k hk r [] _ hE1
        rw [List.reverse_nil, List.nil_append] at hX
        exact ⟨words seg ++ X, by rw [hX, hbase, List.append_assoc], Woven.append (Woven.refl _ _) hW⟩
    · rw [if_neg hg]
      have := pushFit_words k hk r (seg ++ [g]) acc hacc
      rwa [List.reverse_append, List.reverse_singleton, List.singleton_append, List.cons_append,
        List.append_assoc, List.singleton_append] at this

theorem loop_words (k : LoopCfg) (hk : CommentLike k) : ∀ (fuel : Nat) (rem acc : List Char) (curMax : Nat)
    (acc' : List Char), loop k fuel rem acc curMax = some acc' → noPunct rem = true → EndsWs acc →
    ∃ X, words acc'.reverse = words acc.reverse ++ X ∧ Woven [words k.lineStart] (words rem) X := by
  have hnlws : isWs '\n' = true := by decide
  refine loop_ind k (fun rem acc hnp hacc => ?_) (fun rem acc line hs hnp hacc => ?_)
    (fun rem acc line len acc' hs ih hnp hacc => ?_) (fun rem acc line len acc' hs ih hnp hacc => ?_)
  · obtain ⟨X, hX, hW⟩ := pushFit_words k hk rem [] acc hacc
    exact ⟨X, by rw [words_trimEndButLf_rev]; exact hX, hW⟩
  · rw [hk.trim] at hs
    have hw : words line = words rem := hs.words_ok (noPunctBreak_of_noPunct hnp)
    exact ⟨words line, words_push hacc line, hw ▸ Woven.refl _ _⟩
  · rw [hk.trim] at hs
    have hw : words line ++ words (rem.drop len) = words rem := hs.words_ok (noPunctBreak_of_noPunct hnp)
    rw [hk.lineEnd] at ih
    obtain ⟨X, hX, hW⟩ := ih (noPunct_drop len hnp)
      (endsWs_push_lineStart (acc := pushStr (pushStr acc line) []) hk hk.blank.nl (.inr hk.nlNe))
    refine ⟨words line ++ (words k.lineStart ++ X), ?_, ?_⟩
    · rw [hX, words_push_indent hk.blank.nl (.inr hk.nlNe)]
      show words (pushStr acc line).reverse ++ _ ++ _ = _
      rw [words_push hacc line]
      simp
    · rw [← hw]
      exact Woven.append (Woven.refl _ _) (Woven.ins _ (by simp) hW)
  · rw [hk.trim] at hs
    have hw : words line ++ words (rem.drop len) = words rem := hs.words_ok (noPunctBreak_of_noPunct hnp)
    obtain ⟨l0, rfl⟩ : ∃ l0, line = l0 ++ ['\n'] := by
      cases hs with
      | feedTrim i _ _ => exact ⟨_, rfl⟩
    have hF : words (feedAcc k acc (l0 ++ ['\n'])).reverse = words acc.reverse ++ words (l0 ++ ['\n']) := by
      unfold feedAcc
      split
      · next hc =>
        simp only [Bool.and_eq_true, beq_iff_eq] at hc
        rw [hc.1]
        simp only [pushStr, List.reverse_cons, List.reverse_nil, List.nil_append, List.reverse_append]
        rw [words_snoc_ws _ _ hnlws, words_dropWhile_rev (fun _ h => h)]
        simp [words, wordsGo, hnlws]
      · exact words_push hacc _
    have hEF : EndsWs (feedAcc k acc (l0 ++ ['\n'])) := by
      unfold feedAcc pushStr
      simp only [List.reverse_append, List.reverse_cons, List.reverse_nil, List.nil_append, List.cons_append]
      exact endsWs_cons_ws hnlws _
    rw [← hw]
    split at ih
    · obtain ⟨X, hX, hW⟩ := ih (noPunct_drop len hnp) hEF
      exact ⟨words (l0 ++ ['\n']) ++ X, by rw [hX, hF, List.append_assoc], Woven.append (Woven.refl _ _) hW⟩
    · obtain ⟨X, hX, hW⟩ := ih (noPunct_drop len hnp) (endsWs_push_lineStart hk hk.blank.noNl (.inl hEF))
      refine ⟨words (l0 ++ ['\n']) ++ (words k.lineStart ++ X), ?_,
        Woven.append (Woven.refl _ _) (Woven.ins _ (by simp) hW)⟩
      rw [hX, words_push_indent hk.blank.noNl (.inl hEF), hF]
      simp

theorem rewriteRaw_words {k : LoopCfg} (hk : CommentLike k) {orig r : List Char}
    (hnp : noPunct (stripLineBreaks orig) = true) (h : rewriteRaw k [] [] orig = some r) :
    Woven [words k.lineStart] (words (stripLineBreaks orig)) (words r) := by
  obtain ⟨acc, hl, rfl⟩ := rewriteRaw_some h
  obtain ⟨X, hX, hW⟩ := loop_words k hk _ _ _ _ _ hl hnp (.inl rfl)
  rw [List.append_nil, hX]
  exact hW

theorem indentChars_contWs (i : RF.Shape.Indent) (c : RF.Shape.Config) :
    (RF.Lemmas.Shape.indentChars i c).all isContWs = true := by
  have ht : isContWs '\t' = true := by decide
  have hb : isContWs ' ' = true := by decide
  unfold RF.Lemmas.Shape.indentChars
  split <;> simp [ht, hb]

theorem all_isWs_of_all_isContWs {l : List Char} (h : l.all isContWs = true) : l.all isWs = true := by
  rw [List.all_eq_true] at h ⊢
  exact fun c hc => isWs_of_isContWs (h c hc)

/-- How the constants of the loop stand to the `StringFormat` they are computed from: the two indentation
strings are a line feed followed by tabs and blanks, and the same tabs and blanks. -/
structure CfgOf (f : Fmt) (k : LoopCfg) : Prop where
  trimEnd : k.trimEnd = f.trimEnd
  lineStart : k.lineStart = f.lineStart
  lineEnd : k.lineEnd = f.lineEnd
  bareOk : k.bareOk = f.lineStart.all isWs
  indent : ∃ t, t.all isContWs = true ∧ k.indentNl = '\n' :: t ∧ k.indentNoNl = t

/-- `Indent::to_string` panics only under hard tabs with `tab_spaces = 0` (it divides by it). -/
theorem loopCfg_ok {f : Fmt} {nm a b : Nat} {k : LoopCfg} (h : f.loopCfg nm a b = .ok k) : CfgOf f k := by
  by_cases hts : f.config.hard_tabs = true → 1 ≤ f.config.tab_spaces
  · unfold Fmt.loopCfg at h
    rw [RF.Lemmas.Shape.to_string_with_newline_eq _ _ hts, RF.Lemmas.Shape.to_string_eq _ _ hts] at h
    cases h
    exact ⟨rfl, rfl, rfl, rfl, _, indentChars_contWs _ _, rfl, rfl⟩
  · exfalso
    obtain ⟨hht, hz⟩ := Classical.not_imp.mp hts
    have hz : f.config.tab_spaces = 0 := by omega
    unfold Fmt.loopCfg RF.Shape.Indent.to_string_with_newline RF.Shape.Indent.to_string_inner at h
    simp [hht, hz, RF.Shape.udiv] at h

theorem CfgOf.blankIndent {f : Fmt} {k : LoopCfg} (hc : CfgOf f k) : BlankIndent k := by
  obtain ⟨t, ht, hnl, hno⟩ := hc.indent
  have := all_isWs_of_all_isContWs ht
  exact ⟨by rw [hnl, List.all_cons, this]; rfl, by rw [hno, this]⟩

theorem CfgOf.stringLike {f : Fmt} {k : LoopCfg} (hc : CfgOf f k) (ht : f.trimEnd = false)
    (hle : f.lineEnd = ['\\']) (hls : f.lineStart.all isContWs = true) : StringLike k := by
  obtain ⟨t, ht', hnl, _⟩ := hc.indent
  exact ⟨hc.trimEnd.trans ht, hc.lineEnd.trans hle, hc.bareOk.trans (all_isWs_of_all_isContWs hls),
    ⟨t, hnl, ht'⟩, hc.lineStart ▸ hls⟩

theorem CfgOf.commentLike {f : Fmt} {k : LoopCfg} (hc : CfgOf f k) (ht : f.trimEnd = true) (hle : f.lineEnd = [])
    (hls : f.lineStart = [] ∨ ∃ l w, f.lineStart = l ++ [w] ∧ isWs w = true) : CommentLike k := by
  obtain ⟨t, _, hnl, _⟩ := hc.indent
  exact ⟨hc.trimEnd.trans ht, hc.lineEnd.trans hle, hc.blankIndent, by rw [hnl]; simp,
    by rw [hc.bareOk, hc.lineStart], hc.lineStart ▸ hls⟩

theorem rewriteString_ok {orig : List Char} {f : Fmt} {newlineMax : Nat} {r : List Char}
    (h : rewriteString orig f newlineMax = .ok (some r)) :
    ∃ k, CfgOf f k ∧ rewriteRaw k f.opener f.closer orig = some r ∧
      filteredStrFits r f.config.max_width f.shape = true := by
  revert h
  fun_cases rewriteString orig f newlineMax
  case case5 k hk _ hraw hfit =>
    intro h
    cases h
    exact ⟨k, loopCfg_ok hk, hraw, hfit⟩
  all_goals exact fun h => nomatch h

end RF.Lemmas.StringFmt

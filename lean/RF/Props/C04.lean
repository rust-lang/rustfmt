import RF.Lemmas.Skip
import RF.Lemmas.MacroBody
import RF.Gen.SkipSites

/-!
# C04  Skip-marked code and opted-out files are emitted verbatim

Theorems about `RF.Model.Skip`: the recogniser of the skip attribute (`is_skip`, `contains_skip`),
the scoped name sets of `rustfmt::skip::macros / attributes` (`SkipContext`), the visitor's buffer
operations that copy a skipped node (`push_skipped_with_span`, `push_rewrite(.., None)`), the
bookkeeping of skipped line ranges, and the whole-file opt-out decision of `format_input_inner` /
`format_project` / `should_skip_module`.  Then, about what happens to a verbatim copy afterwards:
the call sites of `push_skipped_with_span` as read from the source (`RF.Gen.SkipSites`), the
re-indentation of a formatted `macro_rules!` body around the recorded ranges (`RF.MacroBody`, lemmas
in `RF/Lemmas/MacroBody.lean`), and the `fn main() {` wrapper of `format_code_block`.

What is *not* covered by any theorem here: that every node kind of the rewriter forest has its
early return to the verbatim path (search only, see DESIGN §5 C04); `reindentLines` and
`unwrapLine` are tied to the code by the correspondences `skip.mbody` / `skip.enclose` only.

Statements that are false of the code carry `_counterexample`; the version that holds carries
`_partial` and names the excluding hypothesis.  Findings recorded here:
  * F14  `cfg_attr` with three or more arguments is not recognised.
  * F2   the recorded skipped range is in lines of the visitor's own buffer (since /repo ed625bc);
         it is wrong for the *file* when the visitor is a nested one (e.g. the one that formats an
         `impl` body counts its lines from 0, and its ranges are dropped or merged unshifted).
  * stdin: `ignore` and `format_generated_files = false` are not consulted for standard input.
  * the `skip::macros` / `skip::attributes` names of an out-of-line module file come from the
    crate root's inner attributes only (`formatFileCtx` has no other input).
  * `buffer.clear()` (items.rs:740, `reorder_impl_items`) breaks `line_number == count_newlines(buffer)`.
-/
namespace RF.Props.C04
open RF.Skip

/-! ## The recogniser -/

/-- `is_skip` accepts exactly: the word `rustfmt::skip`, the word `rustfmt_skip` (both compared as
printed paths), and `cfg_attr(c, X)` — path exactly `cfg_attr`, exactly two arguments, the second a
meta item `X` that is itself accepted.  `Accepted` is the inductive predicate with these three
rules, so nesting to any depth is accepted and nothing else is. -/
theorem isSkip_spec (m : MetaItem) : isSkip m = true ↔ Accepted m :=
  RF.Skip.isSkip_spec m

/-- The same for a list element: accepted iff it is a meta item (not a literal) that is accepted. -/
theorem isSkipNested_spec (n : Nested) :
    isSkipNested n = true ↔ ∃ m, n = .metaItem m ∧ Accepted m := by
  constructor
  · exact isSkipNested_accepted n
  · rintro ⟨m, rfl, h⟩; simpa [isSkipNested] using accepted_isSkip h

/-- The three rules of `Accepted`, spelled out (so that the reader need not open the lemma file). -/
theorem accepted_def (m : MetaItem) :
    Accepted m ↔
      (∃ p, m = .word p ∧ pathToString p = skipAnnotation) ∨
      (∃ p, m = .word p ∧ pathToString p = deprSkipAnnotation) ∨
      (∃ c x, m = .list [cfgAttr] [c, .metaItem x] ∧ Accepted x) := by
  constructor
  · intro h
    cases h with
    | skip h => exact Or.inl ⟨_, rfl, h⟩
    | depr h => exact Or.inr (Or.inl ⟨_, rfl, h⟩)
    | cfgAttr h => exact Or.inr (Or.inr ⟨_, _, rfl, h⟩)
  · rintro (⟨p, rfl, h⟩ | ⟨p, rfl, h⟩ | ⟨c, x, rfl, h⟩)
    · exact .skip h
    · exact .depr h
    · exact .cfgAttr h

/-- For a path whose segments are identifiers (no `:` inside a segment), a word is accepted iff
the path is `rustfmt::skip` (two segments) or `rustfmt_skip` (one segment). -/
theorem isSkip_word_idents {p : Path} (hp : IdentPath p) :
    isSkip (.word p) = true ↔ p = [rustfmtName, skipName] ∨ p = [deprSkipAnnotation] := by
  simp only [isSkip, Bool.or_eq_true, beq_iff_eq, pathToString_eq_skip_iff hp,
    pathToString_eq_depr_iff hp]

example : IdentPath [rustfmtName, skipName] ∧ isSkip (.word [rustfmtName, skipName]) = true := by
  decide +kernel

/-- Wrapping in `cfg_attr(c, ·)` any number of times does not change the verdict. -/
theorem isSkip_any_depth (c : Nested) (k : Nat) (m : MetaItem) :
    isSkip (nestCfg c k m) = isSkip m := by
  induction k with
  | zero => rfl
  | succ k ih => simp [nestCfg, isSkip, isSkipNested, hasName, ih]

/-- A list is accepted only with path `cfg_attr` and exactly two arguments. -/
theorem isSkip_list_arity {p : Path} {args : List Nested} (h : isSkip (.list p args) = true) :
    p = [cfgAttr] ∧ args.length = 2 := by
  cases (isSkip_spec _).1 h
  exact ⟨rfl, rfl⟩

example : isSkip (.list [cfgAttr] [.lit, .metaItem (.word [rustfmtName, skipName])]) = true := by
  decide +kernel

/-- F14.  `#[cfg_attr(any(), allow(dead_code), rustfmt::skip)]` (three arguments, valid Rust,
expands to `#[allow(dead_code)] #[rustfmt::skip]` when the predicate holds) is not recognised,
while the two-argument form is. -/
theorem cfg_attr_three_args_counterexample :
    let any : Nested := .metaItem (.list [['a','n','y']] [])
    let allow : Nested := .metaItem (.list [['a','l','l','o','w']] [.metaItem (.word [['d','e','a','d','_','c','o','d','e']])])
    let skip : Nested := .metaItem (.word [rustfmtName, skipName])
    isSkip (.list [cfgAttr] [any, allow, skip]) = false ∧
    isSkip (.list [cfgAttr] [any, skip]) = true := by
  decide +kernel

/-- `contains_skip` holds iff some attribute of the list has a meta item (`Attribute::meta()` is
`Some`: not a doc comment, arguments parse) that `is_skip` accepts. -/
theorem containsSkip_iff_exists (attrs : List Attr) :
    containsSkip attrs = true ↔ ∃ a ∈ attrs, ∃ m, a.getMeta = some m ∧ isSkip m = true := by
  simp only [containsSkip, List.any_eq_true]
  constructor
  · rintro ⟨a, ha, h⟩
    refine ⟨a, ha, ?_⟩
    split at h
    · rename_i m hm; exact ⟨m, hm, h⟩
    · cases h
  · rintro ⟨a, ha, m, hm, h⟩
    exact ⟨a, ha, by simp [hm, h]⟩

/-- `get_skip_names(kind, attrs)` collects exactly the single-segment names of the meta items listed
in attributes whose printed path is `rustfmt::skip::<kind>`. -/
theorem getSkipNames_mem (kind : Name) (attrs : List Attr) (n : Name) :
    n ∈ getSkipNames kind attrs ↔
      ∃ p l, Attr.normal p (.list l) ∈ attrs ∧ pathToString p = skipKindPath kind ∧
        ∃ x ∈ l, Nested.ident x = some n := by
  induction attrs with
  | nil => simp [getSkipNames]
  | cons a r ih =>
    simp only [getSkipNames, List.mem_append, ih, List.mem_cons]
    constructor
    · rintro (h | ⟨p, l, hm, hp, hx⟩)
      · cases a with
        | doc => simp at h
        | normal p args =>
          by_cases hp : pathToString p = skipKindPath kind
          · cases args <;> simp [hp, Attr.metaItemList] at h
            rename_i l
            obtain ⟨x, hx, hxn⟩ := h
            exact ⟨p, l, Or.inl rfl, hp, x, hx, hxn⟩
          · simp [hp] at h
      · exact ⟨p, l, Or.inr hm, hp, hx⟩
    · rintro ⟨p, l, hm | hm, hp, x, hx, hxn⟩
      · left
        subst hm
        simp [hp, Attr.metaItemList]
        exact ⟨x, hx, hxn⟩
      · exact Or.inr ⟨p, l, hm, hp, x, hx, hxn⟩

/-! ## Skip contexts -/

/-- Exact effect of the three mutators on the query: `extend` adds the given names, `update` adds
what the other context skips, `skip_all` skips everything. -/
theorem skipName_after (c o : SkipNameContext) (ns : List Name) (n : Name) :
    (c.extend ns).skip n = (c.skip n || ns.contains n) ∧
    (c.update o).skip n = (c.skip n || o.skip n) ∧
    (c.skipAll).skip n = true :=
  ⟨skip_extend c ns n, skip_update c o n, rfl⟩

/-- Once a name (or `All`) is in scope it stays in scope after `update_with_attrs` and after
`update`; and both operations are monotone in the context they are applied to
(`SkipContext.le c c'`: every macro / attribute name skipped under `c` is skipped under `c'`). -/
theorem skipCtx_monotone (c c' o o' : SkipContext) (attrs : List Attr) :
    SkipContext.le c (c.updateWithAttrs attrs) ∧
    SkipContext.le c (c.update o) ∧
    SkipContext.le o (c.update o) ∧
    (SkipContext.le c c' → SkipContext.le (c.updateWithAttrs attrs) (c'.updateWithAttrs attrs)) ∧
    (SkipContext.le c c' → SkipContext.le o o' → SkipContext.le (c.update o) (c'.update o')) :=
  ⟨le_updateWithAttrs c attrs, le_update c o, le_update_right c o,
   fun h => updateWithAttrs_mono h attrs, fun h ho => update_mono h ho⟩

/-- `SkipContext.le`, spelled out. -/
theorem skipCtx_le_def (c c' : SkipContext) :
    SkipContext.le c c' ↔
      (∀ n, c.macros.skip n = true → c'.macros.skip n = true) ∧
      (∀ n, c.attributes.skip n = true → c'.attributes.skip n = true) :=
  Iff.rfl

/-- Every node of an item tree is processed under a context that contains the one the visitor had
when it entered the tree: names in scope at an ancestor are in scope at every descendant. -/
theorem skipCtx_scope_monotone (ctx : SkipContext) (it : Item) :
    ∀ c ∈ (visitItem ctx it).2, SkipContext.le ctx c :=
  visitItem_log_ge ctx it

/-- The save / restore of `visit_item`: after visiting an item (whatever its attributes and
whatever is nested in it) or a run of items, the visitor's context is what it was before. -/
theorem skipCtx_restore (ctx : SkipContext) (it : Item) (its : List Item) :
    (visitItem ctx it).1 = ctx ∧ (visitItems ctx its).1 = ctx :=
  ⟨visitItem_restore ctx it, visitItems_restore ctx its⟩

/-- Hence the names an item brings into scope do not leak to its later siblings: the contexts
logged for `i :: is` are those of `i` followed by those of `is` visited from the *same* `ctx`; and
the item itself is processed under `ctx.updateWithAttrs attrs`. -/
theorem skipCtx_siblings (ctx : SkipContext) (i : Item) (is : List Item) (attrs : List Attr)
    (ch : List Item) :
    (visitItems ctx (i :: is)).2 = (visitItem ctx i).2 ++ (visitItems ctx is).2 ∧
    (visitItem ctx (.mk attrs ch)).2.head? = some (ctx.updateWithAttrs attrs) :=
  ⟨visitItems_cons ctx i is, by simp [visitItem]⟩

/-- Same-name nesting: an inner item that lists a name again does not take it from the
enclosing item when it ends.  Whatever the inner item's attributes and contents, the items after it inside
the enclosing item are visited under the enclosing item's context, in which the name is still skipped. -/
theorem skipCtx_relist_keeps_outer (ctx : SkipContext) (outer inner : List Attr) (ch rest : List Item) (n : Name)
    (h : skipMacro (ctx.updateWithAttrs outer) n = true) :
    skipMacro (visitItem (ctx.updateWithAttrs outer) (.mk inner ch)).1 n = true ∧
    (visitItems (ctx.updateWithAttrs outer) (.mk inner ch :: rest)).2 =
      (visitItem (ctx.updateWithAttrs outer) (.mk inner ch)).2 ++ (visitItems (ctx.updateWithAttrs outer) rest).2 := by
  refine ⟨?_, (skipCtx_siblings _ _ _ [] []).1⟩
  rw [(skipCtx_restore _ (.mk inner ch) []).1]; exact h

/-- the hypothesis is satisfiable: the name comes from `skip_macro_invocations` (the file's starting context) -/
example : skipMacro ((⟨.values [['m']], .values []⟩ : SkipContext).updateWithAttrs []) ['m'] = true := by decide

/-- The macro names skipped at the start of *any* file of a crate are: `skip_macro_invocations`
of the configuration and the `rustfmt::skip::macros(..)` of the crate root's inner attributes.
The formula has no other input: the inner attributes of an out-of-line module file and the outer
attributes of its `mod x;` declaration are not consulted (reproduced on the binary: a
`#![rustfmt::skip::macros(x)]` at the top of `foo.rs` does not protect `x!(a  ,   b)` in `foo.rs`,
whereas the same line at the top of the crate root does).  A nested visitor starts from the
configuration's names and its parent's. -/
theorem skipCtx_file_start (sel : List MacroSelector) (krateAttrs : List Attr)
    (parent : SkipContext) (n : Name) :
    skipMacro (formatFileCtx sel krateAttrs) n =
      (selectorAll sel || (selectorNames sel).contains n ||
        (getSkipNames macrosName krateAttrs).contains n) ∧
    skipMacro (fromContextCtx sel parent) n =
      (selectorAll sel || (selectorNames sel).contains n || skipMacro parent n) :=
  ⟨formatFileCtx_skipMacro sel krateAttrs n, fromContextCtx_skipMacro sel parent n⟩

/-! ## Copying a skipped node -/

/-- `push_skipped_with_span` does not panic iff `last_pos ≤ lo ≤ hi ≤ len(src)`. -/
theorem pushSkipped_defined_iff (src : List Char) (st : State) (attrHis : List Nat)
    (lo hi mainLo : Nat) (w : List Char) :
    (pushSkipped src st attrHis lo hi mainLo w).isSome ↔
      st.lastPos ≤ lo ∧ lo ≤ hi ∧ hi ≤ src.length := by
  constructor
  · intro h
    obtain ⟨st', h'⟩ := Option.isSome_iff_exists.1 h
    obtain ⟨sn, hsn, hle, -⟩ := pushSkipped_spec h'
    have := snippet_spec hsn
    omega
  · rintro ⟨h1, h2, h3⟩
    have hfm : (formatMissingWithIndent src st lo w).isSome := by
      rw [formatMissing_isSome_iff]; omega
    obtain ⟨st1, h1'⟩ := Option.isSome_iff_exists.1 hfm
    have hsn : (snippet src lo hi).isSome := by rw [snippet_isSome_iff]; omega
    obtain ⟨sn, hsn'⟩ := Option.isSome_iff_exists.1 hsn
    simp [pushSkipped, h1', pushRewriteInner, hsn']

/-- After `push_skipped_with_span` the buffer is the old buffer, then what
`format_missing_with_indent` wrote (`w`), then `trim` of the characters `src[lo..hi)`; `last_pos` is
`hi`; `line_number` grew by the newlines written; one range was appended, `(lo', hi')` with `lo'` =
(`line_number` after `w`) + 1 + the source-side offset of the main span inside the item, and
`hi'` = new `line_number` + 1.  Nothing else changes. -/
theorem pushSkipped_verbatim {src : List Char} {st st' : State} {attrHis : List Nat}
    {lo hi mainLo : Nat} {w : List Char}
    (h : pushSkipped src st attrHis lo hi mainLo w = some st') :
    ∃ sn, snippet src lo hi = some sn ∧
      st'.buffer = st.buffer ++ w ++ trim sn ∧
      st'.lastPos = hi ∧
      st'.lineNumber = st.lineNumber + countNl w + countNl (trim sn) ∧
      st'.skipped = st.skipped ++
        [(st.lineNumber + countNl w + 1 +
            (min (attrsEnd src attrHis + 1) (lineOf src mainLo) - lineOf src lo),
          st'.lineNumber + 1)] := by
  obtain ⟨sn, h1, -, h2, h3, h4, h5⟩ := pushSkipped_spec h
  exact ⟨sn, h1, h2, h3, h4, h5⟩

/-- `snippet src lo hi = some sn` means: `sn` is the `hi - lo` characters of `src` from `lo`. -/
theorem snippet_def {src : List Char} {lo hi : Nat} {sn : List Char}
    (h : snippet src lo hi = some sn) :
    lo ≤ hi ∧ hi ≤ src.length ∧ sn.length = hi - lo ∧ src = src.take lo ++ sn ++ src.drop hi :=
  snippet_spec h

/-- `trim` removes a whitespace-only prefix and a whitespace-only suffix and nothing else. -/
theorem trim_spec (s : List Char) :
    ∃ a b, s = a ++ trim s ++ b ∧ (∀ c ∈ a, isWhitespace c = true) ∧
      (∀ c ∈ b, isWhitespace c = true) := by
  refine ⟨s.takeWhile isWhitespace, ((trimStart s).reverse.takeWhile isWhitespace).reverse, ?_, ?_, ?_⟩
  · unfold trim
    rw [List.append_assoc, ← trimEnd_decomp, ← trimStart_decomp]
  · exact fun c hc => List.all_eq_true.1 List.all_takeWhile c hc
  · intro c hc
    exact List.all_eq_true.1 List.all_takeWhile c (List.mem_reverse.1 hc)

/-- When the span neither starts nor ends with whitespace (every AST node's span), the buffer ends
with exactly the span's characters. -/
theorem pushSkipped_verbatim_exact_partial {src : List Char} {st st' : State} {attrHis : List Nat}
    {lo hi mainLo : Nat} {w sn : List Char}
    (h : pushSkipped src st attrHis lo hi mainLo w = some st')
    (hsn : snippet src lo hi = some sn)
    (h1 : ∀ c, sn.head? = some c → isWhitespace c = false)
    (h2 : ∀ c, sn.getLast? = some c → isWhitespace c = false) :
    st'.buffer = st.buffer ++ w ++ sn := by
  obtain ⟨sn', hsn', hb, -⟩ := pushSkipped_verbatim h
  rw [hsn] at hsn'
  cases hsn'
  rw [hb, trim_eq_self h1 h2]

example :
    let src := "a; #[s] fn  f( ) {}".toList
    ∃ st', pushSkipped src ⟨"a;".toList, 2, 0, []⟩ [7] 3 19 3 "\n".toList = some st' ∧
      st'.buffer = "a;\n#[s] fn  f( ) {}".toList := by
  -- The kernel decodes a string literal at a price quadratic in its length; `String.toList_ofList`
  -- turns each `"…".toList` into the list of its characters by a theorem instead.
  dsimp only
  repeat rw [String.toList_ofList]
  decide +kernel

/-- Without that hypothesis the copy is not exact: a span ` a ` is pushed as `a`. -/
theorem pushSkipped_untrimmed_counterexample :
    ∃ st', pushSkipped [' ', 'a', ' '] (State.init 0) [] 0 3 0 [] = some st' ∧
      st'.buffer = ['a'] ∧ st'.buffer ≠ [' ', 'a', ' '] := by
  decide +kernel

/-- `push_rewrite(span, rewrite)`: the buffer gets `w` and then the rewrite, or, for `None`,
`trim` of the span's characters (the verbatim fallback of every failed rewrite). -/
theorem pushRewrite_effect {src : List Char} {st st' : State} {lo hi : Nat} {w : List Char}
    {rw : Option (List Char)} (h : pushRewrite src st lo hi w rw = some st') :
    ∃ body, (match rw with
              | some s => body = s
              | none => ∃ sn, snippet src lo hi = some sn ∧ body = trim sn) ∧
      st.lastPos ≤ lo ∧
      st' = { buffer := st.buffer ++ w ++ body, lastPos := hi,
              lineNumber := st.lineNumber + countNl w + countNl body, skipped := st.skipped } :=
  pushRewrite_spec h

/-- `line_number == count_newlines(buffer)` (the `debug_assert_eq!` of formatting.rs:224) holds for
a fresh visitor and is preserved by every modelled operation that writes to the buffer. -/
theorem lineNumber_invariant :
    (∀ p, (State.init p).Inv) ∧
    (∀ st s, st.Inv → (pushStr st s).Inv) ∧
    (∀ src st e w st1, formatMissingWithIndent src st e w = some st1 → st.Inv → st1.Inv) ∧
    (∀ src st lo hi rw st2, pushRewriteInner src st lo hi rw = some st2 → st.Inv → st2.Inv) ∧
    (∀ src st lo hi w rw st', pushRewrite src st lo hi w rw = some st' → st.Inv → st'.Inv) ∧
    (∀ src st ah lo hi ml w st', pushSkipped src st ah lo hi ml w = some st' → st.Inv → st'.Inv) ∧
    (∀ st st', popNewline st = some st' → st.Inv → st'.Inv) :=
  ⟨init_inv, fun _ s h => pushStr_inv s h, fun _ _ _ _ _ h hi => formatMissing_inv h hi,
   fun _ _ _ _ _ _ h hi => pushRewriteInner_inv h hi, fun _ _ _ _ _ _ _ h hi => pushRewrite_inv h hi,
   fun _ _ _ _ _ _ _ _ h hi => pushSkipped_inv h hi, fun _ _ h hi => popNewline_inv h hi⟩

example : ∃ st', pushSkipped "x\ny".toList (State.init 0) [] 0 3 0 [] = some st' ∧ st'.Inv := by
  refine ⟨⟨"x\ny".toList, 3, 1, [(1, 2)]⟩, by decide +kernel, by decide +kernel⟩

/-- `self.buffer.clear()` in `visit_impl_items` (items.rs:740, only with `reorder_impl_items`)
keeps `line_number`: the invariant is lost as soon as a line has been written. -/
theorem clearBuffer_invariant_counterexample :
    (pushStr (State.init 0) ['\n']).Inv ∧ ¬ (clearBuffer (pushStr (State.init 0) ['\n'])).Inv := by
  decide +kernel

/-! ## The recorded range of skipped lines -/

/-- `outLines pre s` = (line on which `s` starts, line on which `s` ends) in `pre ++ s`, 1-based. -/
theorem outLines_def (pre s : List Char) :
    outLines pre s = (countNl pre + 1, countNl (pre ++ s) + 1) := by
  simp [outLines, countNl_append]

/-- Under the invariant, the recorded pair is, in 1-based lines of this visitor's buffer: the first
line of the copied text plus `min(attrs_end + 1, line_of(main_span.lo)) - line_of(item_span.lo)`
(source lines, truncated subtraction = `saturating_sub`), and the last line of the copied text. -/
theorem skipped_range_exact {src : List Char} {st st' : State} {attrHis : List Nat}
    {lo hi mainLo : Nat} {w : List Char}
    (h : pushSkipped src st attrHis lo hi mainLo w = some st') (hinv : st.Inv) :
    ∃ sn, snippet src lo hi = some sn ∧
      st'.skipped = st.skipped ++
        [((outLines (st.buffer ++ w) (trim sn)).1 +
            (min (attrsEnd src attrHis + 1) (lineOf src mainLo) - lineOf src lo),
          (outLines (st.buffer ++ w) (trim sn)).2)] := by
  obtain ⟨sn, hsn, -, -, -, hl, hs⟩ := pushSkipped_spec h
  refine ⟨sn, hsn, ?_⟩
  rw [hs, hl]
  simp only [State.Inv] at hinv
  simp only [outLines, countNl_append, hinv]

/-- When the span handed over is the whole node with its attributes (`main_span = item_span`: items,
assoc items) the recorded range is exactly the first and last buffer line of the copied text —
whether or not the text moved and whatever the attributes are. -/
theorem skipped_range_recorded {src : List Char} {st st' : State} {attrHis : List Nat}
    {lo hi : Nat} {w : List Char}
    (h : pushSkipped src st attrHis lo hi lo w = some st') (hinv : st.Inv) :
    ∃ sn, snippet src lo hi = some sn ∧
      st'.skipped = st.skipped ++ [outLines (st.buffer ++ w) (trim sn)] := by
  obtain ⟨sn, hsn, hs⟩ := skipped_range_exact h hinv
  refine ⟨sn, hsn, ?_⟩
  rw [hs]
  have : min (attrsEnd src attrHis + 1) (lineOf src lo) - lineOf src lo = 0 := by omega
  rw [this]
  simp [outLines]

/-- Statements (`main_span` = the statement without its attributes, inside `item_span`): for a
span that `trim` leaves alone, the recorded range starts somewhere inside the copied text's lines
(the attribute lines before it are left out) and ends on its last line. -/
theorem skipped_range_within {src : List Char} {st st' : State} {attrHis : List Nat}
    {lo hi mainLo : Nat} {w sn : List Char}
    (h : pushSkipped src st attrHis lo hi mainLo w = some st') (hinv : st.Inv)
    (hsn : snippet src lo hi = some sn) (htrim : trim sn = sn) (hm : mainLo ≤ hi) :
    ∃ a, st'.skipped = st.skipped ++ [(a, (outLines (st.buffer ++ w) sn).2)] ∧
      (outLines (st.buffer ++ w) sn).1 ≤ a ∧ a ≤ (outLines (st.buffer ++ w) sn).2 := by
  obtain ⟨sn', hsn', hs⟩ := skipped_range_exact h hinv
  rw [hsn] at hsn'
  cases hsn'
  rw [htrim] at hs
  refine ⟨_, hs, by omega, ?_⟩
  have h1 := countNl_take_snippet hsn
  have h2 := countNl_take_le src mainLo hi hm
  simp only [outLines, lineOf]
  omega

/-- Non-vacuity: a skipped `fn` on lines 2–3 after one line; recorded `(2, 3)`.  And a skipped
`let` whose attribute is on its own line: the copied text is on lines 2–3, recorded `(3, 3)`. -/
example :
    let src := "a;\n#[s]\nfn f(){}".toList
    let st : State := ⟨"a;".toList, 2, 0, []⟩
    st.Inv ∧ (pushSkipped src st [7] 3 16 3 ['\n']).map (·.skipped) = some [(2, 3)] := by
  dsimp only
  repeat rw [String.toList_ofList]
  decide +kernel

example :
    let src := "a;\n#[s]\nlet  x;".toList
    let st : State := ⟨"a;".toList, 2, 0, []⟩
    st.Inv ∧ snippet src 3 15 = some "#[s]\nlet  x;".toList ∧ trim "#[s]\nlet  x;".toList = "#[s]\nlet  x;".toList ∧
    (pushSkipped src st [7] 3 15 8 ['\n']).map (·.skipped) = some [(3, 3)] := by
  dsimp only
  repeat rw [String.toList_ofList]
  decide +kernel

/-- A skipped item that moves: three blank lines at the top of the file are dropped, the skipped
item goes from source lines 4–6 to output lines 1–3, and `(1, 3)` is recorded (before /repo ed625bc
the source lines were recorded, F2). -/
theorem skipped_range_moved_cured :
    let src := "\n\n\n#[s]\nfn  f( ) {   \n}\n".toList
    let st := State.init 0
    st.Inv ∧
    (snippet src 3 23).map (fun sn => outLines (st.buffer ++ []) (trim sn)) = some (1, 3) ∧
    (pushSkipped src st [7] 3 23 3 []).map (·.skipped) = some [(1, 3)] := by
  dsimp only
  repeat rw [String.toList_ofList]
  decide +kernel

/-- F2.  The recorded lines are lines of *this visitor's buffer*.  A nested visitor
(the body of an `impl` is formatted by `FmtVisitor::from_context`, whose `line_number` starts at 0
where the `impl` body starts) records `(3, 4)` for a method that is on lines 5–6 of the file (the
text does not move: source line = final output line = `lineOf src 54`).  The nested ranges are
not translated to file lines: for `impl`/`trait` bodies the nested visitor's `skipped_range` is a
fresh vector that is dropped, for blocks (`rewrite_block_inner`) it is appended to the parent's as
it is. -/
theorem skipped_range_subvisitor_counterexample :
    let src := "struct S;\nstruct T;\nimpl S {\n    #[rustfmt::skip]\n    fn  f( ) {   \n    }\n}\n".toList
    let st := State.init 28                                   -- just after `impl S {`
    let w := "\n    #[rustfmt::skip]\n    ".toList              -- what format_missing_with_indent writes
    st.Inv ∧
    snippet src 54 73 = some "fn  f( ) {   \n    }".toList ∧
    lineOf src 54 = 5 ∧ lineOf src 73 = 6 ∧
    (pushSkipped src st [49] 54 73 54 w).map (·.skipped) = some [(3, 4)] := by
  dsimp only
  repeat rw [String.toList_ofList]
  decide +kernel

/-! ## Whole-file opt-outs -/

/-- The decision for every combination of the seven facts.  A file is formatted iff
  * not standard input: none of {inner skip, disable_all_formatting, ignore match,
    @generated ∧ ¬format_generated_files, skip_children ∧ not the main file} holds — this is the
    property's condition;
  * standard input: neither inner skip nor disable_all_formatting holds (ignore, the generated
    marker and skip_children are not consulted). -/
theorem whole_file_optout_table (c : FileCase) :
    fileDecision c = .format ↔
      if c.stdin then (c.innerSkip = false ∧ c.disableAll = false) else optedOut c = false := by
  obtain ⟨a, b, c, d, e, f, g⟩ := c
  revert a b c d e f g
  decide +kernel

/-- A file that is not formatted is echoed (its text written to stdout, empty report) iff the
input is standard input and the opt-out is an inner skip or `disable_all_formatting`; otherwise
nothing at all is done with it. -/
theorem whole_file_optout_echo (c : FileCase) :
    fileDecision c = .echo ↔ c.stdin = true ∧ (c.innerSkip = true ∨ c.disableAll = true) := by
  obtain ⟨a, b, c, d, e, f, g⟩ := c
  revert a b c d e f g
  decide +kernel

/-- The property's condition, for files read from disk. -/
theorem whole_file_optout_table_partial (c : FileCase) (h : c.stdin = false) :
    fileDecision c = .format ↔ optedOut c = false := by
  have := whole_file_optout_table c
  simpa [h] using this

/-- the hypothesis of `whole_file_optout_table_partial` is satisfiable -/
example : (⟨false, false, true, false, true, false, false⟩ : FileCase).stdin = false := rfl

/-- The complete list of combinations on which the code departs from "formatted iff not opted
out": standard input, no inner skip, no disable_all, and at least one of {ignore match,
@generated with generated files excluded, skip_children ∧ not main}. -/
theorem whole_file_optout_departures (c : FileCase) :
    ¬ (fileDecision c = .format ↔ optedOut c = false) ↔
      c.stdin = true ∧ c.innerSkip = false ∧ c.disableAll = false ∧
        (c.ignored = true ∨ (c.generated = true ∧ c.formatGenerated = false) ∨ c.childSkip = true) := by
  obtain ⟨a, b, c, d, e, f, g⟩ := c
  revert a b c d e f g
  decide +kernel

/-- Standard input carrying an `@generated` marker with `format_generated_files = false` is
formatted (formatting.rs:80-82 has a FIXME saying so). -/
theorem stdin_generated_counterexample :
    let c : FileCase := ⟨false, false, false, true, false, true, false⟩
    optedOut c = true ∧ fileDecision c = .format := by
  decide

/-- Standard input whose text comes from a path the `ignore` list matches is formatted
(`IgnorePathSet::is_match(Stdin) = false`; rustfmt has no path to match for stdin). -/
theorem stdin_ignore_counterexample :
    let c : FileCase := ⟨false, false, true, false, true, true, false⟩
    optedOut c = true ∧ fileDecision c = .format := by
  decide

/-- The early return of `format_project` (`skip_children && ignore_file(main_file)`, before
parsing) never changes the decision for a file: with `childSkip = skipChildren ∧ ¬isMain`, and
`ignored = mainIgnored` when the file is the main file, the decision is `fileDecision`. -/
theorem early_return_redundant (c : FileCase) (skipChildren isMain mainIgnored : Bool)
    (hmain : isMain = true → c.ignored = mainIgnored) :
    fileDecisionFull c skipChildren isMain mainIgnored =
      fileDecision { c with childSkip := skipChildren && !isMain } := by
  obtain ⟨a, b, c, d, e, f, g⟩ := c
  revert a b c d e f g skipChildren isMain mainIgnored
  decide +kernel

/-- the hypothesis of `early_return_redundant` is satisfiable (the main file, ignored) -/
example : ((true : Bool) = true → (⟨false, false, true, false, true, false, false⟩ : FileCase).ignored = true) :=
  fun _ => rfl

/-! ## `is_generated_file` -/

/-- `is_generated_file` holds iff one of the first `limit` lines contains `@generated`; `splitNl`
cuts the text at every `\n` and loses nothing. -/
theorem isGeneratedFile_spec (src : List Char) (limit : Nat) :
    (isGeneratedFile src limit = true ↔
      ∃ l ∈ (splitNl src).take limit, ∃ a b, l = a ++ generatedMarker ++ b) ∧
    joinNl (splitNl src) = src ∧ (∀ l ∈ splitNl src, '\n' ∉ l) :=
  ⟨isGeneratedFile_iff src limit, joinNl_splitNl src, splitNl_no_nl src⟩

/-! ## Who records a skipped range with which spans (generated from the source on every run) -/

open RF.Gen.SkipSites in
/-- The call sites of `push_skipped_with_span`, as `translate/c04_skipsites.py` reads them from the
current source.  For items (`visit_item`, three calls: use / extern crate, inline module and every
other item) BOTH spans are `item.span()`, the `Spanned` span, which starts at the first outer
attribute (`itemSpanStartsAtFirstAttr`): the recorded range starts where the verbatim copy starts,
attribute and doc-comment lines included.  `visit_assoc_item` passes one span twice (`ai.span`: the
attributes of an impl / trait item are not part of the copy, they go through the missing-text
path).  The two statement calls pass the statement without its attributes as `main_span`: the
attribute lines after the first one are outside the range (`skipped_range_within`; inside a
`macro_rules!` body they are re-indented: known finding C04-macro-body-stmt-attrs).  There is no
other caller. -/
theorem skip_sites_cover_attributes :
    itemSpanStartsAtFirstAttr = true ∧ stmtItemSpanStartsAtFirstAttr = true ∧
    (∀ s ∈ sites, s.fn = "visit_item" → s.itemSpan = "item.span()" ∧ s.mainSpan = "item.span()") ∧
    (sites.filter (fun s => s.fn == "visit_item")).length = 3 ∧
    (∀ s ∈ sites, s.fn = "visit_assoc_item" → s.mainSpan = s.itemSpan) ∧
    (∀ s ∈ sites, s.fn = "visit_stmt" →
      s.itemSpan = "stmt.span()" ∧ s.mainSpan = "get_span_without_attrs(stmt.as_ast_node())") ∧
    (∀ s ∈ sites, s.file = "src/visitor.rs" ∧
      (s.fn = "visit_item" ∨ s.fn = "visit_assoc_item" ∨ s.fn = "visit_stmt")) := by
  decide +kernel

/-- `push_skipped_with_span` as called from a site, under any meaning `span` of the argument
expressions (expression text ↦ `(lo, hi)`). -/
def siteRun (s : RF.Gen.SkipSites.Site) (span : String → Nat × Nat) (src : List Char) (st : State)
    (attrHis : List Nat) (w : List Char) : Option State :=
  pushSkipped src st attrHis (span s.itemSpan).1 (span s.itemSpan).2 (span s.mainSpan).1 w

/-- For every call from `visit_item` and `visit_assoc_item` of the current source, whatever the
spans denote and whatever the attributes are: the recorded range is exactly the first and the last
buffer line of the verbatim copy.  (If a site starts passing a `main_span` that is written
differently from its `item_span`, e.g. `item.span` for `item.span()`, this stops checking.) -/
theorem skip_sites_item_range_whole (s : RF.Gen.SkipSites.Site) (hs : s ∈ RF.Gen.SkipSites.sites)
    (hfn : s.fn = "visit_item" ∨ s.fn = "visit_assoc_item") (span : String → Nat × Nat)
    {src : List Char} {st st' : State} {attrHis : List Nat} {w : List Char}
    (h : siteRun s span src st attrHis w = some st') (hinv : st.Inv) :
    ∃ sn, snippet src (span s.itemSpan).1 (span s.itemSpan).2 = some sn ∧
      st'.buffer = st.buffer ++ w ++ trim sn ∧
      st'.skipped = st.skipped ++ [outLines (st.buffer ++ w) (trim sn)] := by
  have hsame : s.mainSpan = s.itemSpan := by
    have h1 := skip_sites_cover_attributes.2.2.1 s hs
    have h2 := skip_sites_cover_attributes.2.2.2.2.1 s hs
    rcases hfn with hf | hf
    · rw [(h1 hf).1, (h1 hf).2]
    · exact h2 hf
  unfold siteRun at h
  rw [hsame] at h
  obtain ⟨sn, hsn, hr⟩ := skipped_range_recorded h hinv
  obtain ⟨sn', hsn', _, hb, _⟩ := pushSkipped_spec h
  rw [hsn] at hsn'
  cases hsn'
  exact ⟨sn, hsn, hb, hr⟩

example : ∃ s ∈ RF.Gen.SkipSites.sites, s.fn = "visit_item" ∧
    (siteRun s (fun _ => (3, 16)) "a;\n#[s]\nfn f(){}".toList ⟨"a;".toList, 2, 0, []⟩ [7] ['\n']).map
      (·.skipped) = some [(2, 3)] := by
  repeat rw [String.toList_ofList]
  decide +kernel

/-! ## The reader in `MacroBranch::rewrite`: re-indentation of a formatted macro body -/

open RF.MacroBody RF.CharClasses

/-- The condition under which `MacroBranch::rewrite` indents a line, and
`FormattedSnippet::is_line_non_formatted`, as they are written in the current source, are the ones
`RF.MacroBody.reindentLines` / `isLineNonFormatted` model (the model itself is tied to the code by
the correspondence `skip.mbody` on real runs of `rewrite_macro_def`). -/
theorem reindent_guard_is_the_modelled_one :
    RF.Gen.SkipSites.reindentGuard =
      ["!is_empty_line(l)", "need_indent", "!new_body_snippet.is_line_non_formatted(i+1)"] ∧
    RF.Gen.SkipSites.nonFormattedPredicate =
      "self.non_formatted_ranges.iter().any(|(low,high)|*low<=n&&n<=*high)" := by
  decide +kernel

/-- Every line of a formatted macro body comes out as it is or behind the body indentation; a line
inside a recorded range comes out as it is — whatever its kind, the configuration and the state of
`need_indent`. -/
theorem macro_body_covered_line_verbatim (ind : List Char) (ranges : List (Nat × Nat)) (c : Cfg)
    (cls : List (Kind × List Char)) (need : Bool) (k : Nat) (hk : k < cls.length) :
    ((reindentLines ind ranges c 0 need cls)[k]? = some (cls[k].2) ∨
      (reindentLines ind ranges c 0 need cls)[k]? = some (ind ++ cls[k].2)) ∧
    (isLineNonFormatted ranges (k + 1) = true →
      (reindentLines ind ranges c 0 need cls)[k]? = some (cls[k].2)) :=
  ⟨reindentLines_line ind ranges c cls 0 need k hk,
   fun h => reindentLines_covered ind ranges c cls 0 need k hk (by simpa using h)⟩

/-- The lines `a..=b` of a recorded range `(a, b)` are, after the re-indentation, the lines that
went in: the output is `U ++ M ++ V` with `M` the input's lines `a..=b` and `U` as long as the
input's first `a - 1` lines. -/
theorem macro_body_skipped_lines_verbatim (ind : List Char) (ranges : List (Nat × Nat)) (c : Cfg)
    (cls : List (Kind × List Char)) (need : Bool) {a b : Nat} (hm : (a, b) ∈ ranges)
    (ha : 1 ≤ a) (_hb : b ≤ cls.length) :
    ∃ U V, reindentLines ind ranges c 0 need cls =
        U ++ ((cls.map (·.2)).drop (a - 1)).take (b + 1 - a) ++ V ∧
      U.length = min (a - 1) cls.length ∧
      joinLines (reindentLines ind ranges c 0 need cls) =
        joinLines U ++ joinLines (((cls.map (·.2)).drop (a - 1)).take (b + 1 - a)) ++ joinLines V := by
  have hblk := reindentLines_block ind ranges c cls need hm ha
  have hsplit := split_block (reindentLines ind ranges c 0 need cls) (a - 1) (b + 1 - a)
  rw [hblk] at hsplit
  refine ⟨_, _, hsplit, ?_, ?_⟩
  · simp [reindentLines_length]
  · conv => lhs; rw [hsplit]
    simp [joinLines_append]

/-- the hypotheses of `macro_body_skipped_lines_verbatim` are satisfiable -/
example : (2, 3) ∈ [(2, 3)] ∧ 1 ≤ 2 ∧ 3 ≤ [(Kind.normal, "a".toList), (Kind.normal, " b".toList), (Kind.normal, "c".toList)].length := by
  repeat rw [String.toList_ofList]
  decide +kernel

/-- Text level.  Let the formatted body (after `trim_end`) be `pre ++ s ++ post` — `s` the
verbatim copy of a skipped node, as `pushSkipped_verbatim` leaves it in the buffer — without
carriage returns, and let the recorded ranges contain the first and last line of `s`
(`outLines pre s`, which is what `skip_sites_item_range_whole` says is recorded for items).  Then
`s` occurs in the re-indented body, byte for byte, for every indentation string and configuration:
only the part of `s`'s first line before `s` (`p`, no line break in it) can get the indentation in
front. -/
theorem macro_body_skipped_copy_verbatim (ind : List Char) (ranges : List (Nat × Nat)) (c : Cfg)
    (pre s post : List Char) (hne : pre ++ s ++ post ≠ []) (hcr : '\r' ∉ pre ++ s ++ post)
    (hlast : (pre ++ s ++ post).getLast? ≠ some '\n')
    (hm : RF.Skip.outLines pre s ∈ ranges) :
    ∃ u v, joinLines (reindentLines ind ranges c 0 true (lineClasses (pre ++ s ++ post))) =
      u ++ s ++ v := by
  obtain ⟨A, M, B, p, q, hsp, hA, hM, hj, _, _⟩ := splitNl_block pre s post
  have hlines := lineClasses_lines hne hcr hlast
  have hlen : (lineClasses (pre ++ s ++ post)).length = A.length + M.length + B.length := by
    have := congrArg List.length hlines
    rw [hsp] at this
    simp only [List.length_map, List.length_append] at this
    omega
  have hm' : (countNl pre + 1, countNl pre + countNl s + 1) ∈ ranges := by
    simpa [RF.Skip.outLines] using hm
  obtain ⟨U, V, _, _, hjoin⟩ := macro_body_skipped_lines_verbatim ind ranges c
    (lineClasses (pre ++ s ++ post)) true hm' (by omega) (by omega)
  have hblock : ((List.map (·.2) (lineClasses (pre ++ s ++ post))).drop (countNl pre + 1 - 1)).take
      (countNl pre + countNl s + 1 + 1 - (countNl pre + 1)) = M := by
    rw [hlines, hsp]
    have h1 : countNl pre + 1 - 1 = A.length := by omega
    have h2 : countNl pre + countNl s + 1 + 1 - (countNl pre + 1) = M.length := by omega
    rw [h1, h2, List.append_assoc, List.drop_left, List.take_left]
  rw [hblock] at hjoin
  have hMne : M ≠ [] := by
    intro h; rw [h] at hM; simp at hM
  rw [joinLines_eq_joinNl M hMne, hj] at hjoin
  exact ⟨joinLines U ++ p, q ++ ['\n'] ++ joinLines V, by rw [hjoin]; simp [List.append_assoc]⟩

/-- The same for `reindent` (which applies `trim_end` first), in terms of the trimmed text. -/
theorem macro_body_skipped_copy_verbatim_reindent (ind : List Char) (ranges : List (Nat × Nat))
    (c : Cfg) (snippet pre s post : List Char) (ht : RF.Skip.trimEnd snippet = pre ++ s ++ post)
    (hne : s ≠ []) (hcr : '\r' ∉ snippet) (hm : RF.Skip.outLines pre s ∈ ranges) :
    ∃ u v, reindent ind ranges c snippet = u ++ s ++ v := by
  unfold reindent
  rw [ht]
  have hne' : pre ++ s ++ post ≠ [] := by
    intro h
    have h1 := List.append_eq_nil_iff.1 h
    have h2 := List.append_eq_nil_iff.1 h1.1
    exact hne h2.2
  have hcr' : '\r' ∉ pre ++ s ++ post := by
    rw [← ht]
    intro hmem
    apply hcr
    have hd := RF.Skip.trimEnd_decomp snippet
    rw [hd]
    exact List.mem_append_left _ hmem
  have hlast : (pre ++ s ++ post).getLast? ≠ some '\n' := by
    rw [← ht]
    intro h
    have := trimEnd_getLast snippet '\n' h
    exact absurd this (by decide)
  exact macro_body_skipped_copy_verbatim ind ranges c pre s post hne' hcr' hlast hm

/-- From the call site to the macro body.  A skipped item is copied by a `visit_item` (or
`visit_assoc_item`) call of the current source into the body formatter's buffer; whatever is pushed
afterwards (`post`), whatever other ranges are recorded, whatever the arm's indentation and the
configuration: the re-indented body contains the copy (`trim` of the item's span, attributes
included for `visit_item`) byte for byte. -/
theorem skipped_item_in_macro_body_verbatim (s : RF.Gen.SkipSites.Site)
    (hs : s ∈ RF.Gen.SkipSites.sites) (hfn : s.fn = "visit_item" ∨ s.fn = "visit_assoc_item")
    (span : String → Nat × Nat) {src : List Char} {st st' : State} {attrHis : List Nat}
    {w : List Char} (h : siteRun s span src st attrHis w = some st') (hinv : st.Inv)
    (ind : List Char) (ranges : List (Nat × Nat)) (c : Cfg) (post post' : List Char)
    (hranges : ∀ r ∈ st'.skipped, r ∈ ranges)
    (ht : RF.Skip.trimEnd (st'.buffer ++ post) = st'.buffer ++ post')
    (hcr : '\r' ∉ st'.buffer ++ post) :
    ∃ sn, snippet src (span s.itemSpan).1 (span s.itemSpan).2 = some sn ∧
      (trim sn ≠ [] → ∃ u v, reindent ind ranges c (st'.buffer ++ post) = u ++ trim sn ++ v) := by
  obtain ⟨sn, hsn, hbuf, hsk⟩ := skip_sites_item_range_whole s hs hfn span h hinv
  refine ⟨sn, hsn, fun hne => ?_⟩
  have hm : RF.Skip.outLines (st.buffer ++ w) (trim sn) ∈ ranges :=
    hranges _ (by rw [hsk]; simp)
  rw [hbuf] at ht
  exact macro_body_skipped_copy_verbatim_reindent ind ranges c (st'.buffer ++ post)
    (st.buffer ++ w) (trim sn) post' (by rw [hbuf]; exact ht) hne hcr hm

example : ∃ s ∈ RF.Gen.SkipSites.sites, s.fn = "visit_item" ∧
    ∃ st', siteRun s (fun _ => (3, 16)) "a;\n#[s]\nfn f(){}".toList ⟨"a;".toList, 2, 0, []⟩ [7] ['\n'] = some st' ∧
      RF.Skip.trimEnd (st'.buffer ++ "\nfn g() {}\n".toList) = st'.buffer ++ "\nfn g() {}".toList ∧
      '\r' ∉ st'.buffer ++ "\nfn g() {}\n".toList ∧ (∀ r ∈ st'.skipped, r ∈ [(2, 3)]) := by
  repeat rw [String.toList_ofList]
  refine ⟨⟨"src/visitor.rs", "visit_item", "attrs.as_slice()", "item.span()", "item.span()"⟩, by decide +kernel, rfl,
    ⟨"a;\n#[s]\nfn f(){}".toList, 16, 2, [(2, 3)]⟩, ?_, ?_, ?_, ?_⟩
  all_goals rw [String.toList_ofList]
  all_goals decide +kernel

/-- Non-vacuity, and the two theorems together: the body
holds a skipped `fn` with a second attribute line.  With the whole copy recorded, `(1, 3)`, the three
lines are kept and the neighbour is indented. -/
example :
    let snippet := "#[rustfmt::skip]\n  #[cfg(a)]\nfn  f( ) {}\n\nfn g() {}\n".toList
    let s := "#[rustfmt::skip]\n  #[cfg(a)]\nfn  f( ) {}".toList
    RF.Skip.trimEnd snippet = [] ++ s ++ "\n\nfn g() {}".toList ∧ RF.Skip.outLines [] s = (1, 3) ∧
    reindent "    ".toList [(1, 3)] ⟨false, false⟩ snippet =
      "#[rustfmt::skip]\n  #[cfg(a)]\nfn  f( ) {}\n\n    fn g() {}\n".toList := by
  dsimp only
  repeat rw [String.toList_ofList]
  decide +kernel

/-- A non-blank line of the copy that the recorded range does not cover gets the indentation in
front (when no line ends inside a string literal, so that `need_indent` stays true): with a
non-empty indentation its bytes change. -/
theorem macro_body_uncovered_line_shifted (ind : List Char) (ranges : List (Nat × Nat)) (c : Cfg)
    (cls : List (Kind × List Char)) (k : Nat) (hk : k < cls.length)
    (hall : ∀ kl ∈ cls, indentNextLine c kl.1 kl.2 = true)
    (hun : isLineNonFormatted ranges (k + 1) = false) (hne : isEmptyLine (cls[k].2) = false)
    (hind : ind ≠ []) :
    (reindentLines ind ranges c 0 true cls)[k]? = some (ind ++ cls[k].2) ∧
    ind ++ cls[k].2 ≠ cls[k].2 := by
  refine ⟨reindentLines_uncovered ind ranges c cls 0 k hk hall (by simpa using hun) hne, ?_⟩
  intro h
  have := congrArg List.length h
  simp at this
  exact hind this

/-- What a range that starts late does (the range `min(last attribute line + 1, line of the item
keyword)` that a `main_span` without the attributes yields: here `(3, 3)` instead of `(1, 3)`): the
second attribute line of the skipped `fn` moves from column 2 to column 6, and the re-indented text
no longer contains the node's source text. -/
theorem macro_body_late_range_counterexample :
    let snippet := "#[rustfmt::skip]\n  #[cfg(a)]\nfn  f( ) {}\n\nfn g() {}\n".toList
    let s := "#[rustfmt::skip]\n  #[cfg(a)]\nfn  f( ) {}".toList
    reindent "    ".toList [(3, 3)] ⟨false, false⟩ snippet =
      "    #[rustfmt::skip]\n      #[cfg(a)]\nfn  f( ) {}\n\n    fn g() {}\n".toList ∧
    RF.Skip.containsSub s (reindent "    ".toList [(3, 3)] ⟨false, false⟩ snippet) = false ∧
    RF.Skip.containsSub s (reindent "    ".toList [(1, 3)] ⟨false, false⟩ snippet) = true := by
  dsimp only
  repeat rw [String.toList_ofList]
  decide +kernel

/-- The hypothesis "no carriage return" is needed: `LineClasses` drops one `\r` at the end of each
line and the fold writes `"\n"`, so a covered line that ends in `\r` (possible only for a lone
`\r` before a CRLF pair, inside a comment: rustc turns every CRLF into LF beforehand) loses it. -/
theorem macro_body_cr_counterexample :
    reindent [] [(1, 2)] ⟨false, false⟩ "/* a\r\n*/".toList = "/* a\n*/\n".toList := by
  repeat rw [String.toList_ofList]
  decide +kernel

/-- `unwrap_code_block`: a range that lies below the wrapper's header lines is shifted up by their
number, so a line `n` of the unwrapped block is covered iff line `n + header` of the wrapped text
was. -/
theorem unwrapCodeBlock_shift (h : Nat) (ranges : List (Nat × Nat)) (n : Nat)
    (hr : ∀ r ∈ ranges, h < r.1) :
    isLineNonFormatted (unwrapCodeBlock h ranges) n = isLineNonFormatted ranges (n + h) := by
  induction ranges with
  | nil => rfl
  | cons r rs ih =>
    have h1 : h < r.1 := hr r (by simp)
    have ih' := ih (fun x hx => hr x (by simp [hx]))
    simp only [isLineNonFormatted, unwrapCodeBlock, List.map_cons, List.any_cons] at ih' ⊢
    rw [ih']
    congr 1
    rw [Bool.eq_iff_iff]
    simp only [Bool.and_eq_true, decide_eq_true_eq]
    omega

/-- the hypothesis of `unwrapCodeBlock_shift` is satisfiable, and both sides are `true` on it -/
example : (∀ r ∈ [(3, 4)], 1 < r.1) ∧
    isLineNonFormatted (unwrapCodeBlock 1 [(3, 4)]) 2 = true ∧ isLineNonFormatted [(3, 4)] 3 = true := by
  decide +kernel

/-! ## `format_code_block`: the `fn main() {` wrapper around a statement-shaped body -/

/-- What the wrapper does to one line and what the un-indenting loop does to the result when the
formatter copied the line as it is (a line of a skipped node): the line comes back, for every line
when empty lines are left empty, and for every non-empty line otherwise.  `tabSpaces ≥ 1`; the line
with its indentation fits `max_width`. -/
theorem code_block_line_roundtrip (hardTabs : Bool) (tabSpaces maxWidth : Nat) (skipEmpty : Bool)
    (l : List Char) (ht : 1 ≤ tabSpaces) (hw : l.length + tabSpaces ≤ maxWidth)
    (hl : skipEmpty = true ∨ l ≠ []) :
    let ind := levelIndent hardTabs tabSpaces
    let offset := if hardTabs then 1 else tabSpaces
    unwrapLine ind offset maxWidth true ((if (!skipEmpty || !l.isEmpty) then ind else []) ++ l) =
      some l := by
  intro ind offset
  have hind : ind.length = offset := by
    simp only [ind, offset, levelIndent]
    split <;> simp
  have hoff : offset ≤ tabSpaces := by
    simp only [offset]; split <;> omega
  by_cases he : l = []
  · subst he
    rcases hl with h | h
    · subst h
      simp [unwrapLine]
    · exact absurd rfl h
  · have hne : l.isEmpty = false := by simpa using he
    have hpos : 0 < l.length := List.length_pos_iff.2 he
    simp only [hne, Bool.not_false, Bool.or_true, if_true]
    unfold unwrapLine
    have h1 : ¬ (ind ++ l).length > maxWidth := by
      simp only [List.length_append]; omega
    have h2 : (ind ++ l).length > ind.length := by
      simp only [List.length_append]; omega
    have h3 : ind.isPrefixOf (ind ++ l) = true := by
      simp
    simp only [Bool.not_true, Bool.false_eq_true, if_false, h1, h2, h3, if_true]
    rw [← hind, List.drop_left]

/-- The wrapper of the current source leaves empty lines empty (generated from lib.rs), so every
line of a verbatim copy survives the wrapping and unwrapping. -/
theorem code_block_roundtrip_current (hardTabs : Bool) (tabSpaces maxWidth : Nat) (l : List Char)
    (ht : 1 ≤ tabSpaces) (hw : l.length + tabSpaces ≤ maxWidth) :
    RF.Gen.SkipSites.encloseSkipsEmptyLines = true ∧
    unwrapLine (levelIndent hardTabs tabSpaces) (if hardTabs then 1 else tabSpaces) maxWidth true
      ((if (!RF.Gen.SkipSites.encloseSkipsEmptyLines || !l.isEmpty)
          then levelIndent hardTabs tabSpaces else []) ++ l) = some l :=
  ⟨by decide, code_block_line_roundtrip hardTabs tabSpaces maxWidth
    RF.Gen.SkipSites.encloseSkipsEmptyLines l ht hw (Or.inl (by decide))⟩

/-- the hypotheses of `code_block_line_roundtrip` are satisfiable -/
example : (1 : Nat) ≤ 4 ∧ ("  x".toList.length + 4 ≤ 100) := by decide +kernel

/-- The wrapper with `skipEmpty = false` (the code before /repo 22cb75b) indents empty lines too: an
empty line inside a skipped node comes back as a line of `tab_spaces` blanks (the un-indenting loop
only strips lines LONGER than the indentation); with `skipEmpty = true` it comes back empty. -/
theorem code_block_blank_line_counterexample :
    unwrapLine (levelIndent false 4) 4 100 true
      ((if (!false || !([] : List Char).isEmpty) then levelIndent false 4 else []) ++ []) =
      some "    ".toList ∧
    unwrapLines (levelIndent false 4) 4 100 ⟨false, false⟩ true
      (lineClasses (((encloseInMainBlock (levelIndent false 4) ⟨false, false⟩ false
        "struct S {\n\n}".toList).drop fnMainPrefix.length).dropLast.dropLast)) =
      some ["struct S {".toList, "    ".toList, "}".toList] ∧
    unwrapLines (levelIndent false 4) 4 100 ⟨false, false⟩ true
      (lineClasses (((encloseInMainBlock (levelIndent false 4) ⟨false, false⟩ true
        "struct S {\n\n}".toList).drop fnMainPrefix.length).dropLast.dropLast)) =
      some ["struct S {".toList, [], "}".toList] := by
  repeat rw [String.toList_ofList]
  decide +kernel

end RF.Props.C04

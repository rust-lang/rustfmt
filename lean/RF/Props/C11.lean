import RF.Lemmas.Sort
import RF.Gen.SortCalls

/-!
# C11  Reordering is a deterministic, order-insensitive permutation

Theorems about `RF.Model.Sort`: the comparators used when rustfmt sorts `use`, `mod` and
`extern crate` items (`version_sort`, the pre-2024 identifier order, `Ord for UseSegment`,
`Ord for UseTree`, `compare_items`), the stable sort, and the splitting of an item list into
reorderable groups.

Quantification: every string over every `char` (not only identifier characters), every use tree
of every depth, both style-edition families (`v2024 : Bool`), every list of elements.

`TotalPreorder cmp` (in `RF.Lemmas.Sort`) bundles: `cmp a a = Equal`; `cmp b a = (cmp a b).swap`
(so `cmp` is total and `Less`/`Greater` are consistent); `≤` (i.e. `cmp _ _ ≠ Greater`) is
transitive.  These are the requirements of `slice::sort_by`, which since Rust 1.81 may panic
otherwise.

Findings recorded here as `_counterexample` theorems (the code really behaves so):
  * `version_sort` ranks equal all identifiers that agree up to their first run of digits with a
    value ≥ 2^64 (`versionSort_antisymm_counterexample`), so it is a total preorder but not a
    total order on such identifiers;
  * for style edition 2024 `r#zed` and `zed` rank equal (`treeCmp_raw_counterexample`).
-/
namespace RF.Props.C11
open RF.Sort RF.Imports RF.Reorder RF.Lemmas.Sort

/-! ## `version_sort` -/

/-- `version_sort` is a total preorder on all strings: reflexive, the two directions agree
(`cmp b a = (cmp a b).swap`), `≤` is transitive. -/
theorem versionSort_total_preorder : TotalPreorder versionSort := versionSort_tp

/-- The three laws spelled out, plus totality. -/
theorem versionSort_laws :
    (∀ a, versionSort a a = .eq) ∧
    (∀ a b, versionSort b a = (versionSort a b).swap) ∧
    (∀ a b c, versionSort a b ≠ .gt → versionSort b c ≠ .gt → versionSort a c ≠ .gt) ∧
    (∀ a b, versionSort a b ≠ .gt ∨ versionSort b a ≠ .gt) :=
  ⟨versionSort_tp.refl, versionSort_tp.swap, versionSort_tp.trans, versionSort_tp.total⟩

/-- `s.length` calls of the chunk iterator are enough: more fuel gives the same chunks. -/
theorem chunks_fuel_suffices (n : Nat) (s : List Char) (h : s.length ≤ n) :
    chunksFuel n s = chunks s := chunksFuel_enough n s h

/-- When no run of ASCII digits has a value ≥ 2^64, the chunks are a partition of the string. -/
theorem chunks_partition (s : List Char) (h : allRunsFit s = true) :
    (chunks s).flatMap Chunk.source = s := chunks_source s h

/-- `version_sort` returns `Equal` only for equal strings, provided every run of ASCII digits
in both strings has a value below 2^64 (`usize`). -/
theorem versionSort_antisymm_partial (a b : List Char) (ha : allRunsFit a = true)
    (hb : allRunsFit b = true) (h : versionSort a b = .eq) : a = b :=
  versionSort_eq_imp a b ha hb h

/-- Non-vacuity: the hypothesis holds of ordinary identifiers, and leading zeros do distinguish. -/
example : allRunsFit "x86_064".toList = true ∧ allRunsFit "x86_64".toList = true ∧
    versionSort "x86_064".toList "x86_64".toList = .lt := by
  -- the kernel is slow at decoding a string literal; this lemma turns it into a list of characters
  rw [String.toList_ofList, String.toList_ofList]
  decide +kernel

/-- Without the hypothesis antisymmetry fails: the iterator stops at the first number that does
not fit `usize`, so two different identifiers with the same prefix before a 20-digit number
≥ 2^64 rank equal (and keep their input order when sorted). -/
theorem versionSort_antisymm_counterexample :
    ∃ a b : List Char, a ≠ b ∧ versionSort a b = .eq :=
  ⟨"a18446744073709551616b".toList, "a18446744073709551616a".toList, by
    rw [String.toList_ofList, String.toList_ofList]
    decide +kernel⟩

/-- The same defect, smallest form: 2^64 ranks equal to the empty string. -/
theorem versionSort_big_number_counterexample :
    versionSort "18446744073709551616".toList [] = .eq ∧
    versionSort "18446744073709551615".toList [] = .gt := by
  rw [String.toList_ofList, String.toList_ofList]
  decide +kernel

/-! ## The identifier order of style editions ≤ 2021 -/

/-- The pre-2024 identifier comparison (snake_case < CamelCase < UPPER_SNAKE_CASE, then
`str::cmp`) is a linear order: a total preorder in which only equal strings rank equal. -/
theorem legacyIdent_linear_order :
    TotalPreorder legacyIdentCmp ∧ ∀ a b, legacyIdentCmp a b = .eq → a = b :=
  ⟨legacyIdentCmp_tp, fun _ _ => legacyIdentCmp_eq_imp⟩

/-- Identifier comparison for either style-edition family. -/
theorem identCmp_total_preorder (v2024 : Bool) : TotalPreorder (identCmp v2024) := identCmp_tp v2024

/-! ## `Ord for UseSegment`, `Ord for UseTree` -/

/-- The model's `keep = false` mode is the literal `a.remove_alias().cmp(&b.remove_alias())`. -/
theorem removeAlias_literal (v2024 : Bool) (a b : Seg) :
    segCmpCore v2024 false a b = segCmp v2024 (removeAlias a) (removeAlias b) :=
  segCmpCore_false v2024 a b

/-- `UseSegment::cmp` is a total preorder for both style-edition families. -/
theorem segCmp_total_preorder (v2024 : Bool) : TotalPreorder (segCmp v2024) :=
  segCmpCore_tp v2024 true

/-- `UseTree::cmp` (with its alias-insensitive skip) is a total preorder for both families. -/
theorem treeCmp_total_preorder (v2024 : Bool) : TotalPreorder (treeCmp v2024) := treeCmp_tp v2024

/-- `UseTree::cmp` compares the paths segment by segment *with aliases removed*, then by length:
the value returned by the loop with the "hack" is the alias-free comparison. -/
theorem treeCmp_is_alias_free_lex (v2024 : Bool) (p q : List Seg) :
    treeCmp v2024 (.mk p) (.mk q) = lexCmp (segCmpCore v2024 false) p q := by
  simp only [treeCmp, pathCmp_eq_lex]

/-- Trees that differ only in aliases (at any depth; for 2024 also in `r#` prefixes) rank equal.
No hypothesis. -/
theorem treeCmp_equal_of_alias_only (v2024 : Bool) (a b : Tree)
    (h : canonTree v2024 a = canonTree v2024 b) : treeCmp v2024 a b = .eq := by
  -- both rank equal to their common canonical form
  have tp := treeCmp_tp v2024
  have h2 := tp.eq_symm (treeCmp_canon v2024 b)
  rw [← h] at h2
  exact tp.eq_trans (treeCmp_canon v2024 a) h2

/-- Style editions ≤ 2021: two trees rank equal exactly when they are equal after erasing every
alias (at every depth). -/
theorem treeCmp_equal_iff_alias_only (a b : Tree) :
    treeCmp false a b = .eq ↔ canonTree false a = canonTree false b :=
  treeCmp_eq_iff_canon false (fun _ => True)
    (fun n m _ _ => identCmp_eq_iff false n m nofun nofun) a b (fun _ _ => trivial)
    (fun _ _ => trivial)

/-- Style edition 2024: the same with `r#` prefixes erased too, provided no identifier of either
tree contains a number ≥ 2^64. -/
theorem treeCmp_equal_iff_alias_only_2024_partial (a b : Tree)
    (ha : ∀ n ∈ treeNames a, allRunsFit n = true) (hb : ∀ n ∈ treeNames b, allRunsFit n = true) :
    treeCmp true a b = .eq ↔ canonTree true a = canonTree true b :=
  treeCmp_eq_iff_canon true (fun n => allRunsFit n = true)
    (fun n m hn hm => identCmp_eq_iff true n m (fun _ => hn) (fun _ => hm)) a b ha hb

/-- Non-vacuity: `a::{b as c, d}` and `a::{b, d as e}` satisfy the hypotheses and rank equal. -/
example :
    let a := Tree.mk [.ident ['a'] none, .list [.mk [.ident ['b'] (some ['c'])], .mk [.ident ['d'] none]]]
    let b := Tree.mk [.ident ['a'] none, .list [.mk [.ident ['b'] none], .mk [.ident ['d'] (some ['e'])]]]
    (∀ n ∈ treeNames a, allRunsFit n = true) ∧ (∀ n ∈ treeNames b, allRunsFit n = true) ∧
      treeCmp true a b = .eq ∧ canonTree true a = canonTree true b :=
  ⟨by decide +kernel, by decide +kernel, by decide +kernel, rfl⟩

/-- For 2024 "equal after erasing aliases" is not the rank-equality: `r#zed` and `zed` differ
after erasing aliases (the 2021 canonical form keeps `r#`) yet rank equal. -/
theorem treeCmp_raw_counterexample :
    ∃ a b : Tree, treeCmp true a b = .eq ∧ canonTree false a ≠ canonTree false b :=
  ⟨.mk [.ident "r#zed".toList none], .mk [.ident "zed".toList none], by decide +kernel,
   fun h => absurd (congrArg treeNames h) (by decide +kernel)⟩

/-- … and without the `usize` hypothesis the 2024 characterisation fails. -/
theorem treeCmp_equal_iff_alias_only_2024_counterexample :
    ∃ a b : Tree, treeCmp true a b = .eq ∧ canonTree true a ≠ canonTree true b := by
  refine ⟨.mk [.ident "a18446744073709551616b".toList none],
    .mk [.ident "a18446744073709551616a".toList none], ?_,
    fun h => absurd (congrArg treeNames h) ?_⟩
  all_goals
    rw [String.toList_ofList, String.toList_ofList]
    decide +kernel

/-! ## `compare_items` -/

/-- `compare_items` returns a value exactly for two items of the same kind (`None` models
`unreachable!()`), and on each kind it is a total preorder. -/
theorem compareItems_total_preorder (v2024 : Bool) :
    (∀ a b, compareItems v2024 a b = none ↔ a.kind ≠ b.kind) ∧
    (∀ a b, a.kind = b.kind → compareItems v2024 a b = some (kindCmp v2024 a.kind a b)) ∧
    (∀ k, TotalPreorder (kindCmp v2024 k)) :=
  ⟨compareItems_none_iff v2024, compareItems_same v2024, kindCmp_tp v2024⟩

/-- `extern crate` items are ordered by crate name, then un-renamed before renamed, then by the
rename. -/
theorem externCmp_is_lex (v2024 : Bool) (a b : Item) :
    externCmp v2024 a b =
      (nameCmp v2024 a.name b.name).then (optCmp (nameCmp v2024) a.rename b.rename) :=
  externCmp_eq v2024 a b

/-! ## The stable sort -/

/-- The sorted list is a permutation of the input (nothing lost, duplicated or invented). -/
theorem stableSort_perm {α} (cmp : α → α → Ordering) (l : List α) :
    (stableSort cmp l).Perm l := RF.Lemmas.Sort.stableSort_perm cmp l

/-- Under a total preorder the output is ascending: no element is greater than a later one. -/
theorem stableSort_sorted {α} {cmp : α → α → Ordering} (tp : TotalPreorder cmp) (l : List α) :
    (stableSort cmp l).Pairwise (fun a b => cmp a b ≠ .gt) :=
  RF.Lemmas.Sort.stableSort_sorted tp l

/-- Stability: for every rank, the elements of that rank appear in the output in their input
order. -/
theorem stableSort_stable {α} {cmp : α → α → Ordering} (tp : TotalPreorder cmp) (c : α)
    (l : List α) :
    (stableSort cmp l).filter (fun y => cmp c y = .eq) = l.filter (fun y => cmp c y = .eq) :=
  stableSort_classOf tp c l

/-- Under a total preorder the result depends only on the per-rank subsequences of the input:
two inputs that, for every rank, list the elements of that rank in the same order (which makes
them permutations of each other) sort to the same list. -/
theorem stableSort_unique {α} {cmp : α → α → Ordering} (tp : TotalPreorder cmp) (l1 l2 : List α)
    (h : ∀ c, l1.filter (fun y => cmp c y = .eq) = l2.filter (fun y => cmp c y = .eq)) :
    stableSort cmp l1 = stableSort cmp l2 :=
  RF.Lemmas.Sort.stableSort_unique tp l1 l2 h

set_option maxRecDepth 4000 in
/-- Non-vacuity: `[a as x, b, a as y]` and `[b, a as x, a as y]` have the same per-rank
subsequences under `UseTree::cmp` and sort to the same list. -/
example :
    let ax := Tree.mk [.ident ['a'] (some ['x'])]
    let ay := Tree.mk [.ident ['a'] (some ['y'])]
    let b := Tree.mk [.ident ['b'] none]
    stableSort (treeCmp false) [ax, b, ay] = [ax, ay, b] ∧
    stableSort (treeCmp false) [b, ax, ay] = [ax, ay, b] ∧
    stableSort (treeCmp false) [ay, b, ax] = [ay, ax, b] := ⟨rfl, rfl, rfl⟩

/-- The algorithm does not matter: any list that is ascending and keeps each rank's elements in
input order — the contract of a stable sort, e.g. `slice::sort_by` — is the list computed by
the model's insertion sort. -/
theorem stableSort_any_stable_sort {α} {cmp : α → α → Ordering} (tp : TotalPreorder cmp)
    (l s : List α) (hs : s.Pairwise (fun a b => cmp a b ≠ .gt))
    (h : ∀ c, s.filter (fun y => cmp c y = .eq) = l.filter (fun y => cmp c y = .eq)) :
    s = stableSort cmp l :=
  stableSort_spec_unique tp l s hs h

/-- Non-vacuity of the contract: the model's own output satisfies both hypotheses. -/
example {α} {cmp : α → α → Ordering} (tp : TotalPreorder cmp) (l : List α) :
    (stableSort cmp l).Pairwise (fun a b => cmp a b ≠ .gt) ∧
    ∀ c, (stableSort cmp l).filter (fun y => cmp c y = .eq) = l.filter (fun y => cmp c y = .eq) :=
  ⟨stableSort_sorted tp l, fun c => stableSort_stable tp c l⟩

/-- Order independence: if no two different elements of the input rank equal, every permutation
of the input sorts to the same list. -/
theorem order_independent {α} {cmp : α → α → Ordering} (tp : TotalPreorder cmp) (l1 l2 : List α)
    (hp : l1.Perm l2) (anti : ∀ a ∈ l1, ∀ b ∈ l1, cmp a b = .eq → a = b) :
    stableSort cmp l1 = stableSort cmp l2 :=
  RF.Lemmas.Sort.order_independent tp l1 l2 hp anti

/-- Instance for `mod`/identifier lists under `version_sort`: identifiers whose numbers fit
`usize` sort to the same list whatever their input order. -/
theorem versionSort_order_independent (l1 l2 : List (List Char)) (hp : l1.Perm l2)
    (hfit : ∀ a ∈ l1, allRunsFit a = true) :
    stableSort versionSort l1 = stableSort versionSort l2 :=
  RF.Lemmas.Sort.order_independent versionSort_tp l1 l2 hp
    (fun a ha b hb h => versionSort_eq_imp a b (hfit a ha) (hfit b hb) h)

example : stableSort versionSort (["u8", "u16", "u_zzz", "ua"].map String.toList)
    = stableSort versionSort (["ua", "u16", "u8", "u_zzz"].map String.toList) := by decide +kernel

/-- Instance for imports: lists of use trees without two different trees of the same canonical
form (i.e. differing only in aliases) sort to the same list whatever their input order
(style editions ≤ 2021; for 2024 add the `usize` hypothesis of
`treeCmp_equal_iff_alias_only_2024_partial`). -/
theorem treeSort_order_independent (l1 l2 : List Tree) (hp : l1.Perm l2)
    (hdistinct : ∀ a ∈ l1, ∀ b ∈ l1, canonTree false a = canonTree false b → a = b) :
    stableSort (treeCmp false) l1 = stableSort (treeCmp false) l2 :=
  RF.Lemmas.Sort.order_independent (treeCmp_tp false) l1 l2 hp
    (fun a ha b hb h => hdistinct a ha b hb ((treeCmp_equal_iff_alias_only a b).mp h))

set_option maxRecDepth 4000 in
/-- Non-vacuity: `[b::c, a]` has no two trees with the same canonical form. -/
example :
    let l := [Tree.mk [.ident ['b'] none, .ident ['c'] none], Tree.mk [.ident ['a'] none]]
    (∀ a ∈ l, ∀ b ∈ l, canonTree false a = canonTree false b → a = b) ∧
      stableSort (treeCmp false) l = l.reverse := by
  refine ⟨by simp [canonTree, canonPath, canonSeg, canonName], rfl⟩

/-! ## Groups -/

/-- The loop of `visit_items_with_reordering` cuts the item list into consecutive pieces whose
concatenation is the input (no item changes group, none is lost), and every piece handed to the
sorter contains items of one reorderable kind only — so never an item with `#[macro_use]` or
`#[rustfmt::skip]` (their kind is `Other`), never two kinds — and, where blank lines separate
groups (`in_group`), consecutive items of a piece are at most one line apart.  A piece that is
not sorted is a single item whose kind is neither reorderable nor regroupable. -/
theorem groups_partition (c : GConfig) (items : List GItem) (gs : List Group)
    (h : splitGroups c items = some gs) :
    gs.flatMap Group.items = items ∧ ∀ g ∈ gs, GroupOK c g :=
  splitGroupsFuel_spec c _ items gs h

/-- The loop terminates (the fuel suffices) whenever every span has `lo ≤ hi`. -/
theorem groups_total (c : GConfig) (items : List GItem) (hw : ∀ i ∈ items, i.lo ≤ i.hi) :
    ∃ gs, splitGroups c items = some gs :=
  splitGroupsFuel_some c _ items (Nat.le_refl _) hw

/-- Non-vacuity / example: two `mod` declarations, a blank line, a third one, a `#[macro_use]`
one and a `use`: four pieces. -/
example :
    splitGroups ⟨true, true, true⟩
      [⟨.modDecl, false, false, 1, 1⟩, ⟨.modDecl, false, false, 2, 2⟩,
       ⟨.modDecl, false, false, 4, 4⟩, ⟨.modDecl, true, false, 5, 6⟩, ⟨.use, false, false, 7, 7⟩]
    = some [.run .mod [⟨.modDecl, false, false, 1, 1⟩, ⟨.modDecl, false, false, 2, 2⟩],
            .run .mod [⟨.modDecl, false, false, 4, 4⟩],
            .single ⟨.modDecl, true, false, 5, 6⟩,
            .run .use [⟨.use, false, false, 7, 7⟩]] := by decide +kernel

/-! ## The sorting calls of the code are stable sorts (generated table) -/

/-- `stableSort_unique` / `order_independent` are statements about a STABLE sort.  That the reordering code
calls one is read off the source on every run: `translate/c11_sorts.py` lists every sorting call of
`src/reorder.rs`, `src/imports.rs` and the impl-item reordering of `src/items.rs` with its method name;
`sort`, `sort_by`, `sort_by_key`, `sort_by_cached_key` are stable by the contract of `std`, `sort_unstable*` is not.
If this stops checking, rank-equal declarations (alias-only twins, same-named `#[cfg]` modules) no longer
keep their input order and two permutations of one group may format differently. -/
theorem sort_calls_stable : ∀ c ∈ RF.Gen.SortCalls.calls, c.2.2 = true := by decide +kernel

/-- Non-vacuity: the table is not empty and covers the three files. -/
example : RF.Gen.SortCalls.calls.length ≥ 6 ∧
    (RF.Gen.SortCalls.calls.map (·.1)).eraseDups.length = 3 := by decide +kernel

end RF.Props.C11

import RF.Lemmas.CargoFmt

/-!
# C18  `cargo fmt` formats the right targets with the right editions

Theorems about `RF.Model.CargoFmt`, the model of `src/cargo-fmt/main.rs`.  Quantification: every
world `env` (`cargo metadata` answers per manifest, `canonicalize`, `exists`, working directory),
every option set, every status function `run` of the spawned rustfmt processes.  `fuel` only bounds
the depth of the `--all` recursion (`all_terminates`, `all_fuel_independent`).

Vocabulary (defined in `RF.Lemmas.CargoFmt`, `srcCanon` in the model):
* `paths T`            the paths of the elements of `T`, in `T`'s order;
* `srcCanon env t`     `canonicalize(src_path)` or, when that fails, `src_path` itself;
* `Reach env root m`   manifest `m` is reached from `root` along path dependencies the code follows
                       (manifest exists and is not a package of the same metadata answer);
* `SpecPath env root p` `p` is the source path of a target of a package of a reachable answer;
* `NameFun env root`   followed dependencies with equal names have equal manifests;
* `Declared env y`     `y` was built by `Target::from_target` from a target some answer declares.

Findings (each proved below on a concrete world):
* `all_is_transitive_closure_counterexample` — `visited` holds dependency *names*: a second path dependency
  with the same package name in another directory is never formatted by `--all`;
* `root_subdir_counterexample` (F9) — from a sub-directory of a member of a workspace with two or
  more members, plain `cargo fmt` fails with "Failed to find targets";
* `root_manifest_path_counterexample` — `--manifest-path <ws>/Cargo.toml` compares the workspace
  root *directory* with the manifest *file*, so it formats only the root package (nothing for a
  virtual workspace) where `cd <ws>; cargo fmt` formats every member;
* `signal_counterexample` (F9) — a rustfmt killed by a signal is folded to exit status 0.
-/
namespace RF.Props.C18
open RF.CargoFmt RF.Lemmas.CargoFmt

/-! ## Concrete worlds used by the examples and counter-examples -/

def S (s : String) : Str := s.toList
def P (s : String) : Path := parsePath s.toList
def lib (src : String) (e : Edition) : MTarget := ⟨S src, [S "lib"], e⟩
def pkg (name dir : String) (ts : List MTarget) (deps : List Dep := []) : Package :=
  ⟨S name, S (dir ++ "/Cargo.toml"), ts, deps⟩

/-- Virtual workspace `/ws` with members `a` (2021) and `b` (2018). -/
def wsMd : Metadata :=
  { workspaceRoot := S "/ws"
    packages := [pkg "a" "/ws/a" [lib "/ws/a/src/lib.rs" .e2021],
                 pkg "b" "/ws/b" [lib "/ws/b/src/lib.rs" .e2018]] }

/-- `cargo metadata` finds the workspace from anywhere below `/ws`. -/
def wWs (cwd : String) : World :=
  { answers := [(none, .ok wsMd), (some (P "/ws/Cargo.toml"), .ok wsMd)], links := [], cwd := P cwd }

/-- Members `a`, `b` depend on two *different* packages both called `util` (versions differ). -/
def clashMd : Metadata :=
  { workspaceRoot := S "/ws"
    packages := [pkg "a" "/ws/a" [lib "/ws/a/src/lib.rs" .e2021] [⟨S "util", some (S "/x/util")⟩],
                 pkg "b" "/ws/b" [lib "/ws/b/src/lib.rs" .e2021] [⟨S "util", some (S "/y/util")⟩]] }
def utilMd (dir : String) : Metadata :=
  { workspaceRoot := S dir, packages := [pkg "util" dir [lib (dir ++ "/src/lib.rs") .e2021]] }
def wClash : World :=
  { answers := [(none, .ok clashMd), (some (P "/x/util/Cargo.toml"), .ok (utilMd "/x/util")),
                (some (P "/y/util/Cargo.toml"), .ok (utilMd "/y/util"))]
    links := [], cwd := P "/ws" }

/-- Two packages share one source file, with different editions. -/
def sharedMd : Metadata :=
  { workspaceRoot := S "/ws"
    packages := [pkg "a" "/ws/a" [lib "/ws/shared.rs" .e2018, lib "/ws/a/src/lib.rs" .e2018],
                 pkg "b" "/ws/b" [lib "/ws/shared.rs" .e2021]] }
def wShared : World := { answers := [(none, .ok sharedMd)], links := [], cwd := P "/ws" }

/-! ## Selection: `--all` -/

/-- `--all` collects exactly the source files of all targets of all packages of all manifests
reachable through local path dependencies — provided equal dependency names mean equal manifests
(`NameFun`; see the counter-example below). -/
theorem all_is_transitive_closure_partial {env : Env} {fuel : Nat} {root : Option Path} {T : TSet}
    (hfun : NameFun env root) (h : getTargets env fuel .all root = some (.ok T)) (p : Path) :
    p ∈ paths T ↔ SpecPath env root p := by
  obtain ⟨_, st, hrec, rfl⟩ := getTargets_ok h
  exact recursive_paths_iff hfun hrec p

/-- In a finite world the hypothesis is decidable (`World.namesFunctional`). -/
theorem nameFun_of_world {w : World} (h : w.namesFunctional = true) (root : Option Path) :
    NameFun w.env root := by
  intro m₁ m₂ n a b _ _ e1 e2
  obtain ⟨q1, h1, rfl⟩ := world_edge_allDeps e1
  obtain ⟨q2, h2, rfl⟩ := world_edge_allDeps e2
  simp only [World.namesFunctional, List.all_eq_true] at h
  have := h _ h1 _ h2
  simpa using this

/-- Non-vacuity, and the test case of the repository (`e` outside the workspace depends back on a
member): member `a` → `/ext/e` → `/ext/e/f`, and `/ext/e` → `/ws/a` again. -/
def chainMd : Metadata :=
  { workspaceRoot := S "/ws"
    packages := [pkg "a" "/ws/a" [lib "/ws/a/src/lib.rs" .e2021] [⟨S "e", some (S "/ext/e")⟩, ⟨S "serde", none⟩],
                 pkg "b" "/ws/b" [lib "/ws/b/src/lib.rs" .e2018] [⟨S "a", some (S "/ws/a")⟩]] }
def eMd : Metadata :=
  { workspaceRoot := S "/ext/e"
    packages := [pkg "e" "/ext/e" [lib "/ext/e/src/lib.rs" .e2015]
      [⟨S "f", some (S "/ext/e/f")⟩, ⟨S "a", some (S "/ws/a")⟩, ⟨S "gone", some (S "/nowhere")⟩]] }
def fMd : Metadata :=
  { workspaceRoot := S "/ext/e/f", packages := [pkg "f" "/ext/e/f" [lib "/ext/e/f/src/lib.rs" .e2015]] }
def wChain : World :=
  { answers := [(none, .ok chainMd), (some (P "/ws/a/Cargo.toml"), .ok chainMd),
                (some (P "/ext/e/Cargo.toml"), .ok eMd), (some (P "/ext/e/f/Cargo.toml"), .ok fMd)]
    links := [], cwd := P "/ws" }

example : NameFun wChain.env none ∧
    getTargets wChain.env wChain.fuel .all none =
      some (.ok [⟨P "/ext/e/f/src/lib.rs", S "lib", .e2015⟩, ⟨P "/ext/e/src/lib.rs", S "lib", .e2015⟩,
                 ⟨P "/ws/a/src/lib.rs", S "lib", .e2021⟩, ⟨P "/ws/b/src/lib.rs", S "lib", .e2018⟩]) :=
  And.imp (nameFun_of_world · none) id (by decide +kernel)

/-- Without `NameFun` the statement fails: `a → /x/util` and `b → /y/util` are two packages named
`util`; after the first, the name is in `visited` and `/y/util/src/lib.rs` is never collected. -/
theorem all_is_transitive_closure_counterexample :
    getTargets wClash.env wClash.fuel .all none =
      some (.ok [⟨P "/ws/a/src/lib.rs", S "lib", .e2021⟩, ⟨P "/ws/b/src/lib.rs", S "lib", .e2021⟩,
                 ⟨P "/x/util/src/lib.rs", S "lib", .e2021⟩]) ∧
    SpecPath wClash.env none (P "/y/util/src/lib.rs") := by
  -- the manifest is named as the recursion computes it, so that no path is evaluated outside the kernel
  refine ⟨by decide +kernel, some (depManifest (S "/y/util")), utilMd "/y/util", ?_, by decide +kernel,
    _, .head _, _, .head _, by decide +kernel⟩
  exact .step (m := none) .root ⟨clashMd, rfl, _, .tail _ (.head _), _, .head _, _, rfl, rfl, rfl,
    by decide +kernel⟩

/-- Hence the unconditional statement is false. -/
theorem all_is_transitive_closure_unconditional_false :
    ¬ ∀ (env : Env) (fuel : Nat) (root : Option Path) (T : TSet),
      getTargets env fuel .all root = some (.ok T) → ∀ p, p ∈ paths T ↔ SpecPath env root p := by
  intro h
  obtain ⟨h1, h2⟩ := all_is_transitive_closure_counterexample
  have := (h _ _ _ _ h1 (P "/y/util/src/lib.rs")).mpr h2
  revert this
  decide +kernel

/-- The recursion ends: with more fuel than there are names of path dependencies the model never
runs out (each recursive call is preceded by a new name entering `visited`). -/
theorem all_terminates {env : Env} {names : List Str} (hb : NamesBound env names) (fuel : Nat)
    (hf : names.length < fuel) (root : Option Path) :
    (getTargets env fuel .all root).isSome = true := by
  have := recursive_fuel_suffices hb fuel hf root []
  unfold getTargets
  cases hr : getTargetsRecursive env fuel root ⟨[], []⟩ with
  | none => simp [hr] at this
  | some r =>
    cases r with
    | error e => rfl
    | ok st => obtain ⟨ts, _⟩ := st; cases ts <;> rfl

example : NamesBound wClash.env wClash.depNames ∧ wClash.depNames.length < wClash.fuel :=
  ⟨world_namesBound _, Nat.lt_succ_self _⟩

/-- Whatever fuel suffices gives the same answer. -/
theorem all_fuel_independent {env : Env} {f f' : Nat} {root : Option Path} {r r' : Except Err TSet}
    (h : getTargets env f .all root = some r) (h' : getTargets env f' .all root = some r') : r = r' := by
  unfold getTargets at h h'
  cases h1 : getTargetsRecursive env f root ⟨[], []⟩ with
  | none => simp [h1] at h
  | some a =>
    cases h2 : getTargetsRecursive env f' root ⟨[], []⟩ with
    | none => simp [h2] at h'
    | some b =>
      have := recursive_fuel_indep h1 h2
      subst this
      rw [h1] at h
      rw [h2] at h'
      exact Option.some.inj (h.symm.trans h')

/-! ## Selection: `-p` -/

/-- `-p n₁ n₂ …`: every named package exists, and the set holds exactly the source files of the
targets of the (first) package of each given name. -/
theorem hitlist_exact {env : Env} {fuel : Nat} {mp : Option Path} {names : List Str} {T : TSet}
    (h : getTargets env fuel (.some names) mp = some (.ok T)) :
    ∃ md, env.metadata mp = .ok md ∧ (∀ n ∈ names, ∃ q ∈ md.packages, q.name = n) ∧
      ∀ p, p ∈ paths T ↔ ∃ n ∈ names, FirstNamed env md.packages n p := by
  obtain ⟨_, h⟩ := getTargets_ok h
  simp only at h
  cases hmd : env.metadata mp with
  | error e => simp [getTargetsWithHitlist, hmd] at h
  | ok md =>
    have := hitlist_spec (names := names) hmd
    rw [h] at this
    exact ⟨md, rfl, this⟩

example : getTargets (wWs "/ws").env 1 (.some [S "b"]) none =
    some (.ok [⟨P "/ws/b/src/lib.rs", S "lib", .e2018⟩]) := by decide +kernel

/-- A name given with `-p` that no package of the workspace bears is an error, and the error names
the least such name (byte order) — unless a selected package's target has an empty `kind`, in which
case `target.kind[0]` panics first. -/
theorem unknown_package_error {env : Env} {fuel : Nat} {mp : Option Path} {names : List Str}
    {md : Metadata} (hmd : env.metadata mp = .ok md) {n : Str} (hn : n ∈ names)
    (hmiss : ∀ q ∈ md.packages, q.name ≠ n) :
    ∃ e, getTargets env fuel (.some names) mp = some (.error e) ∧
      (e = .kindPanic ∨ ∃ n', e = .notMember n' ∧ n' ∈ names ∧ (∀ q ∈ md.packages, q.name ≠ n') ∧
        ∀ n'' ∈ names, (∀ q ∈ md.packages, q.name ≠ n'') → cmpStr n' n'' ≠ .gt) := by
  have := hitlist_spec (names := names) hmd
  unfold getTargets
  cases hr : getTargetsWithHitlist env mp names [] with
  | ok s =>
    rw [hr] at this
    obtain ⟨q, hq, hqn⟩ := this.1 n hn
    exact absurd hqn (hmiss q hq)
  | error e =>
    rw [hr] at this
    refine ⟨e, by simp [hr], ?_⟩
    rcases this with ⟨h, _⟩ | h
    · exact .inl h
    · exact .inr h

example : Normal { check := true, packages := [S "nope"] } := ⟨by decide +kernel, by decide +kernel, by decide +kernel⟩

/-- … and nothing is formatted: `cargo fmt -p <unknown>` exits non-zero without starting rustfmt. -/
theorem unknown_package_error_first {env : Env} {fuel : Nat} {run : List Str → Status} {o : Opts}
    (hn : Normal o) (hall : o.formatAll = false) {md : Metadata}
    (hmd : env.metadata (o.manifestPath.map parsePath) = .ok md) {n : Str} (hmem : n ∈ o.packages)
    (hmiss : ∀ q ∈ md.packages, q.name ≠ n) :
    ∃ out, execute env fuel run o = some out ∧ out.trace = [] ∧ out.exit ≠ 0 := by
  rw [execute_normal hn]
  have hstrat : Strategy.fromOpts o = .some o.packages := by
    unfold Strategy.fromOpts
    cases hp : o.packages with
    | nil => simp [hp] at hmem
    | cons a r => simp [hall]
  obtain ⟨e, he, _⟩ := unknown_package_error (fuel := fuel) hmd hmem hmiss
  cases rustfmtArgs o with
  | error e => exact ⟨_, rfl, rfl, by simp⟩
  | ok args =>
    dsimp only
    split
    · rw [formatCrate_cases, hstrat, he]
      exact ⟨_, rfl, rfl, errExit_ne_zero e⟩
    · exact ⟨_, rfl, rfl, by simp⟩

example : getTargets (wWs "/ws").env 1 (.some [S "zz", S "b", S "c"]) none =
    some (.error (.notMember (S "c"))) := by decide +kernel

/-! ## Selection: the current package -/

/-- Plain `cargo fmt`: the targets of the only package; else of every member when the working
directory (or, literally, the `--manifest-path` *file*) is the workspace root; else of the package
whose canonical manifest is `<cwd>/Cargo.toml` (resp. the canonical `--manifest-path`). -/
theorem root_is_current_package {env : Env} {fuel : Nat} {mp : Option Path} {T : TSet}
    (h : getTargets env fuel .root mp = some (.ok T)) :
    ∃ md wsRoot here, env.metadata mp = .ok md ∧ env.canon (parsePath md.workspaceRoot) = some wsRoot ∧
      currentManifest env mp = some here ∧
      ∀ p, p ∈ paths T ↔ ∃ pkg ∈ md.packages, RootSelected env mp md wsRoot here pkg ∧
        ∃ t ∈ pkg.targets, srcCanon env t = p :=
  rootOnly_spec (getTargets_ok h).2

/-- F9: in `/ws/a/src` (inside member `a`; `cargo metadata` finds the workspace) nothing is
selected, although `/ws/a` selects `a`. -/
theorem root_subdir_counterexample :
    getTargets (wWs "/ws/a/src").env 1 .root none = some (.error .noTargets) ∧
    getTargets (wWs "/ws/a").env 1 .root none = some (.ok [⟨P "/ws/a/src/lib.rs", S "lib", .e2021⟩]) := by
  decide +kernel

example : getTargets (wWs "/ws/a").env 1 .root none =
    some (.ok [⟨P "/ws/a/src/lib.rs", S "lib", .e2021⟩]) := root_subdir_counterexample.2

/-- `cd /ws; cargo fmt` takes every member, `cargo fmt --manifest-path /ws/Cargo.toml` none (virtual
workspace): `in_workspace_root` compares the directory `/ws` with the file `/ws/Cargo.toml`. -/
theorem root_manifest_path_counterexample :
    getTargets (wWs "/ws").env 1 .root none =
      some (.ok [⟨P "/ws/a/src/lib.rs", S "lib", .e2021⟩, ⟨P "/ws/b/src/lib.rs", S "lib", .e2018⟩]) ∧
    getTargets (wWs "/elsewhere").env 1 .root (some (P "/ws/Cargo.toml")) = some (.error .noTargets) := by
  decide +kernel

/-! ## The set -/

/-- Whatever the strategy, the result is strictly ascending by path (component order) — so no path
occurs twice — and is not empty. -/
theorem targets_sorted_nonempty {env : Env} {fuel : Nat} {strategy : Strategy} {mp : Option Path}
    {T : TSet} (h : getTargets env fuel strategy mp = some (.ok T)) :
    T ≠ [] ∧ T.Pairwise (fun a b => cmpPath a.path b.path = .lt) ∧ (paths T).Nodup :=
  ⟨(getTargets_ok h).1, getTargets_sorted h, sorted_paths_nodup (getTargets_sorted h)⟩

/-- Every element was built from a declared target: it carries that target's edition, first kind
and canonicalised source path. -/
theorem targets_declared {env : Env} {fuel : Nat} {strategy : Strategy} {mp : Option Path} {T : TSet}
    (h : getTargets env fuel strategy mp = some (.ok T)) :
    ∀ y ∈ T, ∃ m md, env.metadata m = .ok md ∧ ∃ pkg ∈ md.packages, ∃ t ∈ pkg.targets,
      y.path = srcCanon env t ∧ y.edition = t.edition ∧ t.kind.head? = some y.kind := by
  intro y hy
  obtain ⟨m, md, hmd, pkg, hpkg, t, ht, hft⟩ := getTargets_declared h y hy
  exact ⟨m, md, hmd, pkg, hpkg, t, ht, fromTarget_ok hft⟩

/-- `Target`'s `Eq`/`Ord` look at the path only and `BTreeSet::insert` keeps the element it already
has: of several targets with the same canonical path, the one inserted **first** (package order of
the metadata answer, then target order) supplies edition and kind; later ones are dropped. -/
theorem shared_path_first_inserted_wins {env : Env} (ts : List MTarget) {T : TSet}
    (h : insertTargets env ts [] = .ok T) :
    ∀ y ∈ T, ∃ pre t post, ts = pre ++ t :: post ∧ Target.fromTarget env t = .ok y ∧
      ∀ u ∈ pre, srcCanon env u ≠ y.path := by
  intro y hy
  rcases insertTargets_first_wins ts [] h (by simp [Sorted]) y hy with h0 | ⟨_, h0⟩
  · simp at h0
  · exact h0

/-- `a` (2018) and `b` (2021) both list `/ws/shared.rs`: it is formatted once, as edition 2018. -/
theorem shared_path_example :
    getTargets wShared.env 1 .all none =
      some (.ok [⟨P "/ws/a/src/lib.rs", S "lib", .e2018⟩, ⟨P "/ws/shared.rs", S "lib", .e2018⟩]) := by
  decide +kernel

/-! ## Invocations -/

/-- Every selected file is handed to rustfmt exactly once: the files of all invocations together
are a permutation of the set's paths, without repetition. -/
theorem each_file_once {env : Env} {fuel : Nat} {strategy : Strategy} {mp : Option Path} {T : TSet}
    (h : getTargets env fuel strategy mp = some (.ok T)) (args : List Str) :
    ((planInvocations T args).flatMap (·.files)).Perm (paths T) ∧
    ((planInvocations T args).flatMap (·.files)).Nodup := by
  have hperm : ((planInvocations T args).flatMap (·.files)).Perm (paths T) := by
    have := (byEdition_spec T).2.2.2
    unfold planInvocations
    rw [List.flatMap_map]
    exact this
  exact ⟨hperm, hperm.nodup_iff.mpr (sorted_paths_nodup (getTargets_sorted h))⟩

/-- One invocation per edition that occurs, in ascending edition order, none empty; the files of an
invocation are exactly the paths of the set's targets of that edition, in path order; the
arguments are the same for all. -/
theorem invocations_by_edition (T : TSet) (args : List Str) :
    (planInvocations T args).Pairwise (fun a b => a.edition.year < b.edition.year) ∧
    (∀ i ∈ planInvocations T args, i.files ≠ [] ∧ i.args = args ∧
      i.files = (T.filter (fun t => t.edition = i.edition)).map (·.path)) ∧
    (∀ t ∈ T, ∃ i ∈ planInvocations T args, i.edition = t.edition) := by
  obtain ⟨h1, h2, h3, _⟩ := byEdition_spec T
  unfold planInvocations
  refine ⟨?_, ?_, ?_⟩
  · rw [List.pairwise_map]; exact h1
  · intro i hi
    rw [List.mem_map] at hi
    obtain ⟨⟨e, fs⟩, hm, rfl⟩ := hi
    obtain ⟨ha, hb⟩ := h2 e fs hm
    exact ⟨ha, rfl, hb⟩
  · intro t ht
    obtain ⟨fs, hm⟩ := h3 t ht
    exact ⟨_, List.mem_map.mpr ⟨_, hm, rfl⟩, rfl⟩

/-- Each file is passed in the invocation that carries the edition of *its* element of the set (the
only element with that path), and that element has the edition declared for a target with that
source path — the first inserted one when several share the path
(`shared_path_first_inserted_wins`). -/
theorem edition_of_target {env : Env} {fuel : Nat} {strategy : Strategy} {mp : Option Path} {T : TSet}
    (h : getTargets env fuel strategy mp = some (.ok T)) (args : List Str) :
    ∀ i ∈ planInvocations T args, ∀ p ∈ i.files,
      ∃ y ∈ T, y.path = p ∧ y.edition = i.edition ∧ (∀ y' ∈ T, y'.path = p → y' = y) ∧
        ∃ m md, env.metadata m = .ok md ∧ ∃ pkg ∈ md.packages, ∃ t ∈ pkg.targets,
          srcCanon env t = p ∧ t.edition = i.edition := by
  intro i hi p hp
  obtain ⟨_, hfiles⟩ := (invocations_by_edition T args).2.1 i hi
  rw [hfiles.2, List.mem_map] at hp
  obtain ⟨y, hy, rfl⟩ := hp
  rw [List.mem_filter] at hy
  have hed : y.edition = i.edition := by simpa using hy.2
  obtain ⟨m, md, hmd, pkg, hpkg, t, ht, h1, h2, _⟩ := targets_declared h y hy.1
  refine ⟨y, hy.1, rfl, hed, ?_, m, md, hmd, pkg, hpkg, t, ht, h1.symm, by rw [← h2, hed]⟩
  intro y' hy' hpath
  exact sorted_path_unique (getTargets_sorted h) y' hy' y hy.1 hpath

example : (planInvocations [⟨P "/ws/a/src/lib.rs", S "lib", .e2021⟩, ⟨P "/ws/b/src/lib.rs", S "lib", .e2018⟩]
    [S "--check"]).map (·.argv) =
    [[S "/ws/b/src/lib.rs", S "--edition", S "2018", S "--check"],
     [S "/ws/a/src/lib.rs", S "--edition", S "2021", S "--check"]] := by decide +kernel

/-- What `args_passthrough` says about one formatting run. -/
def PassedThrough (env : Env) (fuel : Nat) (run : List Str → Status) (strategy : Strategy)
    (mp : Option Path) (args : List Str) (out : Outcome) : Prop :=
  out.trace = [] ∨
  ∃ T, getTargets env fuel strategy mp = some (.ok T) ∧
    (out.trace.map (·.1) <+: (planInvocations T args).map Invocation.argv) ∧
    ((∀ a, run a ≠ .spawnErr) → out.trace.map (·.1) = (planInvocations T args).map Invocation.argv) ∧
    (∀ x ∈ out.trace, x.2 = run x.1) ∧
    ∀ i ∈ planInvocations T args,
      i.argv = i.files.map Path.render ++ [sEdition, i.edition.str] ++ args

theorem formatCrate_passthrough {env : Env} {fuel : Nat} {run : List Str → Status}
    {strategy : Strategy} {mp : Option Path} {args : List Str} {out : Outcome}
    (hfc : formatCrate env fuel run strategy args mp = some out) :
    PassedThrough env fuel run strategy mp args out := by
  rw [formatCrate_cases] at hfc
  cases hg : getTargets env fuel strategy mp with
  | none => simp [hg] at hfc
  | some r =>
    cases r with
    | error e => simp [hg] at hfc; subst hfc; exact Or.inl rfl
    | ok T =>
      simp only [hg, Option.some.injEq] at hfc
      subst hfc
      obtain ⟨h1, h2, h3⟩ := runRustfmt_trace run T args
      refine Or.inr ⟨T, hg, h1, h3, h2, ?_⟩
      intro i hi
      obtain ⟨_, hia, _⟩ := (invocations_by_edition T args).2.1 i hi
      simp [Invocation.argv, hia]

/-- The argument vector of every rustfmt process `cargo fmt` starts when it formats is
`files ++ ["--edition", <edition>] ++ args`, where `args` is the translated argument list
(`check_and_options_passed`), identical for all processes; the processes are a prefix of the
planned ones (all of them when no spawn fails), and nothing else is started. -/
theorem args_passthrough {env : Env} {fuel : Nat} {run : List Str → Status} {o : Opts} {out : Outcome}
    (hn : Normal o) (h : execute env fuel run o = some out) :
    out.trace = [] ∨
    ∃ args, rustfmtArgs o = .ok args ∧
      PassedThrough env fuel run (Strategy.fromOpts o) (o.manifestPath.map parsePath) args out := by
  rw [execute_normal hn] at h
  cases hargs : rustfmtArgs o with
  | error e => simp [hargs] at h; subst h; exact .inl rfl
  | ok args =>
    rw [hargs] at h
    dsimp only at h
    split at h
    · exact .inr ⟨args, rfl, formatCrate_passthrough h⟩
    · cases h
      exact .inl rfl

example : ∃ out, execute (wWs "/ws").env 1 (fun _ => .code 0) { check := true } = some out ∧
    out.trace.map (·.1) =
      [[S "/ws/b/src/lib.rs", S "--edition", S "2018", S "--check"],
       [S "/ws/a/src/lib.rs", S "--edition", S "2021", S "--check"]] ∧ out.exit = 0 :=
  by decide +kernel

/-- The arguments after `--` come first and unchanged; `--check` is among the arguments when asked
for, and is added at most once (not at all when the user already wrote it after `--`); the
message-format translation only appends (`message_format_table`). -/
theorem check_and_options_passed {o : Opts} {args : List Str} (h : rustfmtArgs o = .ok args) :
    ∃ extra, args = o.rustfmtOptions ++ extra ∧
      (o.check = true → sCheck ∈ args) ∧
      args.count sCheck =
        (if o.check = true ∧ o.rustfmtOptions.count sCheck = 0 then 1
         else o.rustfmtOptions.count sCheck) := by
  obtain ⟨⟨e1, h1⟩, h2, h3⟩ := withCheck_spec o
  rw [rustfmtArgs_eq] at h
  split at h
  · cases h
    exact ⟨e1, h1, h2, h3⟩
  · obtain ⟨e2, rfl, he2⟩ := convert_ok_prefix h
    exact ⟨e1 ++ e2, by rw [h1, List.append_assoc], fun hc => List.mem_append_left _ (h2 hc),
      by rw [List.count_append, h3, List.count_eq_zero.mpr he2, Nat.add_zero]⟩

example :
    rustfmtArgs { rustfmtOptions := [S "--config", S "w=80"], check := true, messageFormat := some (S "short") } =
      .ok [S "--config", S "w=80", S "--check", S "-l"] := by
  decide +kernel

/-- `--version`, or an information flag after `--`, is forwarded to a single rustfmt process and
nothing is formatted. -/
theorem info_flags_forwarded {env : Env} {fuel : Nat} {run : List Str → Status} {o : Opts}
    (hq : (o.verbose && o.quiet) = false) :
    (o.version = true → ∃ c, execute env fuel run o = some ⟨c, [([sVersion], run [sVersion])]⟩) ∧
    (o.version = false → o.rustfmtOptions.any isInfoFlag = true →
      ∃ c, execute env fuel run o = some ⟨c, [(o.rustfmtOptions, run o.rustfmtOptions)]⟩) := by
  constructor
  · intro hv
    unfold execute
    simp only [hq, hv, Bool.false_eq_true, if_false, if_true, rustfmtInfo]
    exact ⟨_, rfl⟩
  · intro hv hi
    unfold execute
    simp only [hq, hv, hi, Bool.false_eq_true, if_false, if_true, rustfmtInfo]
    exact ⟨_, rfl⟩

/-! ## Exit status -/

/-- Exact form: the exit status of a formatting run is non-zero iff a process could not be started
or some process ended with a non-zero exit *code*. -/
theorem exit_formula (run : List Str → Status) (T : TSet) (args : List Str) :
    let r := runRustfmt run T args
    runExit r.2 ≠ 0 ↔ (∃ a, (a, Status.spawnErr) ∈ r.1) ∨ (∃ a n, (a, Status.code n) ∈ r.1 ∧ n ≠ 0) :=
  runRustfmt_exit run T args

/-- When no rustfmt process is killed by a signal: `cargo fmt` exits non-zero exactly when some
rustfmt invocation failed (did not start, or exited non-zero). -/
theorem exit_nonzero_iff_failed_partial (run : List Str → Status) (T : TSet) (args : List Str)
    (hsig : ∀ x ∈ (runRustfmt run T args).1, x.2 ≠ .signal) :
    runExit (runRustfmt run T args).2 ≠ 0 ↔ ∃ x ∈ (runRustfmt run T args).1, x.2.success = false := by
  refine (exit_formula run T args).trans ?_
  constructor
  · rintro (⟨a, ha⟩ | ⟨a, n, ha, hn⟩)
    · exact ⟨_, ha, rfl⟩
    · refine ⟨_, ha, ?_⟩
      cases n with
      | zero => simp at hn
      | succ n => rfl
  · rintro ⟨⟨a, s⟩, hx, hs⟩
    cases s with
    | code n =>
      cases n with
      | zero => simp [Status.success] at hs
      | succ n => exact .inr ⟨a, n + 1, hx, by simp⟩
    | signal => exact absurd rfl (hsig _ hx)
    | spawnErr => exact .inl ⟨a, hx⟩

example : ∃ run : List Str → Status,
    (∀ x ∈ (runRustfmt run [⟨P "/a.rs", S "lib", .e2021⟩] []).1, x.2 ≠ .signal) ∧
    runExit (runRustfmt run [⟨P "/a.rs", S "lib", .e2021⟩] []).2 = 3 :=
  ⟨fun _ => .code 3, by decide +kernel, by decide +kernel⟩

/-- The same at the level of the whole command, when no process is killed by a signal: `cargo fmt`
exits 0 exactly when the flags were accepted, the selection succeeded, **every** planned rustfmt
process was run and each of them exited 0. -/
theorem exit_zero_iff_all_succeeded_partial {env : Env} {fuel : Nat} {run : List Str → Status}
    {o : Opts} {out : Outcome} (hn : Normal o) (h : execute env fuel run o = some out)
    (hsig : ∀ x ∈ out.trace, x.2 ≠ .signal) :
    out.exit = 0 ↔
      ∃ args T, rustfmtArgs o = .ok args ∧
        (∀ s, o.manifestPath = some s → cargoToml.isSuffixOf s = true) ∧
        getTargets env fuel (Strategy.fromOpts o) (o.manifestPath.map parsePath) = some (.ok T) ∧
        out.trace.map (·.1) = (planInvocations T args).map Invocation.argv ∧
        ∀ x ∈ out.trace, x.2 = .code 0 := by
  rw [execute_normal hn] at h
  cases hargs : rustfmtArgs o with
  | error e =>
    rw [hargs] at h
    cases h
    exact ⟨nofun, fun ⟨_, _, ha, _⟩ => nomatch ha⟩
  | ok args =>
    rw [hargs] at h
    dsimp only at h
    split at h
    · rename_i hsuf
      rw [formatCrate_exit_zero h hsig]
      have hs : ∀ s, o.manifestPath = some s → cargoToml.isSuffixOf s = true := fun s hs => by
        rw [hs, Option.all_some] at hsuf
        exact hsuf
      exact ⟨fun ⟨T, h⟩ => ⟨args, T, rfl, hs, h⟩, fun ⟨_, T, ha, _, h⟩ => by cases ha; exact ⟨T, h⟩⟩
    · rename_i hsuf
      cases h
      refine ⟨nofun, fun ⟨_, _, _, hs, _⟩ => absurd ?_ hsuf⟩
      cases hmp : o.manifestPath with
      | none => rfl
      | some s =>
        rw [Option.all_some]
        exact hs s hmp

example : ∃ out, execute (wWs "/ws").env 1 (fun a => if a.head? = some (S "/ws/a/src/lib.rs") then .code 1 else .code 0)
    { formatAll := true } = some out ∧ out.exit = 1 ∧ out.trace.length = 2 :=
  by decide +kernel

/-- F9: the hypothesis is needed.  The only rustfmt process is killed by a signal
(`code() == None`); `cargo fmt` reports success. -/
theorem signal_counterexample :
    let r := runRustfmt (fun _ => .signal) [⟨P "/a.rs", S "lib", .e2021⟩] []
    runExit r.2 = 0 ∧ ∃ x ∈ r.1, x.2.success = false := by
  decide +kernel

/-- The exit status is the first non-zero exit code in spawning order. -/
theorem exit_is_first_failure (ss pre post : List Status) (n : Nat) (hn : n ≠ 0)
    (h : ss = pre ++ .code n :: post) (hpre : ∀ s ∈ pre, ∀ k, s = .code k → k = 0) :
    foldStatus ss = n := by
  subst h
  induction pre with
  | nil => exact foldStatus_cons_code hn post
  | cons s pre ih =>
    obtain ⟨hs, hpre⟩ := List.forall_mem_cons.mp hpre
    rw [List.cons_append, foldStatus_cons_skip hs]
    exact ih hpre

example : foldStatus [.code 0, .signal, .code 2, .code 5] = 2 := by decide +kernel

/-- Any failure to select targets ends `cargo fmt` with status 1 (101 for the `kind[0]` panic)
before any rustfmt is started. -/
theorem selection_error_formats_nothing {env : Env} {fuel : Nat} {run : List Str → Status}
    {strategy : Strategy} {args : List Str} {mp : Option Path} {e : Err}
    (h : getTargets env fuel strategy mp = some (.error e)) :
    formatCrate env fuel run strategy args mp = some ⟨errExit e, []⟩ ∧ errExit e ≠ 0 := by
  rw [formatCrate_cases, h]
  exact ⟨rfl, errExit_ne_zero e⟩

/-! ## Flags -/

/-- `--message-format`: `short` appends `-l` unless `-l`/`--files-with-diff` is there; `json`
refuses an argument starting with `--emit`, then `--check` (so also `cargo fmt --check
--message-format json`, since `--check` was pushed before), else appends `--emit json`; `human`
changes nothing; any other value is an error. -/
theorem message_format_table (fmt : Str) (args : List Str) :
    convertMessageFormat fmt args =
      if fmt = sShort then .ok (if hasListFlag args then args else args ++ [sL])
      else if fmt = sJson then
        (if hasEmit args then .error .emitWithJson
         else if hasCheck args then .error .checkWithJson
         else .ok (args ++ [sEmit, sJson]))
      else if fmt = sHuman then .ok args
      else .error .invalid :=
  convert_table fmt args

example : rustfmtArgs ({ check := true, messageFormat := some (S "json") } : Opts) = .error .checkWithJson := by
  decide +kernel
example : convertMessageFormat (S "json") [S "--emit=files"] = .error .emitWithJson := by decide +kernel
example : convertMessageFormat (S "xml") [] = .error .invalid := by decide +kernel

/-- A `--manifest-path` whose text does not end in `Cargo.toml` ends `cargo fmt` with status 1
before `cargo metadata` or rustfmt is run. -/
theorem manifest_path_must_be_cargo_toml {env : Env} {fuel : Nat} {run : List Str → Status} {o : Opts}
    (hn : Normal o) {s : Str} (hs : o.manifestPath = some s) (hbad : cargoToml.isSuffixOf s = false) :
    execute env fuel run o = some ⟨1, []⟩ := by
  rw [execute_normal hn]
  cases rustfmtArgs o with
  | error e => rfl
  | ok args => simp [hs, hbad]

example : cargoToml.isSuffixOf (S "/ws/Cargo.tom") = false := by decide +kernel

/-- The test is textual (`str::ends_with`): `/ws/notCargo.toml` passes it. -/
example : cargoToml.isSuffixOf (S "/ws/notCargo.toml") = true := by decide +kernel

end RF.Props.C18

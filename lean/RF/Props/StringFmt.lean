import RF.Lemmas.StringFmt
import RF.Lemmas.Shape
import RF.Gen.StringFmtRegex
/-!
# `rewrite_string` / `break_string` (src/string.rs): parts of C01, C02, C03, C16

The theorems are about `RF/Model/StringFmt.lean`, for EVERY text (`List Char`), every width, indentation and
configuration; the model is tied to the code by the correspondence of `rfverif strings`
(`harness/src/strings_corr.rs`: `str.break`, `str.url`, `str.valid`, `str.trimlf`, `str.strip`, `str.rewrite`)
and the specification functions used here (`strValue`, `payload`, `commentWords`) are the oracles that the
harness evaluates on what the real code returns, in-process and through the whole formatter.

Graphemes are characters (see the model's header): the statements are about texts in which every
grapheme cluster is one `char` of width `cw`.

* the generated regex literal and `MIN_STRING` are the model's: `regex_literal_is_modelled`, `min_string_is_modelled`.
* C16 (no slice out of range, termination): `breakString_indices_in_range`, `breakString_bounds`,
  `breakString_progress`, `rewriteString_terminates`, `loop_fuel_irrelevant`.
* C01 "literals keep their value", "re-indentation after string line-continuations":
  `rewriteString_value`, `rewriteStringLit_value` (through `isStringFormat_new`), `strip_value_partial`,
  `strip_value_counterexample`, `rewriteString_value_orig_partial`.
* C03 "the words of every comment are preserved in order": `rewriteString_payload` (all inputs, all formats),
  `rewriteString_words_partial` (texts without punctuation: the word list is preserved),
  `rewriteString_words_counterexample` (a word is cut after a punctuation character), `breakString_words_partial`.
* C02 "re-breaking at the same width is the identity": the lines fit: `breakString_fits`,
  `breakString_fits_counterexample`, `rewriteString_fits`; `rewriteString_idem_partial` (through
  `rewriteString_congr`), `rewriteString_idem_counterexample`.
-/
namespace RF.Props.StringFmt
open RF.StringFmt RF.Lemmas.StringFmt

/-! ## the model's hand-written matcher implements the pattern that string.rs compiles -/

/-- The literal read out of `src/string.rs` by `translate/strfmt_regex.py` is the one `stripGo` implements. -/
theorem regex_literal_is_modelled : RF.Gen.StringFmtRegex.stripRegex = modelledRegex := rfl

/-- `MIN_STRING` of string.rs is the model's. -/
theorem min_string_is_modelled : RF.Gen.StringFmtRegex.minString = MIN_STRING := by decide

/-! ## C16: indices, progress, termination -/

/-- **No slice of `break_string` is out of range.**  `break_string` either returns the whole input as
`EndOfInput`, or calls `break_at(index)` with `index < input.len()` (so `input[0..=index]`, `input[index + 1..]`
and everything `break_at` derives from them exist), at a boundary grapheme or directly before white space. -/
theorem breakString_indices_in_range (maxWidth : Nat) (trimEnd : Bool) (lineEnd input : List Char) :
    breakString maxWidth trimEnd lineEnd input = .endOfInput input ∨
      ∃ index, index < input.length ∧ CallSite input index ∧
        breakString maxWidth trimEnd lineEnd input = breakAt trimEnd input index :=
  (breakString_cases maxWidth trimEnd lineEnd input).imp id fun ⟨i, hi, hcs, _, h⟩ => ⟨i, hi, hcs, h⟩

example : breakString 20 false [] "Placerat felis. Mauris porta ante sagittis purus.".toList
    = breakAt false "Placerat felis. Mauris porta ante sagittis purus.".toList 15 := by
  -- read against a literal, `String.toList_ofList` turns `"…".toList` into the list of its characters by
  -- unification, so that the kernel never decodes the byte array of a `String` (slow to check)
  rw [String.toList_ofList]
  decide +kernel

/-- **Bounds.**  `EndOfInput` carries the whole input (under `trim_end`, when only blanks follow the break
point: the input without them); the length a `LineEnd` / `EndWithLineFeed` reports is between 1 and the
length of the input, so `graphemes[cur_start..]` of the next turn of `rewrite_string` is in range. -/
theorem breakString_bounds (maxWidth : Nat) (trimEnd : Bool) (lineEnd input : List Char) :
    match breakString maxWidth trimEnd lineEnd input with
    | .endOfInput line => ∃ m, line = input.take m ∧ (input.drop m).all blank = true
    | .lineEnd _ len => 1 ≤ len ∧ len ≤ input.length
    | .endWithLineFeed _ len => 1 ≤ len ∧ len ≤ input.length :=
  (breakString_step maxWidth trimEnd lineEnd input).len_bounds

/-- non-vacuity of the trimmed `EndOfInput`: the blanks at the end are dropped, no next line is opened -/
example : breakString 12 true [] "aaaaaaaaaaaa    ".toList = .endOfInput "aaaaaaaaaaaa".toList := by
  rw [String.toList_ofList, String.toList_ofList]
  decide +kernel

/-- **Progress.**  Every step that does not end the rewriting consumes at least one grapheme. -/
theorem breakString_progress (maxWidth : Nat) (trimEnd : Bool) (lineEnd input line : List Char) (len : Nat)
    (h : breakString maxWidth trimEnd lineEnd input = .lineEnd line len ∨
         breakString maxWidth trimEnd lineEnd input = .endWithLineFeed line len) :
    1 ≤ len ∧ (input.drop len).length < input.length := by
  have hb := (breakString_step maxWidth trimEnd lineEnd input).len_bounds
  have : 1 ≤ len ∧ len ≤ input.length := by
    rcases h with h | h <;> rw [h] at hb <;> exact hb
  rw [List.length_drop]
  omega

example : breakString 15 false [] "Neque in sem.      \n      Pellentesque tellus augue.".toList
    = .endWithLineFeed "Neque in sem.      \n".toList 20 := by
  rw [String.toList_ofList, String.toList_ofList]
  decide +kernel

/-- **Termination without a hidden fuel.**  The loop of `rewrite_string` is written with a fuel in the
model; a fuel of one more than the number of graphemes is never used up: the model never answers "out
of fuel", for any format and any text. -/
theorem rewriteString_terminates (k : LoopCfg) (opener closer orig : List Char) :
    (rewriteRaw k opener closer orig).isSome = true := by
  have := loop_fuel k _ (stripLineBreaks orig) opener.reverse k.mwWith (Nat.lt_succ_self _)
  unfold rewriteRaw
  simp only
  split
  · rfl
  · next hl => rw [hl] at this; cases this

/-- …nor is any fuel above the number of graphemes that are left. -/
theorem loop_fuel_irrelevant (k : LoopCfg) (fuel : Nat) (rem acc : List Char) (curMax : Nat)
    (h : rem.length < fuel) : (loop k fuel rem acc curMax).isSome = true :=
  loop_fuel k fuel rem acc curMax h

/-! ## C01: a re-broken string literal denotes the same string -/

/-- The format of a string literal as `rewrite_string` sees it (`StringFormat::new`: opener and closer `"`,
`line_start` one blank, `line_end` a backslash, no trimming); opener and closer are left free. -/
structure IsStringFormat (f : Fmt) : Prop where
  trim : f.trimEnd = false
  lineEnd : f.lineEnd = ['\\']
  lineStart : f.lineStart.all isContWs = true

theorem isStringFormat_new (shape : RF.Shape.Shape) (config : RF.Shape.Config) : IsStringFormat (Fmt.new shape config) :=
  ⟨rfl, rfl, (by decide : [' '].all isContWs = true)⟩

/-- **A re-broken string literal has the value of the stripped original** (or `rewrite_string` returns
`None`, or `Indent::to_string` panics on `tab_spaces = 0`).  `body` is what stands between opener and
closer; `strValue` deletes every line continuation the way Rust reads it (backslash, line feed, then
blanks, tabs, line feeds and carriage returns) and leaves every other escape as written.  For every
text, every shape, every configuration. -/
theorem rewriteString_value (orig : List Char) (f : Fmt) (newlineMax : Nat) (hf : IsStringFormat f)
    (r : List Char) (h : rewriteString orig f newlineMax = .ok (some r)) :
    ∃ body, r = f.opener ++ body ++ f.closer ∧ strValue body = strValue (stripLineBreaks orig) := by
  obtain ⟨k, hc, hraw, _⟩ := rewriteString_ok h
  exact rewriteRaw_value (hc.stringLike hf.trim hf.lineEnd hf.lineStart) hraw

/-- The same for the call `rewrite_string_lit` makes (`StringFormat::new`). -/
theorem rewriteStringLit_value (orig : List Char) (shape : RF.Shape.Shape) (config : RF.Shape.Config)
    (newlineMax : Nat) (r : List Char)
    (h : rewriteString orig (Fmt.new shape config) newlineMax = .ok (some r)) :
    ∃ body, r = '"' :: (body ++ ['"']) ∧ strValue body = strValue (stripLineBreaks orig) := by
  obtain ⟨body, hr, hv⟩ := rewriteString_value orig _ newlineMax (isStringFormat_new shape config) r h
  exact ⟨body, by simpa [Fmt.new] using hr, hv⟩

/-- non-vacuity: a literal that is broken twice, with an escape next to the break -/
example : rewriteString "Nulla\nconsequat erat\\\" at massa. Vivamus id mi.".toList
    (Fmt.new ⟨25, ⟨0, 0⟩, 0⟩ ⟨false, 4, 27, 80⟩) 23
    = .ok (some "\"Nulla\nconsequat erat\\\" at \\\n massa. Vivamus id mi.\"".toList) := by
  rw [String.toList_ofList, String.toList_ofList]
  decide +kernel

/-- **Stripping the existing continuations keeps the value** — `_partial`: for texts without a carriage
return.  (rustc hands rustfmt the source with CR LF already turned into LF, and a bare CR is not allowed in
a string literal.) -/
theorem strip_value_partial (orig : List Char) (h : ∀ c ∈ orig, c ≠ '\r') :
    strValue (stripLineBreaks orig) = strValue orig :=
  strip_sim orig h .start .normal .normal (.start _)

/-- …and it is false with one: the regex `\\[\n\r]` takes backslash–CR for a line continuation, Rust does
not (for Rust that text is an error, so no valid program is affected). -/
theorem strip_value_counterexample :
    strValue (stripLineBreaks ['a', '\\', '\r', ' ', 'b']) ≠ strValue ['a', '\\', '\r', ' ', 'b'] := by decide

example : stripLineBreaks "ab\\\n     cd\\\\\n e".toList = "abcd\\\\\n e".toList ∧
    (∀ c ∈ "ab\\\n     cd\\\\\n e".toList, c ≠ '\r') := by
  rw [String.toList_ofList, String.toList_ofList]
  decide +kernel

/-- **C01, string literals**: the re-broken literal denotes the string the original denotes (`_partial`:
no carriage return in the original, see `strip_value_counterexample`). -/
theorem rewriteString_value_orig_partial (orig : List Char) (f : Fmt) (newlineMax : Nat) (hf : IsStringFormat f)
    (hcr : ∀ c ∈ orig, c ≠ '\r') (r : List Char) (h : rewriteString orig f newlineMax = .ok (some r)) :
    ∃ body, r = f.opener ++ body ++ f.closer ∧ strValue body = strValue orig := by
  obtain ⟨body, hr, hv⟩ := rewriteString_value orig f newlineMax hf r h
  exact ⟨body, hr, by rw [hv, strip_value_partial orig hcr]⟩

/-! ## C03: nothing of a wrapped comment is lost -/

/-- **Nothing but white space and decoration is added or removed**, for every format (`trim_end` or not),
every text, every shape: the characters of the result that are not white space are those of the opener,
then those of the stripped input in order with copies of `line_end ++ line_start` or `line_start` woven in,
then those of the closer. -/
theorem rewriteString_payload (orig : List Char) (f : Fmt) (newlineMax : Nat) (r : List Char)
    (h : rewriteString orig f newlineMax = .ok (some r)) :
    ∃ X, payload r = payload f.opener ++ X ++ payload f.closer ∧
      Woven [payload f.lineEnd ++ payload f.lineStart, payload f.lineStart] (payload (stripLineBreaks orig)) X := by
  obtain ⟨k, hc, hraw, _⟩ := rewriteString_ok h
  obtain ⟨X, hX, hW⟩ := rewriteRaw_payload hc.blankIndent hraw
  exact ⟨X, hX, by rwa [decorations, hc.lineStart, hc.lineEnd] at hW⟩

/-- non-vacuity: the unit test `retain_blank_lines` of string.rs -/
example : rewriteString "Aenean\n\nmetus. Vestibulum ac lacus.\n\n".toList
    { opener := [], closer := [], lineStart := "// ".toList, lineEnd := [], shape := ⟨20, ⟨4, 0⟩, 0⟩, trimEnd := true,
      config := ⟨false, 4, 100, 80⟩ } 20
    = .ok (some "Aenean\n    //\n    // metus. Vestibulum ac\n    // lacus.\n    //\n".toList) := by
  rw [String.toList_ofList, String.toList_ofList, String.toList_ofList]
  decide +kernel

/-- **The word list itself is not preserved**: `break_string` also breaks after a punctuation character
inside a word.  Here `aaaaaaaaaaaa,bbbbbbbbbbbb` (one word) comes back as two. -/
theorem rewriteString_words_counterexample :
    ∃ r, rewriteString "aaaaaaaaaaaa,bbbbbbbbbbbb cc".toList
        { opener := [], closer := [], lineStart := "// ".toList, lineEnd := [], shape := ⟨16, ⟨0, 0⟩, 0⟩,
          trimEnd := true, config := ⟨false, 4, 100, 80⟩ } 16 = .ok (some r) ∧
      commentWords "// ".toList r ≠ words "aaaaaaaaaaaa,bbbbbbbbbbbb cc".toList ∧
      refinesWords (words "aaaaaaaaaaaa,bbbbbbbbbbbb cc".toList) (commentWords "// ".toList r) = true := by
  refine ⟨"aaaaaaaaaaaa,\n// bbbbbbbbbbbb cc".toList, ?_⟩
  rw [String.toList_ofList, String.toList_ofList, String.toList_ofList]
  decide +kernel

/-- **One step of `break_string` keeps the list of words** (`_partial`: `trim_end`, and the text offers no
punctuation to break after — every boundary grapheme of the text is white space): the words of the line it
returns followed by the words of what is left are the words of its input.  `rewriteString_words_counterexample`
shows that the hypothesis is needed; `rewriteString_payload` is what holds without it. -/
theorem breakString_words_partial (maxWidth : Nat) (lineEnd input line : List Char) (len : Nat)
    (hnp : noPunctBreakB input = true) (h : breakString maxWidth true lineEnd input = .lineEnd line len) :
    words line ++ words (input.drop len) = words input := by
  have hs := breakString_step maxWidth true lineEnd input
  rw [h] at hs
  exact hs.words_ok (noPunctBreak_of_B hnp)

/-- non-vacuity: the unit test `big_whitespace` (a run of blanks at the break is dropped, no word is) -/
example : noPunctBreakB "Neque in sem            Pellentesque tellus augue".toList = true ∧
    breakString 20 true [] "Neque in sem            Pellentesque tellus augue".toList
      = .lineEnd "Neque in sem".toList 24 ∧
    words "Neque in sem".toList ++ words ("Neque in sem            Pellentesque tellus augue".toList.drop 24)
      = words "Neque in sem            Pellentesque tellus augue".toList := by
  rw [String.toList_ofList, String.toList_ofList]
  decide +kernel

/-- The format `CommentRewrite` hands to `rewrite_string` (comment.rs:628-636): no opener, closer or line end,
trimmed lines, and a line start that is empty or ends in white space (`// `, ` * `, `/// `, …). -/
structure IsCommentFormat (f : Fmt) : Prop where
  trim : f.trimEnd = true
  opener : f.opener = []
  closer : f.closer = []
  lineEnd : f.lineEnd = []
  lineStart : f.lineStart = [] ∨ ∃ l w, f.lineStart = l ++ [w] ∧ isWs w = true

/-- **C03, the words of a wrapped comment line** (`_partial`: the text holds no punctuation character other
than a backslash, so that `break_string` can only break at white space — `rewriteString_words_counterexample`
shows what happens otherwise).  The white-space separated words of what `rewrite_string` returns are the
words of the input, in order, with the word of the line start (`//`, `*`, `///`) inserted where a new line
begins: no word is lost, split, merged or reordered, for every text (line feeds included), width and shape. -/
theorem rewriteString_words_partial (orig : List Char) (f : Fmt) (newlineMax : Nat) (hf : IsCommentFormat f)
    (hnp : noPunct (stripLineBreaks orig) = true) (r : List Char)
    (h : rewriteString orig f newlineMax = .ok (some r)) :
    Woven [words f.lineStart] (words (stripLineBreaks orig)) (words r) := by
  obtain ⟨k, hc, hraw, _⟩ := rewriteString_ok h
  rw [hf.opener, hf.closer] at hraw
  rw [← hc.lineStart]
  exact rewriteRaw_words (hc.commentLike hf.trim hf.lineEnd hf.lineStart) hnp hraw

/-- non-vacuity: three lines, the word `//` woven in twice -/
example : noPunct (stripLineBreaks "Aenean metus Vestibulum ac lacus".toList) = true ∧
    rewriteString "Aenean metus Vestibulum ac lacus".toList
      { opener := [], closer := [], lineStart := "// ".toList, lineEnd := [], shape := ⟨13, ⟨4, 0⟩, 0⟩, trimEnd := true,
        config := ⟨false, 4, 100, 80⟩ } 13
      = .ok (some "Aenean metus\n    // Vestibulum ac\n    // lacus".toList) ∧
    words "Aenean metus\n    // Vestibulum ac\n    // lacus".toList
      = ["Aenean".toList, "metus".toList, "//".toList, "Vestibulum".toList, "ac".toList, "//".toList, "lacus".toList] := by
  rw [String.toList_ofList, String.toList_ofList, String.toList_ofList]
  decide +kernel

/-! ## C02: the lines fit -/

/-- **Every line `break_string` returns fits into `max_width`, its trailing white space apart — or the
input cannot be broken before the limit**: a URL (or alike) is detected at the limit, or no boundary (white
space, or punctuation that is not part of `::` and is not a backslash) lies between `MIN_STRING` and the
limit.  For every text, width, `trim_end` and `line_end`. -/
theorem breakString_fits (maxWidth : Nat) (trimEnd : Bool) (lineEnd input line : List Char) (len : Nat)
    (h : breakString maxWidth trimEnd lineEnd input = .lineEnd line len ∨
         breakString maxWidth trimEnd lineEnd input = .endWithLineFeed line len) :
    width (trimEndWs line) ≤ maxWidth ∨ Unbreakable maxWidth input := by
  rcases breakString_cases maxWidth trimEnd lineEnd input with heoi | ⟨index, hi, _, hlt | hu, heq⟩
  · rw [heoi] at h
    rcases h with h | h <;> cases h
  · have h1 := breakAt_line_width trimEnd input index
    have h2 := maxWidthIndex_fits maxWidth input index hlt
    rw [← heq] at h1
    rcases h with h | h <;> rw [h] at h1 <;> exact .inl (Nat.le_trans h1 h2)
  · exact .inr hu

/-- non-vacuity, first alternative: the unit test `should_break_on_whitespace` -/
example : breakString 20 false [] "Placerat felis. Mauris porta ante sagittis purus.".toList
      = .lineEnd "Placerat felis. ".toList 16 ∧ width (trimEndWs "Placerat felis. ".toList) ≤ 20 := by
  rw [String.toList_ofList, String.toList_ofList]
  decide +kernel

/-- …and the second alternative is needed: the unit test `should_break_forward` returns a line of 28
columns for `max_width = 20` (no boundary between `MIN_STRING` and the limit). -/
theorem breakString_fits_counterexample :
    breakString 20 true [] "Venenatis_tellus_vel_tellus. Aliquam aliquam dolor at justo.".toList
      = .lineEnd "Venenatis_tellus_vel_tellus.".toList 29 ∧
    ¬ width (trimEndWs "Venenatis_tellus_vel_tellus.".toList) ≤ 20 := by
  rw [String.toList_ofList, String.toList_ofList]
  decide +kernel

/-- **What `rewrite_string` returns has passed `wrap_str`**: after `filter_normal_code`, the first line is
at most `shape.width` wide, every other line at most `max_width`, and the last one at most
`shape.used_width() + shape.width` (`filtered_str_fits`, utils.rs:397). -/
theorem rewriteString_fits (orig : List Char) (f : Fmt) (newlineMax : Nat) (r : List Char)
    (h : rewriteString orig f newlineMax = .ok (some r)) :
    filteredStrFits r f.config.max_width f.shape = true := by
  obtain ⟨_, _, _, hfit⟩ := rewriteString_ok h
  exact hfit

/-! ## C02: re-breaking what was re-broken changes nothing -/

/-- `rewrite_string` reads its input only through the stripping regex. -/
theorem rewriteString_congr (a b : List Char) (f : Fmt) (newlineMax : Nat)
    (h : stripLineBreaks a = stripLineBreaks b) : rewriteString a f newlineMax = rewriteString b f newlineMax := by
  unfold rewriteString rewriteRaw
  simp only [h]

/-- **Idempotence of the string-literal format** (`_partial`: the original holds no backslash directly in
front of a line feed or a carriage return, i.e. no line continuation of its own): if `rewrite_string`
returns `opener ++ body ++ closer`, then given `body` in the same format, shape and configuration it returns
the very same text.  With C01's `rewriteString_value` this is the "re-indentation after string
line-continuations" of the property: the second pass strips exactly the continuations the first one wrote. -/
theorem rewriteString_idem_partial (orig : List Char) (f : Fmt) (newlineMax : Nat) (hf : IsStringFormat f)
    (hno : noBsNl orig = true) (r : List Char) (h : rewriteString orig f newlineMax = .ok (some r)) :
    ∃ body, r = f.opener ++ body ++ f.closer ∧ rewriteString body f newlineMax = .ok (some r) := by
  obtain ⟨k, hc, hraw, _⟩ := rewriteString_ok h
  obtain ⟨body, hr, hstrip⟩ := rewriteRaw_restrip (hc.stringLike hf.trim hf.lineEnd hf.lineStart) hno hraw
  refine ⟨body, hr, ?_⟩
  rw [rewriteString_congr body orig f newlineMax (hstrip.trans (stripLineBreaks_of_noBsNl hno).symm)]
  exact h

/-- non-vacuity: a literal with escapes that is broken twice and is a fixed point afterwards -/
example : noBsNl "Nulla\nconsequat erat\\\" at massa. Vivamus id mi.".toList = true ∧
    rewriteString "Nulla\nconsequat erat\\\" at massa. Vivamus id mi.".toList (Fmt.new ⟨25, ⟨0, 0⟩, 0⟩ ⟨false, 4, 27, 80⟩) 23
      = .ok (some "\"Nulla\nconsequat erat\\\" at \\\n massa. Vivamus id mi.\"".toList) ∧
    rewriteString "Nulla\nconsequat erat\\\" at \\\n massa. Vivamus id mi.".toList (Fmt.new ⟨25, ⟨0, 0⟩, 0⟩ ⟨false, 4, 27, 80⟩) 23
      = .ok (some "\"Nulla\nconsequat erat\\\" at \\\n massa. Vivamus id mi.\"".toList) := by
  rw [String.toList_ofList, String.toList_ofList, String.toList_ofList]
  decide +kernel

/-- **Without the hypothesis idempotence fails**: a line continuation directly followed by an escaped
backslash and another line continuation.  The stripping pattern consumes the character in front of a match, so
the second continuation is only found by the second pass (known finding STR-IDEM-CONT-ESC). -/
theorem rewriteString_idem_counterexample :
    rewriteString "aaaaaaaa bb\\\n \\\\\\\n cc ddddd".toList (Fmt.new ⟨24, ⟨0, 0⟩, 0⟩ ⟨false, 4, 100, 80⟩) 22
      = .ok (some "\"aaaaaaaa bb\\\\\\\n cc ddddd\"".toList) ∧
    rewriteString "aaaaaaaa bb\\\\\\\n cc ddddd".toList (Fmt.new ⟨24, ⟨0, 0⟩, 0⟩ ⟨false, 4, 100, 80⟩) 22
      = .ok (some "\"aaaaaaaa bb\\\\cc ddddd\"".toList) := by
  rw [String.toList_ofList, String.toList_ofList, String.toList_ofList, String.toList_ofList]
  decide +kernel

end RF.Props.StringFmt

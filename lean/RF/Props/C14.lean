import RF.Lemmas.Config

/-!
# C14  Configuration is resolved with the documented precedence

Theorems about `RF.Model.Config` (the model of `src/config/{config_type,mod,options,style_edition}.rs`
and of `GetOptsOptions` in `src/bin/main.rs`).  The option table, the per-type defaults and the three
hand-maintained key-dispatch lists come from `RF.Gen.Options`, regenerated from the Rust source on
every run: the theorems below that mention `options`, `defaults`, `configSetterDispatch`,
`cliConfigSetterDispatch`, `overrideValueDispatch` (directly or through `configSet`, `configSetCli`,
`overrideValue`, `defaultWithStyleEdition`) are re-checked against what the source says now.

Quantification: every configuration (association list), every value, every directory tree, every
set of command-line options, every order of the `--config` pairs, unless a hypothesis says otherwise.
"Same effective configuration" is `Equiv`: the same value, `was_set` and `was_set_cli` for every
option name.  `HeurOK c` abbreviates `(Heuristics.ofVal? (getE c "use_small_heuristics").val).isSome = true`:
`use_small_heuristics` holds one of the three variants.

Findings proved here as counter-examples: F3 (`override_order_counterexample`, about the bare loop
`applyInline`; it is why `apply_to` feeds the `max_width` pair first, `apply_to_order_independent`), F8
(`heuristic_default_counterexample`, `heuristic_off_counterexample`), F16
(`api_setter_counterexample`), and further:
`api_alias_counterexample` (the API setter of a deprecated alias does nothing),
F29 (`hide_parse_errors = true` turned `show_parse_errors` ON; repaired, see `hide_parse_errors_negated`),
`same_value_flag_clobber_counterexample` (`unstable_features = true` in a file is reset by
`apply_to`, from `--config` it sticks) and `same_value_stable_channel_counterexample`.
-/
namespace RF.Props.C14
open RF.Config RF.Gen.Options RF.Lemmas.Config

/-! ## Sanity of the generated tables -/

/-- The defaults of 2018 and 2021 are those of 2015, the defaults of 2027 those of 2024 (the two
arms of `style_edition_default!`), for every type struct — by unfolding, no table lookup. -/
theorem defaults_two_classes (ty : String) :
    defaultValFor .e2018 ty = defaultValFor .e2015 ty ∧
    defaultValFor .e2021 ty = defaultValFor .e2015 ty ∧
    defaultValFor .e2027 ty = defaultValFor .e2024 ty := ⟨rfl, rfl, rfl⟩

/-- The default configuration of every style edition is well-formed: exactly the generated option
names, each with a value of its declared type (in particular every `usize`/`bool` default of the
generated table parsed). -/
theorem default_wf (se : StyleEdition) : WF (defaultWithStyleEdition se) := by
  -- both sides are a `map` over `options`; entry by entry, one sweep serves both default classes
  have h : ∀ se ∈ [StyleEdition.e2015, .e2024], ∀ o ∈ options,
      some (defaultValFor se o.2.1).tag = ((defaults.lookup o.2.1).map (·.1)).map tagOfCfgType := by
    decide +kernel
  have wf : ∀ se ∈ [StyleEdition.e2015, .e2024], WF (defaultWithStyleEdition se) := by
    intro se hse
    simp only [WF, schema, optionNames, defaultWithStyleEdition, List.map_map]
    exact List.map_congr_left fun o ho => by simp only [Function.comp, h se hse o ho, tagOf_of_mem o ho]
  rcases default_class se with e | e <;> rw [e]
  · exact wf _ (by simp)
  · exact wf _ (by simp)

/-- Every method named in a generated dispatch table is one the model implements. -/
theorem dispatch_methods_known :
    ∀ T ∈ [configSetterDispatch, cliConfigSetterDispatch, overrideValueDispatch],
      ∀ row ∈ T, row.2 ∈ knownMethods := by decide +kernel

/-- The three hand-maintained key lists (`ConfigSetter`, `CliConfigSetter`, `override_value`) are
equal: no key triggers a recomputation through one entry point and not through another. -/
theorem width_key_lists_agree :
    configSetterDispatch = cliConfigSetterDispatch ∧
    cliConfigSetterDispatch = overrideValueDispatch :=
  ⟨tables_agree.1.trans tables_agree.2.symm, tables_agree.2⟩

/-- The type structs of the options that `set_width_heuristics` reads or writes. -/
def widthStructs : List String :=
  ["MaxWidth", "UseSmallHeuristics", "FnCallWidth", "AttrFnLikeWidth", "StructLitWidth",
   "StructVariantWidth", "ArrayWidth", "ChainWidth", "SingleLineIfElseMaxWidth",
   "SingleLineLetElseMaxWidth"]

/-- The `set_heuristics` row of the generated table lists exactly the options whose type struct is
`max_width`, `use_small_heuristics` or one of the eight widths: every such option is there, and
every key there is such an option (and an option at all). -/
theorem dispatch_covers_width_options :
    (∀ o ∈ options, o.2.1 ∈ widthStructs →
      methodFor overrideValueDispatch o.1 = some "set_heuristics") ∧
    (∀ row ∈ overrideValueDispatch, row.2 = "set_heuristics" →
      ∀ k ∈ row.1, ∃ o ∈ options, o.1 = k ∧ o.2.1 ∈ widthStructs) ∧
    (∀ o ∈ options, o.1 ∈ widthKeys ∨ o.1 = "max_width" ∨ o.1 = "use_small_heuristics" ↔
      o.2.1 ∈ widthStructs) := by decide +kernel

/-- From the generated `defaults`: the only type structs whose default depends on the style
edition are `StyleEditionConfig` and `VersionConfig` (the types of `style_edition` and `version`);
the released editions 2015/2018/2021 all get the `_` default of every option, 2027 gets the 2024
defaults, and 2024 differs from 2015 in `style_edition` and `version` only. -/
theorem defaults_edition_table :
    (∀ d ∈ defaults, d.2.2.2.isSome = true ↔ d.1 = "StyleEditionConfig" ∨ d.1 = "VersionConfig") ∧
    (∀ o ∈ options, o.2.1 = "StyleEditionConfig" ∨ o.2.1 = "VersionConfig" ↔
      o.1 = "style_edition" ∨ o.1 = "version") ∧
    defaultWithStyleEdition .e2018 = defaultWithStyleEdition .e2015 ∧
    defaultWithStyleEdition .e2021 = defaultWithStyleEdition .e2015 ∧
    defaultWithStyleEdition .e2027 = defaultWithStyleEdition .e2024 ∧
    (∀ k, getE (defaultWithStyleEdition .e2024) k ≠ getE (defaultWithStyleEdition .e2015) k →
      k = "style_edition" ∨ k = "version") := by
  obtain ⟨h1, h2⟩ : (∀ d ∈ defaults, d.2.2.2.isSome = true ↔
        d.1 = "StyleEditionConfig" ∨ d.1 = "VersionConfig") ∧
      (∀ o ∈ options, o.2.1 = "StyleEditionConfig" ∨ o.2.1 = "VersionConfig" ↔
        o.1 = "style_edition" ∨ o.1 = "version") := by decide +kernel
  refine ⟨h1, h2, rfl, rfl, rfl, ?_⟩
  intro k hk
  rw [getE_default, getE_default] at hk
  cases hl : options.lookup k with
  | none => simp [hl] at hk
  | some o =>
    have hm := mem_of_lookup options k o hl
    simp only [hl] at hk
    refine (h2 (k, o) hm).1 ?_
    -- a type struct without a 2024 default has the same default in both editions
    cases hd : defaults.lookup o.1 with
    | none => exact absurd (by simp [defaultValFor, hd]) hk
    | some d =>
      obtain ⟨cty, dflt, d24⟩ := d
      cases d24 with
      | none => exact absurd (by simp [defaultValFor, hd]) hk
      | some x =>
        exact (h1 (o.1, cty, dflt, some x) (mem_of_lookup defaults o.1 _ hd)).1 rfl

/-! ## Directory search -/

section Dir
variable {α : Type} [DecidableEq α]

/-- In one directory `.rustfmt.toml` is taken before `rustfmt.toml` (the order of
`CONFIG_FILE_NAMES`); no file, no result. -/
theorem dotted_name_first (t : Tree α) (d : List α) :
    getTomlPath t d =
      if hasDotted t d then some ⟨d, true⟩
      else if hasPlain t d then some ⟨d, false⟩ else none :=
  getTomlPath_eq t d

example : getTomlPath [([1, 2], true, true)] [1, 2] = some ⟨[1, 2], true⟩ := by decide

/-- The config file of the nearest directory at or above the start directory wins: if some ancestor
`a` (or the directory itself) holds a config file, the search returns the file `get_toml_path` picks
in a directory `f.dir` that is an ancestor-or-self of the start, at least as deep as `a`, and no
deeper ancestor holds any config file.  Home and config directories are not consulted. -/
theorem nearest_file_wins (fs : FS α) (dir a : List α) (hex : dirExists fs.tree dir = true)
    (ha : a <+: dir) (hfile : getTomlPath fs.tree a ≠ none) :
    ∃ f, resolveProjectFile fs dir = .ok (some f) ∧ getTomlPath fs.tree f.dir = some f ∧
      f.dir <+: dir ∧ a <+: f.dir ∧
      ∀ b, b <+: dir → f.dir.length < b.length → getTomlPath fs.tree b = none := by
  rw [resolve_ok fs dir hex]
  cases hfs : (ancestors dir).findSome? (getTomlPath fs.tree) with
  | none => exact absurd ((findSome_ancestors_none _ dir).1 hfs a ha) hfile
  | some f =>
    unfold ancestors at hfs
    obtain ⟨d, hd, hgd, hmax⟩ := findSome_ancestorsRev _ _ f hfs
    rw [List.reverse_reverse] at hd hmax
    have hfd : f.dir = d := (getTomlPath_some _ _ _ hgd).1
    refine ⟨f, rfl, by rw [hfd]; exact hgd, by rw [hfd]; exact hd, ?_, by rw [hfd]; exact hmax⟩
    rw [hfd]
    by_cases hlen : a.length ≤ d.length
    · exact List.prefix_of_prefix_length_le ha hd hlen
    · exact absurd (hmax a ha (by omega)) hfile

example :
    resolveProjectFile (α := Nat)
      ⟨[([], false, true), ([1], true, true), ([1, 2], false, false)], none, none, 0, fun _ => none⟩
      [1, 2] = .ok (some ⟨[1], true⟩) := by rfl

/-- With no config file at or above the start directory: the home directory's, else the one in
`<config dir>/rustfmt`, else none. -/
theorem home_then_config_dir (fs : FS α) (dir : List α) (hex : dirExists fs.tree dir = true)
    (hnone : ∀ a, a <+: dir → getTomlPath fs.tree a = none) :
    resolveProjectFile fs dir =
      .ok (orElse (bindO fs.home (getTomlPath fs.tree))
        (bindO fs.configDir fun d => getTomlPath fs.tree (d ++ [fs.rustfmtName]))) := by
  rw [resolve_ok fs dir hex, (findSome_ancestors_none _ dir).2 hnone]
  simp only [Option.none_or]
  cases fs.home with
  | none =>
    cases fs.configDir with
    | none => rfl
    | some c =>
      simp only [List.findSome?, Option.map, orElse, bindO, Option.none_or, Option.toList]
      cases getTomlPath fs.tree (c ++ [fs.rustfmtName]) <;> rfl
  | some h =>
    simp only [Option.toList, List.findSome?, orElse, bindO]
    cases getTomlPath fs.tree h with
    | some f => rfl
    | none =>
      simp only [Option.none_or]
      cases fs.configDir with
      | none => rfl
      | some c =>
        simp only [List.findSome?, Option.map]
        cases getTomlPath fs.tree (c ++ [fs.rustfmtName]) <;> rfl

example :
    resolveProjectFile (α := Nat)
      ⟨[([1], false, false), ([7], false, true), ([8, 0], true, false)], some [7], some [8], 0,
        fun _ => none⟩ [1] = .ok (some ⟨[7], false⟩) := by rfl

/-- `--config-path` replaces the search wholesale: when it resolves to file `f`, `load_config` reads
`f` and nothing else — the result does not depend on the directory of the file being formatted, nor
on any other config file of the tree (any file system with the same file contents in which
`--config-path` resolves to `f` gives the same result), and the reported path is `f`. -/
theorem config_path_replaces (env : Env) (fs : FS α) (o : CliOptions α) (f : ConfigFile α)
    (hcp : configPath fs.tree o = .ok (some f)) (fp1 fp2 : Option (List α)) :
    loadConfig env fs fp1 (some o) = loadConfig env fs fp2 (some o) ∧
    (∀ fs' : FS α, fs'.read = fs.read → configPath fs'.tree o = .ok (some f) →
      loadConfig env fs' fp1 (some o) = loadConfig env fs fp1 (some o)) ∧
    (∀ c p, loadConfig env fs fp1 (some o) = .ok (c, p) → p = some f) := by
  refine ⟨by rw [loadConfig_config_path env fs fp1 o f hcp, loadConfig_config_path env fs fp2 o f hcp],
    fun fs' hr hcp' => by
      rw [loadConfig_config_path env fs' fp1 o f hcp', loadConfig_config_path env fs fp1 o f hcp,
        fromTomlPath_read env fs' fs hr], ?_⟩
  intro c p h
  rw [loadConfig_config_path env fs fp1 o f hcp] at h
  cases h1 : fromTomlPath env fs f o.editionOv o.styleEditionOv o.versionOv with
  | error e => simp [h1] at h
  | ok c0 =>
    simp only [h1] at h
    cases h2 : applyTo o c0 with
    | none => simp [h2] at h
    | some c' =>
      simp only [h2, Except.ok.injEq, Prod.mk.injEq] at h
      exact h.2.symm

example :
    configPath (α := Nat) [([], false, true), ([5], false, true)]
      { configPath := some (.dir [5]) } = .ok (some ⟨[5], false⟩) := by rfl

end Dir

/-! ## Command line over file -/

section Cli
variable {α : Type}

/-- `--config k=v` overrides any file: whatever configuration `c` the file search produced,
whatever the other pairs, their order in the `HashMap` and the dedicated flags, after `apply_to`
option `k` has value `v` and is marked as set.  (`k` any option other than the eight width options,
whose value is clamped to `max_width`: see `explicit_width_clamped`.)  `apply_to` does not panic
when the pairs are well-typed, which `from_matches` guarantees. -/
theorem cli_over_file (o : CliOptions α) (c : Config) (k : String) (v : Val)
    (hm : (k, v) ∈ o.inlineConfig) (hnd : (o.inlineConfig.map (·.1)).Nodup)
    (hv : ∀ kv ∈ o.inlineConfig, checkVal kv.1 kv.2 = true) (hw : k ∉ widthKeys) :
    ∃ c', applyTo o c = some c' ∧ (getE c' k).val = v ∧ (getE c' k).wasSet = true := by
  obtain ⟨c', h⟩ := applyTo_some o c hv
  exact ⟨c', h, applyTo_inline_wins o c c' h k v hm hnd hw⟩

example : (("tab_spaces", Val.nat 2) ∈ [("max_width", Val.nat 80), ("tab_spaces", Val.nat 2)]) ∧
    checkVal "tab_spaces" (.nat 2) = true ∧ "tab_spaces" ∉ widthKeys := by decide +kernel

/-- A dedicated flag (`--edition`, `--style-edition`, `--check`, `--emit`, `--color`, `--backup`,
`-v`/`-q`, …) overrides any file too, unless a `--config` pair names the same option (the pairs are
applied after the flags). -/
theorem flag_over_file (o : CliOptions α) (c : Config) (cli : Bool) (k : String) (v : Val)
    (hm : (cli, k, v) ∈ flagCalls o) (hk : k ∉ o.inlineConfig.map (·.1))
    (hv : ∀ kv ∈ o.inlineConfig, checkVal kv.1 kv.2 = true) :
    ∃ c', applyTo o c = some c' ∧ (getE c' k).val = v ∧
      (cli = true → (getE c' k).wasSetCli = true) := by
  obtain ⟨c', h⟩ := applyTo_some o c hv
  exact ⟨c', h, applyTo_flag_wins o c c' h cli k v hm hk⟩

example : (true, "style_edition", Val.str "2024") ∈
    flagCalls ({ styleEdition := some .e2024 } : CliOptions Nat) := by decide +kernel

end Cli

/-! ## Style edition precedence -/

/-- `style_edition` > `version` > `edition` > 2015: the defaults are those of the style edition
chosen in that order. -/
theorem style_edition_precedence (se : Option StyleEdition) (ed : Option Edition)
    (ver : Option Version) :
    defaultForPossibleStyleEdition se ed ver =
      defaultWithStyleEdition (chosenStyleEdition se ed ver) ∧
    (∀ s, se = some s → chosenStyleEdition se ed ver = s) ∧
    (se = none → ver = some .two → chosenStyleEdition se ed ver = .e2024) ∧
    (se = none → ver = some .one → chosenStyleEdition se ed ver = .e2015) ∧
    (∀ e, se = none → ver = none → ed = some e →
      chosenStyleEdition se ed ver = e.toStyleEdition) ∧
    (se = none → ver = none → ed = none → chosenStyleEdition se ed ver = .e2015) := by
  refine ⟨defaultForPossible_eq se ed ver, ?_, ?_, ?_, ?_, ?_⟩
  · rintro s rfl; rfl
  · rintro rfl rfl; rfl
  · rintro rfl rfl; rfl
  · rintro e rfl rfl rfl; rfl
  · rintro rfl rfl rfl; rfl

/-- A command-line override (`--style-edition`, `--edition`, `--config style_edition=…`, …) beats
the value in the file, field by field, before the precedence above is applied
(`to_parsed_config`). -/
theorem style_edition_override_beats_file (env : Env) (parsed : List (String × Val))
    (seOv : Option StyleEdition) (edOv : Option Edition) (verOv : Option Version) :
    toParsedConfig env parsed seOv edOv verOv =
      fillFromParsedConfig env
        (defaultWithStyleEdition (chosenStyleEdition
          (orElse seOv (parsedStyleEdition parsed)) (orElse edOv (parsedEdition parsed))
          (orElse verOv (parsedVersion parsed)))) parsed := by
  unfold toParsedConfig
  rw [defaultForPossible_eq]

/-- What the `style_edition` option itself reads in a default configuration: "2015" for the
defaults of 2015, 2018 and 2021, "2024" for those of 2024 and 2027 (so `edition = "2021"` alone
leaves `style_edition = "2015"`; harmless today because the defaults coincide). -/
theorem style_edition_field_of_default :
    (∀ se ∈ [StyleEdition.e2015, .e2018, .e2021],
      (getE (defaultWithStyleEdition se) "style_edition").val = .str "2015") ∧
    (∀ se ∈ [StyleEdition.e2024, .e2027],
      (getE (defaultWithStyleEdition se) "style_edition").val = .str "2024") := by decide +kernel

/-! ## Deprecated aliases -/

/-- `override_value` of a deprecated alias maps to its successor exactly when the successor has not
been set: `merge_imports` ↦ `imports_granularity` (`true` ↦ `Crate`, `false` ↦ `Preserve`),
`fn_args_layout` ↦ `fn_params_layout` (same value), `hide_parse_errors` ↦ `show_parse_errors`
(negated — see `hide_parse_errors_negated`). -/
theorem alias_maps (c : Config) :
    (∀ b, ∃ c', overrideValue c "merge_imports" (.bool b) = some c' ∧
      (getE c' "imports_granularity").val =
        if wasSet c "imports_granularity" then (getE c "imports_granularity").val
        else .str (if b then "Crate" else "Preserve")) ∧
    (∀ s, ∃ c', overrideValue c "fn_args_layout" (.str s) = some c' ∧
      (getE c' "fn_params_layout").val =
        if wasSet c "fn_params_layout" then (getE c "fn_params_layout").val else .str s) ∧
    (∀ b, ∃ c', overrideValue c "hide_parse_errors" (.bool b) = some c' ∧
      (getE c' "show_parse_errors").val =
        if wasSet c "show_parse_errors" then (getE c "show_parse_errors").val else .bool (!b)) := by
  have t : tagOf "merge_imports" = some .bool ∧ tagOf "fn_args_layout" = some .str ∧
      tagOf "hide_parse_errors" = some .bool := by decide +kernel
  refine ⟨fun b => ?_, fun s => ?_, fun b => ?_⟩
  · have hv : checkVal "merge_imports" (.bool b) = true := checkVal_bool _ _ t.1
    refine ⟨_, by simp only [overrideValue, hv, if_true]; rfl, ?_⟩
    rw [dispatch_merge_imports, setMergeImports_eq, getE_setAlias]
    simp only [wasSet, getE_setVal, getE_setWasSet, mergeImportsMap]
    by_cases h : (getE c "imports_granularity").wasSet = true <;> cases b <;> simp [h]
  · have hv : checkVal "fn_args_layout" (.str s) = true :=
      checkVal_str _ _ t.2.1 (enumOk_free _ _ (by decide +kernel) (by decide +kernel)
        (by decide +kernel) (by decide +kernel))
    refine ⟨_, by simp only [overrideValue, hv, if_true]; rfl, ?_⟩
    rw [dispatch_fn_args_layout, setFnArgsLayout_eq, getE_setAlias]
    simp only [wasSet, getE_setVal, getE_setWasSet]
    by_cases h : (getE c "fn_params_layout").wasSet = true <;> simp [h]
  · have hv : checkVal "hide_parse_errors" (.bool b) = true := checkVal_bool _ _ t.2.2
    refine ⟨_, by simp only [overrideValue, hv, if_true]; rfl, ?_⟩
    rw [dispatch_hide_parse_errors, setHideParseErrors_eq, getE_setAlias]
    simp only [wasSet, getE_setVal, getE_setWasSet]
    by_cases h : (getE c "show_parse_errors").wasSet = true <;> simp [h, negBool]

/-- The alias `hide_parse_errors` is negated into its successor: `--config hide_parse_errors=true`
yields `show_parse_errors = false`.  (The pinned tree copied the value without negating it, finding
F29, repaired by `fix: hide_parse_errors = true must turn show_parse_errors off`.) -/
theorem hide_parse_errors_negated :
    (overrideValue (defaultWithStyleEdition .e2015) "hide_parse_errors" (.bool true)).map
      (fun c => (getE c "show_parse_errors").val) = some (.bool false) ∧
    (overrideValue (defaultWithStyleEdition .e2015) "hide_parse_errors" (.bool false)).map
      (fun c => (getE c "show_parse_errors").val) = some (.bool true) := by
  -- `alias_maps` at a default configuration, where nothing is set
  have h := fun b => (alias_maps (defaultWithStyleEdition .e2015)).2.2 b
  obtain ⟨c1, h1, v1⟩ := h true
  obtain ⟨c2, h2, v2⟩ := h false
  rw [wasSet_default] at v1 v2
  rw [h1, h2]
  exact ⟨congrArg some v1, congrArg some v2⟩

/-- The same mapping for a config file (nightly channel, where the unstable aliases are accepted):
an alias present in the file sets its successor unless the file sets the successor too. -/
theorem alias_maps_file (parsed : List (String × Val)) (seOv edOv verOv) (c : Config)
    (hc0 : c = toParsedConfig ⟨true⟩ parsed seOv edOv verOv) :
    (∀ b, parsed.lookup "merge_imports" = some (.bool b) →
      (getE c "imports_granularity").val =
        match parsed.lookup "imports_granularity" with
        | some g => g
        | none => .str (if b then "Crate" else "Preserve")) ∧
    (∀ v, parsed.lookup "fn_args_layout" = some v →
      (getE c "fn_params_layout").val =
        match parsed.lookup "fn_params_layout" with
        | some g => g
        | none => v) ∧
    (∀ v, parsed.lookup "hide_parse_errors" = some v →
      (getE c "show_parse_errors").val =
        match parsed.lookup "show_parse_errors" with
        | some g => g
        | none => negBool v) := by
  rw [hc0, style_edition_override_beats_file]
  exact alias_file parsed _

example : ([("merge_imports", Val.bool true)] : List (String × Val)).lookup "merge_imports" =
    some (.bool true) := by decide +kernel

/-! ## Width heuristics -/

/-- Right after any recomputation of the heuristics, a width option that was set never exceeds
`max_width` — whatever operations came before.  (`c` is any configuration whose
`use_small_heuristics` holds one of the three variants.) -/
theorem explicit_width_clamped (c : Config)
    (hok : (Heuristics.ofVal? (getE c "use_small_heuristics").val).isSome = true) :
    ∀ w ∈ widthKeys, wasSet (setHeuristics c) w = true →
      natOf (setHeuristics c) w ≤ natOf (setHeuristics c) "max_width" :=
  clamped_setHeuristics c hok

example : (Heuristics.ofVal? (getE (defaultWithStyleEdition .e2015) "use_small_heuristics").val).isSome
    = true := heurOK_default .e2015

/-- … and the clamping is an invariant of the whole interface: after ANY sequence of file loads,
`override_value`, `set()` and `set_cli()` calls (on any keys, in any order) starting from a default
configuration, every width option that was set is at most `max_width`.  This uses the generated
dispatch tables: a key that changes `max_width` or a width without triggering `set_heuristics`
would break the proof. -/
theorem explicit_width_clamped_reachable (env : Env) (se : StyleEdition) (ops : List Op)
    (c : Config) (h : runOps env ops (defaultWithStyleEdition se) = some c) :
    ∀ w ∈ widthKeys, wasSet c w = true → natOf c w ≤ natOf c "max_width" :=
  (inv_runOps env ops _ c h (inv_default se)).2

example : (runOps ⟨true⟩ [.file [("fn_call_width", .nat 300)], .override "max_width" (.nat 80),
    .set "chain_width" (.nat 500)] (defaultWithStyleEdition .e2015)).map
      (fun c => (natOf c "fn_call_width", wasSet c "fn_call_width")) = some (80, true) := by decide +kernel

/-- The same for everything `load_config` can return (any tree, file contents, options). -/
theorem explicit_width_clamped_load {α} [DecidableEq α] (env : Env) (fs : FS α)
    (fp : Option (List α)) (opts : Option (CliOptions α)) (c : Config)
    (p : Option (ConfigFile α)) (h : loadConfig env fs fp opts = .ok (c, p)) :
    ∀ w ∈ widthKeys, wasSet c w = true → natOf c w ≤ natOf c "max_width" :=
  (inv_loadConfig env fs fp opts c p h).2

example : (loadConfig ⟨true⟩ (oneFile [("chain_width", .nat 500)]) (some [])
    (some { inlineConfig := [("max_width", .nat 90)] })).toOption.map
      (fun r => (natOf r.1 "chain_width", wasSet r.1 "chain_width")) = some (90, true) := by
  decide +kernel

/-- The integer `scaled` never exceeds `max_width` exactly from `max_width = 70` on (each width has
its own threshold: 60, 70, 18, 35, 60, 60, 50, 50); `WidthHeuristics::set` never does. -/
theorem scaled_le_max_iff (mw : Nat) :
    ((∀ p ∈ (WidthHeuristics.scaled mw).toList, p.2 ≤ mw) ↔ 70 ≤ mw) ∧
    (∀ p ∈ (WidthHeuristics.set mw).toList, p.2 ≤ mw) :=
  ⟨scaled_le_iff mw, set_le mw⟩

/-- Widths derived from `use_small_heuristics` never exceed `max_width` — PARTIAL: for `Max` always,
for `Default` when `max_width ≥ 70`; all eight widths, set or not, after `set_heuristics`. -/
theorem heuristic_widths_le_max_partial (c : Config)
    (h : (getE c "use_small_heuristics").val = .str "Max" ∨
      ((getE c "use_small_heuristics").val = .str "Default" ∧ 70 ≤ natOf c "max_width")) :
    ∀ w ∈ widthKeys, natOf (setHeuristics c) w ≤ natOf (setHeuristics c) "max_width" := by
  rcases h with h | ⟨h, hmw⟩
  · exact widths_le_of_heur_le c (WidthHeuristics.set (natOf c "max_width"))
      (by simp [heurOf, h, Heuristics.ofVal?, natOf]) (set_le _)
  · exact widths_le_of_heur_le c (WidthHeuristics.scaled (natOf c "max_width"))
      (by simp [heurOf, h, Heuristics.ofVal?, natOf]) ((scaled_le_iff _).2 hmw)

example : (getE (defaultWithStyleEdition .e2015) "use_small_heuristics").val = .str "Default" ∧
    70 ≤ natOf (defaultWithStyleEdition .e2015) "max_width" := by decide +kernel

/-- F8: with the default heuristics and `max_width = 50`, `fn_call_width` is 60 and
`attr_fn_like_width` 70; already at `max_width = 69` the latter exceeds it. -/
theorem heuristic_default_counterexample :
    (overrideValue (defaultWithStyleEdition .e2015) "max_width" (.nat 50)).map
      (fun c => (natOf c "max_width", natOf c "fn_call_width", natOf c "attr_fn_like_width"))
      = some (50, 60, 70) ∧
    (overrideValue (defaultWithStyleEdition .e2015) "max_width" (.nat 69)).map
      (fun c => (natOf c "max_width", natOf c "attr_fn_like_width")) = some (69, 70) := by decide +kernel

/-- F8: `use_small_heuristics = Off` sets four of the widths to `usize::MAX` (which is also why
`--print-config current` cannot serialise them). -/
theorem heuristic_off_counterexample :
    (overrideValue (defaultWithStyleEdition .e2015) "use_small_heuristics" (.str "Off")).map
      (fun c => (natOf c "max_width", natOf c "fn_call_width", natOf c "struct_lit_width"))
      = some (100, 18446744073709551615, 0) := by decide +kernel

/-- The integer model of `WidthHeuristics::scaled` agrees with the operation-by-operation f32
emulation for every `max_width ≤ 1000` (the Rust function was compared exhaustively with both:
they agree up to 10 485 783; beyond, only `scaledF32` follows the Rust code). -/
theorem scaled_eq_scaledF32 :
    ∀ mw ∈ List.range 1001, WidthHeuristics.scaled mw = WidthHeuristics.scaledF32 mw := by
  intro mw hmw
  have hr : ratio10 mw ∈ List.range 101 := by
    have := List.mem_range.1 hmw
    rw [List.mem_range, ratio10]; split <;> omega
  have hw := fun b hb => (widthF32_eq _ hr b hb).symm
  rw [scaledF32_eq mw hmw, WidthHeuristics.scaled]
  simp only [hw 60 (by simp), hw 70 (by simp), hw 18 (by simp), hw 35 (by simp), hw 50 (by simp)]

/-- … and where they part: at 10 485 784 the f32 code gives 6 291 474, the integer formula
6 291 468. -/
theorem scaled_f32_diverges :
    (WidthHeuristics.scaledF32 10485784).fnCallWidth = 6291474 ∧
    (WidthHeuristics.scaled 10485784).fnCallWidth = 6291468 := by decide +kernel

/-! ## Same value, same effect -/

/-- One option `k = v` has the same effect from a config file and from `--config` — PARTIAL.
`load_config` for a file in `/` with `/rustfmt.toml` containing `k = v` and no flag, and
`load_config` with no config file and `--config k=v`, succeed and give the same effective
configuration (same value, `was_set`, `was_set_cli` for every option), for every option/value pair
the parser accepts, provided (1) on the stable channel `k` is a stable option and `v` a stable
variant (the file path drops unstable ones, `--config` does not) and (2) `k` is none of `verbose`,
`file_lines`, `unstable_features`, which `apply_to` overwrites after the file was read. -/
theorem same_value_same_effect_partial (env : Env) (k : String) (v : Val)
    (hv : checkVal k v = true) (hs : isStableOptionAndValue env k v = true)
    (hk : k ∉ ["verbose", "file_lines", "unstable_features"]) :
    ∃ c1 c2,
      loadConfig env (oneFile [(k, v)]) (some []) (some {}) = .ok (c1, some ⟨[], false⟩) ∧
      loadConfig env noFile (some []) (some { inlineConfig := [(k, v)] }) = .ok (c2, none) ∧
      Equiv c1 c2 := by
  obtain ⟨c1, c2, h1, h2, he⟩ := same_value_core (α := Unit) env
    (chosenStyleEdition (parsedStyleEdition [(k, v)]) (parsedEdition [(k, v)])
      (parsedVersion [(k, v)])) k v hv hs hk
  refine ⟨c1, c2, ?_, ?_, he⟩
  · rw [load_oneFile env _ _ rfl (by simp [validParsed, hv])]
    have e : toParsedConfig env [(k, v)] (({} : CliOptions Unit).styleEditionOv)
        (({} : CliOptions Unit).editionOv) (({} : CliOptions Unit).versionOv) =
        fillFromParsedConfig env (defaultWithStyleEdition (chosenStyleEdition
          (parsedStyleEdition [(k, v)]) (parsedEdition [(k, v)]) (parsedVersion [(k, v)])))
          [(k, v)] := by
      unfold toParsedConfig
      rw [defaultForPossible_eq]
      rfl
    rw [e, h1]
  · rw [load_noFile env _ rfl]
    have e : defaultForPossibleStyleEdition
        (({ inlineConfig := [(k, v)] } : CliOptions Unit).styleEditionOv)
        (({ inlineConfig := [(k, v)] } : CliOptions Unit).editionOv)
        (({ inlineConfig := [(k, v)] } : CliOptions Unit).versionOv) =
        defaultWithStyleEdition (chosenStyleEdition
          (parsedStyleEdition [(k, v)]) (parsedEdition [(k, v)]) (parsedVersion [(k, v)])) := by
      rw [defaultForPossible_eq]
      rfl
    rw [e, h2]

example : checkVal "max_width" (.nat 80) = true ∧
    isStableOptionAndValue ⟨false⟩ "max_width" (.nat 80) = true ∧
    "max_width" ∉ ["verbose", "file_lines", "unstable_features"] := by decide +kernel

/-- Why hypothesis (1): on the stable channel `brace_style = "AlwaysNextLine"` in a file is ignored
(with a warning) while `--config brace_style=AlwaysNextLine` takes effect. -/
theorem same_value_stable_channel_counterexample :
    (loadConfig ⟨false⟩ (oneFile [("brace_style", .str "AlwaysNextLine")]) (some [])
        (some {})).toOption.map (fun r => (getE r.1 "brace_style").val)
      = some (.str "SameLineWhere") ∧
    (loadConfig ⟨false⟩ noFile (some [])
        (some { inlineConfig := [("brace_style", .str "AlwaysNextLine")] })).toOption.map
      (fun r => (getE r.1 "brace_style").val) = some (.str "AlwaysNextLine") := by decide +kernel

/-- Why hypothesis (2) — finding: `unstable_features = true` in `rustfmt.toml` is reset to `false`
by `GetOptsOptions::apply_to` (which calls `config.set().unstable_features(false)` when the flag is
absent), whereas `--config unstable_features=true` is applied after that and sticks. -/
theorem same_value_flag_clobber_counterexample :
    (loadConfig ⟨true⟩ (oneFile [("unstable_features", .bool true)]) (some [])
        (some {})).toOption.map (fun r => (getE r.1 "unstable_features").val)
      = some (.bool false) ∧
    (loadConfig ⟨true⟩ noFile (some [])
        (some { inlineConfig := [("unstable_features", .bool true)] })).toOption.map
      (fun r => (getE r.1 "unstable_features").val) = some (.bool true) := by decide +kernel

/-- The public API setter `config.set().k(v)` leaves the same VALUES as `override_value(k, v)` for
every option except the eight width options and the three deprecated aliases (it never marks the
option as set, so the provenance bits differ) — PARTIAL, see the two counter-examples. -/
theorem api_same_values_partial (c : Config) (k : String) (v : Val) (hv : checkVal k v = true)
    (hw : k ∉ widthKeys) (ha : k ∉ ["merge_imports", "fn_args_layout", "hide_parse_errors"]) :
    ∃ c1 c2, configSet c k v = some c1 ∧ overrideValue c k v = some c2 ∧
      ∀ k', (getE c1 k').val = (getE c2 k').val := by
  refine ⟨_, _, by simp only [configSet, hv, if_true]; rfl,
    by simp only [overrideValue, hv, if_true]; rfl, ?_⟩
  rw [tables_agree.1]
  intro k'
  have hstore : ∀ k'', (getE (setVal c k v) k'').val = (getE (setVal (setWasSet c k) k v) k'').val ∧
      (k'' ≠ k → getE (setVal c k v) k'' = getE (setVal (setWasSet c k) k v) k'') := by
    intro k''
    simp only [getE_setVal, getE_setWasSet]
    by_cases h : k'' = k <;> simp [h]
  by_cases a1 : k ∈ heurKeys
  · rw [dispatch_heur k a1, dispatch_heur k a1, getE_setHeuristics, getE_setHeuristics]
    rw [heurEntry_congr _ _ _ _ _ k' (hstore "max_width").1 (hstore "use_small_heuristics").1]
    by_cases hk' : k' ∈ widthKeys
    · have : k' ≠ k := fun e => hw (e ▸ hk')
      rw [(hstore k').2 this]
    · rw [heurEntry_of_not_width _ _ _ _ hk', heurEntry_of_not_width _ _ _ _ hk']
      exact (hstore k').1
  · by_cases a5 : k = "version"
    · subst a5; rw [dispatch_version, dispatch_version]; exact (hstore k').1
    · have : k ∉ allDispatchKeys := by
        simp only [allDispatchKeys, List.mem_append, List.mem_cons, List.not_mem_nil,
          or_false, not_or]
        exact ⟨⟨a1, ha⟩, a5⟩
      rw [dispatch_other k this, dispatch_other k this]; exact (hstore k').1

example : checkVal "max_width" (.nat 120) = true ∧ "max_width" ∉ widthKeys ∧
    "max_width" ∉ ["merge_imports", "fn_args_layout", "hide_parse_errors"] := by decide +kernel

/-- F16: `config.set().fn_call_width(50)` on a default config has no effect — the value stays 60,
because `ConfigSetter` does not mark the option as set and the `set_heuristics()` it triggers
overwrites the value just stored; `override_value` (and a file) give 50.  Same for the other seven
width options. -/
theorem api_setter_counterexample :
    (configSet (defaultWithStyleEdition .e2015) "fn_call_width" (.nat 50)).map
      (fun c => natOf c "fn_call_width") = some 60 ∧
    (overrideValue (defaultWithStyleEdition .e2015) "fn_call_width" (.nat 50)).map
      (fun c => natOf c "fn_call_width") = some 50 ∧
    (∀ w ∈ widthKeys, (configSet (defaultWithStyleEdition .e2015) w (.nat 7)).map
      (fun c => natOf c w) = some (natOf (defaultWithStyleEdition .e2015) w)) := by decide +kernel

/-- Finding (same cause as F16): the API setter of a deprecated alias does nothing to its successor —
`config.set().merge_imports(true)` leaves `imports_granularity = Preserve`, because
`set_merge_imports` only acts when `was_set().merge_imports()`, which the setter never makes true;
`override_value` gives `Crate`. -/
theorem api_alias_counterexample :
    (configSet (defaultWithStyleEdition .e2015) "merge_imports" (.bool true)).map
      (fun c => (getE c "imports_granularity").val) = some (.str "Preserve") ∧
    (overrideValue (defaultWithStyleEdition .e2015) "merge_imports" (.bool true)).map
      (fun c => (getE c "imports_granularity").val) = some (.str "Crate") := by decide +kernel

/-! ## Order of the `--config` pairs -/

/-- F3: `--config max_width=120,fn_call_width=110` — applied in this order `fn_call_width` ends at
110, in the other order at 100 (clamped against the `max_width` of the moment, destructively).
This is the bare loop `applyInline` over the pairs in a given order; `inline_config` is a `HashMap`, so
a loop in iteration order could meet either, which is why `orderInline` puts `max_width` first. -/
theorem override_order_counterexample :
    (applyInline [("max_width", .nat 120), ("fn_call_width", .nat 110)]
      (defaultWithStyleEdition .e2015)).map (fun c => natOf c "fn_call_width") = some 110 ∧
    (applyInline [("fn_call_width", .nat 110), ("max_width", .nat 120)]
      (defaultWithStyleEdition .e2015)).map (fun c => natOf c "fn_call_width") = some 100 := by
  decide +kernel

/-- The order of the `--config` pairs does not matter — PARTIAL: when `max_width` is not among them.
For two orders `l1`, `l2` of the same pairs (distinct keys, well-typed values) and any starting
configuration with a valid `use_small_heuristics`, both runs succeed and give the same effective
configuration. -/
theorem override_order_independent_partial (l1 l2 : List (String × Val)) (hp : l1.Perm l2)
    (hnd : (l1.map (·.1)).Nodup) (hmw : "max_width" ∉ l1.map (·.1))
    (hv : ∀ kv ∈ l1, checkVal kv.1 kv.2 = true) (c : Config) (hc : HeurOK c) :
    ∃ c1 c2, applyInline l1 c = some c1 ∧ applyInline l2 c = some c2 ∧ Equiv c1 c2 := by
  obtain ⟨c1, h1⟩ := applyInline_some l1 c hv
  obtain ⟨c2, h2⟩ := applyInline_some l2 c (fun kv hkv => hv kv (hp.mem_iff.2 hkv))
  exact ⟨c1, c2, h1, h2, (applyInline_equiv_ovs l1 c c1 h1).trans
    ((ovs_perm l1 l2 hp hnd hmw hv c hc).trans (applyInline_equiv_ovs l2 c c2 h2).symm)⟩

example :
    let l1 := [("fn_call_width", Val.nat 90), ("use_small_heuristics", Val.str "Max")]
    (l1.map (·.1)).Nodup ∧ "max_width" ∉ l1.map (·.1) ∧
    (∀ kv ∈ l1, checkVal kv.1 kv.2 = true) ∧
    (Heuristics.ofVal? (getE (defaultWithStyleEdition .e2015) "use_small_heuristics").val).isSome
      = true := by decide +kernel

example : [("fn_call_width", Val.nat 90), ("use_small_heuristics", Val.str "Max")].Perm
    [("use_small_heuristics", Val.str "Max"), ("fn_call_width", Val.nat 90)] :=
  List.Perm.swap _ _ _

/-- … and when `max_width` IS among them, applying it first makes the rest order-independent
(what `orderInline` arranges). -/
theorem override_order_max_width_first (m : Val) (l1 l2 : List (String × Val)) (hp : l1.Perm l2)
    (hnd : (l1.map (·.1)).Nodup) (hmw : "max_width" ∉ l1.map (·.1))
    (hm : checkVal "max_width" m = true) (hv : ∀ kv ∈ l1, checkVal kv.1 kv.2 = true) (c : Config)
    (hc : HeurOK c) :
    ∃ c1 c2, applyInline (("max_width", m) :: l1) c = some c1 ∧
      applyInline (("max_width", m) :: l2) c = some c2 ∧ Equiv c1 c2 := by
  have h0 : overrideValue c "max_width" m =
      some (dispatch overrideValueDispatch "max_width" (setVal (setWasSet c "max_width") "max_width" m)) := by
    simp only [overrideValue, hm, if_true]
  have hc0 : HeurOK (dispatch overrideValueDispatch "max_width"
      (setVal (setWasSet c "max_width") "max_width" m)) := by
    rw [heurOK_dispatch]
    unfold HeurOK
    rw [getE_override_store, getE_upd]
    simpa [HeurOK] using hc
  obtain ⟨c1, c2, h1, h2, he⟩ := override_order_independent_partial l1 l2 hp hnd hmw hv _ hc0
  exact ⟨c1, c2, by simp only [applyInline, h0, h1], by simp only [applyInline, h0, h2], he⟩

/-- `apply_to` feeds the `max_width` pair first (generated flag `inlineMaxWidthFirst`), so the
configuration it produces does not depend on the iteration order of the `HashMap` of `--config` pairs: for
every command line `o`, every other order `l2` of its pairs (distinct keys — it is a map —, values
accepted by `is_valid_key_val`, `max_width` allowed among them) and every starting configuration
with a valid `use_small_heuristics`, both runs succeed and give the same effective configuration.
For the bare loop without that ordering the statement fails: `override_order_counterexample`. -/
theorem apply_to_order_independent {α : Type} (o : CliOptions α) (l2 : List (String × Val))
    (hp : o.inlineConfig.Perm l2) (hnd : (o.inlineConfig.map (·.1)).Nodup)
    (hv : ∀ kv ∈ o.inlineConfig, checkVal kv.1 kv.2 = true) (c : Config)
    (hc : (Heuristics.ofVal? (getE c "use_small_heuristics").val).isSome = true) :
    ∃ c1 c2, applyTo o c = some c1 ∧ applyTo { o with inlineConfig := l2 } c = some c2 ∧
      Equiv c1 c2 := by
  obtain ⟨c0, h0⟩ := applyFlagCalls_some (flagCalls o) c (flagCalls_valid o)
  have hc0 : (Heuristics.ofVal? (getE c0 "use_small_heuristics").val).isSome = true :=
    heurOK_applyFlagCalls _ c c0 h0 hc
  have hf : flagCalls ({ o with inlineConfig := l2 } : CliOptions α) = flagCalls o := rfl
  have hm := filter_max_width_eq o.inlineConfig l2 hp hnd
  let r1 := o.inlineConfig.filter (fun kv => !(kv.1 == "max_width"))
  let r2 := l2.filter (fun kv => !(kv.1 == "max_width"))
  have hpr : r1.Perm r2 := hp.filter _
  have hndr : (r1.map (·.1)).Nodup := (List.filter_sublist.map _).nodup hnd
  have hmwr : "max_width" ∉ r1.map (·.1) := by
    intro hmem
    obtain ⟨kv, hkv, hk⟩ := List.mem_map.1 hmem
    have := (List.mem_filter.1 hkv).2
    simp [hk] at this
  have hvr : ∀ kv ∈ r1, checkVal kv.1 kv.2 = true :=
    fun kv hkv => hv kv (List.mem_filter.1 hkv).1
  have e1 : applyTo o c =
      applyInline (o.inlineConfig.filter (fun kv => kv.1 == "max_width") ++ r1) c0 := by
    simp only [applyTo, h0, bindO, orderInline_eq, maxWidthFirst, r1]
  have e2 : applyTo ({ o with inlineConfig := l2 } : CliOptions α) c =
      applyInline (o.inlineConfig.filter (fun kv => kv.1 == "max_width") ++ r2) c0 := by
    simp only [applyTo, hf, h0, bindO, orderInline_eq, maxWidthFirst, r2, hm]
  rw [e1, e2]
  rcases filter_max_width_cases o.inlineConfig hnd with hmf | ⟨m, hmf⟩ <;> rw [hmf]
  · exact override_order_independent_partial r1 r2 hpr hndr hmwr hvr c0 hc0
  · have hmv : checkVal "max_width" m = true :=
      hv ("max_width", m) (List.mem_filter.1 (by rw [hmf]; simp : ("max_width", m) ∈ _)).1
    exact override_order_max_width_first m r1 r2 hpr hndr hmwr hmv hvr c0 hc0

example :
    let o : CliOptions Nat := { inlineConfig := [("fn_call_width", .nat 110), ("max_width", .nat 120)] }
    (o.inlineConfig.map (·.1)).Nodup ∧ (∀ kv ∈ o.inlineConfig, checkVal kv.1 kv.2 = true) ∧
    (applyTo o (defaultWithStyleEdition .e2015)).map (fun c => natOf c "fn_call_width") = some 110 ∧
    (applyTo { o with inlineConfig := o.inlineConfig.reverse } (defaultWithStyleEdition .e2015)).map
      (fun c => natOf c "fn_call_width") = some 110 := by decide +kernel

/-! ## `--print-config`: print, then load the printed text -/

/-- The text printed by `--print-config default|current` re-parses to the same effective
configuration — PARTIAL.  For a configuration `c` that holds exactly the options of the table (true
of everything the code builds, cf. `default_wf`), that can be printed (`toToml c = some l`: no
integer above `i64::MAX`, which excludes `use_small_heuristics = "Off"`, F8a), whose printed values
the parser accepts, and in which no width exceeds `max_width` (which excludes F8b): loading the
printed text as a config file (nightly channel, no command-line override) succeeds and gives every
printed option — every option outside the generated list `tomlHidden` — its value back.  The hidden
ones (`verbose`, `file_lines`, the deprecated aliases, …) are not in the text and come back as
defaults.  Both excluded cases are proved counter-examples below. -/
theorem toml_roundtrip_partial (c : Config) (l : List (String × Val))
    (hkeys : c.map (·.1) = optionNames) (hprint : toToml c = some l)
    (htyped : validParsed l = true)
    (hwidth : ∀ w ∈ widthKeys, natOf c w ≤ natOf c "max_width") :
    ∃ c2, roundTrip ⟨true⟩ c = some c2 ∧
      ∀ k ∈ optionNames, tomlHidden.contains k = false → (getE c2 k).val = (getE c k).val :=
  roundTrip_values c l hkeys hprint htyped hwidth

/-- Non-vacuity: the 2024 default configuration satisfies the four hypotheses, and its round trip
changes no printed value. -/
example :
    let c := defaultWithStyleEdition .e2024
    c.map (·.1) = optionNames ∧ (toToml c).isSome = true ∧
    ((toToml c).map validParsed) = some true ∧
    (∀ w ∈ widthKeys, natOf c w ≤ natOf c "max_width") ∧
    ((roundTrip ⟨true⟩ c).map (valueDiff c)) = some [] := by
  intro c
  -- `c` is well-formed (`default_wf`), so the printed text is valid without a search of the option
  -- table for every printed key; the other hypotheses are evaluated
  have h := roundTrip_vector c c (default_wf _) (by decide +kernel)
  simp only [Prod.mk.injEq, beq_iff_eq, List.all_eq_true, decide_eq_true_eq] at h
  obtain ⟨h1, h3, h4, h5⟩ := h
  exact ⟨h1, by rw [← Option.isSome_map (f := validParsed), h3]; rfl, h3, h4, h5⟩

/-- … and so does a configuration loaded from a file with an explicit width. -/
example :
    (fromToml ⟨true⟩ [("max_width", .nat 80), ("chain_width", .nat 500),
        ("use_small_heuristics", .str "Max"), ("merge_imports", .bool true)] none none none).map
      (fun c => (c.map (·.1) == optionNames, (toToml c).map validParsed,
        widthKeys.all (fun w => natOf c w ≤ natOf c "max_width"),
        (roundTrip ⟨true⟩ c).map (valueDiff c))) = some (true, some true, true, some []) := by
  rw [fromToml, if_pos]
  -- the loaded configuration satisfies the hypotheses (evaluated); the rest is the theorem
  · exact congrArg some
      (roundTrip_vector _ (defaultWithStyleEdition .e2015) (default_wf _) (by decide +kernel))
  · decide +kernel

/-- F8a: the configuration under `use_small_heuristics = "Off"` cannot be printed at all. -/
theorem print_config_off_counterexample :
    (overrideValue (defaultWithStyleEdition .e2015) "use_small_heuristics" (.str "Off")).map toToml
      = some none := by decide +kernel

/-- F8b: under the default heuristics with `max_width = 50` the printed text loads back with
`fn_call_width`, `attr_fn_like_width`, `array_width` and `chain_width` clamped to 50: print / re-parse
is not the identity (hypothesis `hwidth` of `toml_roundtrip_partial` fails). -/
theorem toml_roundtrip_counterexample :
    (overrideValue (defaultWithStyleEdition .e2015) "max_width" (.nat 50)).map
      (fun c => (roundTrip ⟨true⟩ c).map (valueDiff c))
      = some (some ["fn_call_width", "attr_fn_like_width", "array_width", "chain_width"]) := by
  decide +kernel

/-- `to_toml` prints exactly the options outside the hidden list, each once, in declaration order
(for a configuration holding the options of the table), and fails exactly when one of them holds an
integer above `i64::MAX`. -/
theorem print_config_lists_every_option (c : Config) (hkeys : c.map (·.1) = optionNames) :
    (∀ l, toToml c = some l →
      l.map (·.1) = optionNames.filter (fun k => !tomlHidden.contains k)) ∧
    (toToml c = none ↔ ∃ k ∈ optionNames, tomlHidden.contains k = false ∧
      ∃ n, (getE c k).val = .nat n ∧ i64Max < n) := by
  refine ⟨fun l hl => by rw [toToml_some c l hl, printed_keys, hkeys], ?_⟩
  unfold toToml
  simp only
  constructor
  · intro h
    split at h
    · cases h
    · next hall =>
      rw [List.all_eq_true] at hall
      obtain ⟨⟨k, v⟩, h⟩ := Classical.not_forall.1 hall
      obtain ⟨hkv, hbad⟩ := Classical.not_imp.1 h
      obtain ⟨hk, hh, hv⟩ := (mem_printed c hkeys k v).1 hkv
      cases v with
      | nat n => exact ⟨k, hk, hh, n, hv, by simpa using hbad⟩
      | bool b => simp at hbad
      | str s => simp at hbad
  · rintro ⟨k, hk, hh, n, hn, hlt⟩
    split
    · next hall =>
      have := List.all_eq_true.1 hall _ ((mem_printed c hkeys k (.nat n)).2 ⟨hk, hh, hn⟩)
      simp only [decide_eq_true_eq] at this
      omega
    · rfl

example : (defaultWithStyleEdition .e2015).map (·.1) = optionNames := rfl

/-! ## Release channel -/

/-- `is_stable_option_and_value`: everything is accepted on the nightly channel; on the stable
channel exactly the stable options with a stable variant. -/
theorem is_stable_option_and_value_spec (env : Env) (k : String) (v : Val) :
    isStableOptionAndValue env k v = (env.nightly || (stableOf k && variantStable k v)) := by
  obtain ⟨n⟩ := env
  unfold isStableOptionAndValue
  cases n <;> cases stableOf k <;> cases variantStable k v <;> rfl

/-- On the stable channel a config file cannot change an unstable option: whatever the file says,
every option marked unstable in the generated table keeps the entry of the default configuration
(value and provenance) after `fill_from_parsed_config` — including the successors
`imports_granularity` / `show_parse_errors` of the (unstable) aliases.  (`--config` is not gated:
`same_value_stable_channel_counterexample`.) -/
theorem stable_channel_gating (se : StyleEdition) (parsed : List (String × Val)) (k : String)
    (hk : stableOf k = false) :
    getE (fillFromParsedConfig ⟨false⟩ (defaultWithStyleEdition se) parsed) k =
      getE (defaultWithStyleEdition se) k := by
  have hwidth : ∀ w ∈ widthKeys, stableOf w = true := by decide +kernel
  have hkw : k ∉ widthKeys := fun h => by rw [hwidth k h] at hk; cases hk
  have hal : stableOf "merge_imports" = false ∧ stableOf "hide_parse_errors" = false ∧
      stableOf "fn_args_layout" = true ∧ stableOf "fn_params_layout" = true := by decide +kernel
  -- the store loop skips every unstable key
  have hfold : ∀ a, stableOf a = false →
      getE (optionNames.foldl (fillStore ⟨false⟩ parsed) (defaultWithStyleEdition se)) a =
        getE (defaultWithStyleEdition se) a := by
    intro a ha
    rw [getE_fillFold]
    split
    · unfold fillEntry
      cases parsed.lookup a with
      | none => rfl
      | some v =>
        have : isStableOptionAndValue ⟨false⟩ a v = false := by
          rw [is_stable_option_and_value_spec, ha]; rfl
        simp [this]
    · rfl
  -- so both unstable aliases stay unset, and their two setters are the identity
  have hws : ∀ a, stableOf a = false →
      wasSet (setHeuristics (optionNames.foldl (fillStore ⟨false⟩ parsed)
        (defaultWithStyleEdition se))) a = false := by
    intro a ha
    rw [wasSet_setHeuristics]
    unfold wasSet
    rw [hfold a ha]
    exact wasSet_default se a
  rw [fillFromParsedConfig_eq, setMergeImports_eq, setAlias_of_not_set _ _ _ _ (hws _ hal.1)]
  have hws2 : wasSet (setFnArgsLayout (setHeuristics (optionNames.foldl (fillStore ⟨false⟩ parsed)
      (defaultWithStyleEdition se)))) "hide_parse_errors" = false := by
    rw [setFnArgsLayout_eq, wasSet_setAlias]; exact hws _ hal.2.1
  rw [setHideParseErrors_eq, setAlias_of_not_set _ _ _ _ hws2]
  -- `set_fn_args_layout` touches only its pair, which is stable
  have hk1 : k ∉ ["fn_args_layout", "fn_params_layout"] := by
    intro h
    simp only [List.mem_cons, List.not_mem_nil, or_false] at h
    rcases h with rfl | rfl
    · rw [hal.2.2.1] at hk; cases hk
    · rw [hal.2.2.2] at hk; cases hk
  rw [local_setFnArgsLayout.1 _ k hk1, getE_setHeuristics_of_not_width _ _ hkw, hfold k hk]

example : stableOf "brace_style" = false ∧
    (getE (fillFromParsedConfig ⟨false⟩ (defaultWithStyleEdition .e2015)
      [("brace_style", .str "AlwaysNextLine"), ("merge_imports", .bool true), ("max_width", .nat 80)])
      "max_width").val = .nat 80 := by decide +kernel

/-- A quirk of the stable channel: `style_edition = "2027"` (an unstable variant) in a file is not
stored (`was_set` stays false) but still SELECTS the defaults — `to_parsed_config` looks at the
parsed value before `is_stable_option_and_value` is asked —, so the configuration gets the 2024
defaults (`style_edition = 2024`, `version = Two`). -/
theorem unstable_variant_still_selects_defaults :
    (fromToml ⟨false⟩ [("style_edition", .str "2027")] none none none).map
      (fun c => ((getE c "style_edition").val, wasSet c "style_edition", (getE c "version").val))
      = some (.str "2024", false, .str "Two") := by decide +kernel

end RF.Props.C14

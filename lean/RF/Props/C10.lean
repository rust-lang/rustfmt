import RF.Lemmas.Imports

/-!
# C10  Import rewriting preserves what is imported

Theorems about `RF.Model.Imports` (the model of `UseTree::normalize`, `flatten`,
`nest_trailing_self`, `share_prefix`, `merge`, `merge_rest`, `merge_use_trees_inner`,
`normalize_use_trees_with_granularity`, `group_imports` and the `use` arm of
`rewrite_reorderable_or_regroupable_items`).

Quantification: every tree / item / run of the model types, every comparison function `cmp` (the
order used for sorting is a parameter; nothing here depends on it), every granularity.

"The imports denoted" by a tree are `leaves t`: a list of (path, alias); for a run of items
`runLeaves` keys every leaf by (visibility, attributes).  **Set equality of two leaf lists is mutual
membership**: `SetEq a b := ∀ x, x ∈ a ↔ x ∈ b`.

Where the code violates the plain statement there is a `…_counterexample` (proved, concrete input)
and a `…_partial` with a decidable hypothesis (`Bool` functions of the model, exposed by the driver as
`imp.safe` / `imp.wf`; only `merge_inner_leaves_partial`, about nested trees, states its alias
hypothesis as the `Prop` `HypN` of `RF.Lemmas.Imports`).
-/
namespace RF.Props.C10
open RF.Imports RF.Lemmas.Imports

/-! ## concrete trees used by the counter-examples and the non-vacuity examples -/

private def n (c : Char) : List Char := [c]
private def use (p : List Seg) : Item := ⟨.mk p, some [], none, false⟩
private def i (c : Char) : Seg := .ident (n c) none
private def ia (c x : Char) : Seg := .ident (n c) (some (n x))

/-- `use a;` -/
def useA : Item := use [i 'a']
/-- `use a as x;` -/
def useAasX : Item := use [ia 'a' 'x']
/-- `use a::b;` -/
def useAB : Item := use [i 'a', i 'b']
/-- `use a::{self, b as c, d::*};` -/
def useNested : Item := use [i 'a', .list [.mk [.slf none], .mk [ia 'b' 'c'], .mk [i 'd', .glob]]]

/-- The denotation of `a::{self, b as c, d::*}` is `{(a,–), (a::b, c), (a::d::*,–)}`. -/
example : leaves useNested.tree =
    [⟨[.name (n 'a') none], none⟩, ⟨[.name (n 'a') none, .name (n 'b') none], some (n 'c')⟩,
     ⟨[.name (n 'a') none, .name (n 'd') none, .glob], none⟩] := by decide

/-! ## `normalize` -/

/-- `normalize` keeps the imports of a well-formed item (as the parser builds it) that is not a bare
`use self;` with a visibility and no attributes: the keyed leaf set is unchanged (`foo::{}` denotes
nothing, `foo::self` is `foo`, `foo::{bar}` is `foo::bar`, lists are sorted by any `cmp`), and
visibility, attributes and comment flag are untouched. -/
theorem normalize_leaves (cmp : Tree → Tree → Ordering) (it it' : Item)
    (h : normalizeItem cmp it = .ok it') (hwf : wfPath true it.tree.path = true)
    (hb : bareSelf it = false) :
    SetEq (itemLeaves it') (itemLeaves it) ∧ it'.vis = it.vis ∧ it'.attrs = it.attrs ∧
      it'.hasComment = it.hasComment := by
  obtain ⟨hp, hv, ha, hc⟩ := normalizeItem_normPath h
  refine ⟨?_, hv, ha, hc⟩
  simp only [itemLeaves, hv, ha]
  apply SetEq.map
  apply normPath_leaves cmp _ _ _ _ _ true [] hp hwf (fun _ => rfl)
  rintro ⟨ha, hv, hpath⟩
  simp only [bareSelf, hpath, Bool.and_true] at hb
  simp_all

example : wfPath true useNested.tree.path = true ∧ bareSelf useNested = false := by decide
example (cmp : Tree → Tree → Ordering) : ∃ it', normalizeItem cmp (use [i 'a', .list [.mk [i 'b']]]) = .ok it' :=
  ⟨use [i 'a', i 'b'], rfl⟩

/-- `normalize` does not panic on a well-formed non-empty item (and the model's fuel suffices). -/
theorem normalize_total (cmp : Tree → Tree → Ordering) (it : Item)
    (hwf : wfPath true it.tree.path = true) (hne : it.tree.path ≠ []) :
    ∃ it', normalizeItem cmp it = .ok it' :=
  normalizeItem_ok cmp it hwf hne

/-- … and panics (`expect("Empty use tree?")`) on the empty path. -/
theorem normalize_empty_panics (cmp : Tree → Tree → Ordering) (v a : Option (List Char)) (c : Bool) :
    normalizeItem cmp ⟨.mk [], v, a, c⟩ = .error .panic := rfl

/-- The excluded case is real: `use self;` (parsed, rejected later by rustc) is deleted. -/
theorem normalize_bare_self_counterexample (cmp : Tree → Tree → Ordering) :
    normalizeItem cmp (use [.slf none]) = .ok (use []) ∧
      itemLeaves (use [.slf none]) ≠ [] ∧ itemLeaves (use []) = [] :=
  ⟨rfl, by decide, by decide⟩

/-- `normalize` keeps a declaration well-formed (in particular every nested tree keeps a non-empty
path: the hypothesis of `flatten_leaves`), and a declaration without attributes comes out without
any empty list. -/
theorem normalize_wf (cmp : Tree → Tree → Ordering) (it it' : Item)
    (h : normalizeItem cmp it = .ok it') (hwf : wfPath true it.tree.path = true) :
    wfPath true it'.tree.path = true ∧ nePath it'.tree.path = true ∧
      (it.attrs = none → leafyPath it'.tree.path = true) := by
  obtain ⟨hp, _⟩ := normalizeItem_normPath h
  have hw := normPath_wf cmp _ _ _ _ _ true hp hwf
  exact ⟨hw, wfPath_nePath true _ hw, fun ha =>
    normPath_leafy cmp _ _ _ _ _ true (by rw [ha]; rfl) hp hwf⟩

/-- `use a::{b::{}, c};` is normalised to `use a::c;` and `use a::{b::{}, c::{}};` to nothing
(the element that imports nothing is removed and the tree normalised again). -/
theorem normalize_removes_nested_empty (cmp : Tree → Tree → Ordering) :
    normalizeItem cmp (use [i 'a', .list [.mk [i 'b', .list []], .mk [i 'c']]]) = .ok (use [i 'a', i 'c']) ∧
    normalizeItem cmp (use [i 'a', .list [.mk [i 'b', .list []], .mk [i 'c', .list []]]]) = .ok (use []) :=
  ⟨rfl, rfl⟩

/-! ## `flatten`, `nest_trailing_self` -/

/-- `flatten` keeps the imports, **as a list** (order and multiplicity), when every nested tree has
a non-empty path, for `Item` granularity or an item without attributes (other granularities drop
the attributes of the pieces: they are never called with attributes). -/
theorem flatten_leaves (g : Granularity) (it : Item) (h : nePath it.tree.path = true)
    (hg : g = .item ∨ it.attrs = none) : runLeaves (flattenItem g it) = itemLeaves it :=
  flattenItem_leaves g it h hg

example : nePath useNested.tree.path = true := by decide

/-- Every piece keeps the visibility. -/
theorem flatten_vis (g : Granularity) (it : Item) : ∀ p ∈ flattenItem g it, p.vis = it.vis := by
  intro i hi
  rcases flattenItem_cases g it with ⟨h, _⟩ | ⟨h, _⟩ <;> rw [h] at hi
  · rw [List.mem_singleton.1 hi]
  · obtain ⟨_, _, rfl⟩ := List.mem_map.1 hi
    rfl

/-- The hypothesis is needed: a nested tree with an empty path is flattened to an import of the
prefix itself: `use a::{<empty>, c}` becomes `use a; use a::c;` — an import nobody wrote.
`normalize` never returns such a tree (`normalize_removes_nested_empty`, `normalize_wf`), so no parsed
declaration reaches `flatten` in this shape. -/
theorem flatten_empty_nested_counterexample :
    let it := use [i 'a', .list [.mk [], .mk [i 'c']]]
    (⟨[], none, ⟨[.name (n 'a') none], none⟩⟩ : ItemLeaf) ∈ runLeaves (flattenItem .item it) ∧
    (⟨[], none, ⟨[.name (n 'a') none], none⟩⟩ : ItemLeaf) ∉ itemLeaves it := by decide

/-- `nest_trailing_self` (`a::self` to `a::{self}`) keeps the imports, as a list. -/
theorem nest_leaves (it : Item) : itemLeaves (nestItem it) = itemLeaves it :=
  nestItem_leaves it

/-! ## `merge` -/

/-- One `self.merge(other)` at top level (after `share_prefix` said yes): the merged item denotes
exactly the imports of both, provided both are well-formed and leafy and the two leaf lists satisfy
the safety relation of the mode (`safePair`: nothing for `Crate`; no one-segment alias twins for
`Module`; no aliased import that is a prefix of another for `One`). -/
theorem merge_leaves_partial (cmp : Tree → Tree → Ordering) (sp : SharedPrefix) (t f t' : Item)
    (h : mergeItem cmp sp t f = .ok t') (hs : sharePrefix sp t f = true)
    (hwt : wfItem t = true) (hwf : wfItem f = true) (hfa : f.attrs = none)
    (hp : pairwiseB (safePair sp) (itemLeaves t ++ itemLeaves f) = true) :
    SetEq (itemLeaves t') (itemLeaves t ++ itemLeaves f) :=
  -- `wfItem it` is `okPath true it.tree.path` by definition
  (mergeItem_spec cmp sp h hs hwt hwf hfa ((pairwiseB_iff _ _).1 hp)).2.2.setEq

example : sharePrefix .crate useAB (use [i 'a', i 'c']) = true ∧ wfItem useAB = true ∧
    pairwiseB (safePair .one) (itemLeaves useAB ++ itemLeaves (use [i 'a', i 'c'])) = true := by decide

/-- `merge_use_trees_inner` on nested trees under a prefix `pre`: the new list denotes the old list
plus the new tree.  (`HypN` is the `One` alias-stem condition on the leaves; trivial otherwise.) -/
theorem merge_inner_leaves_partial (cmp : Tree → Tree → Ordering) (sp : SharedPrefix)
    (trees trees' : List Tree) (u : Tree) (r : Bool) (pre : List PSeg)
    (h : mergeUseTreesInner cmp sp trees u = .ok trees')
    (ht : ∀ t ∈ trees, wfTree r t = true ∧ leafyTree t = true)
    (hu : wfTree r u = true ∧ leafyTree u = true) (hroot : r = true → pre = [])
    (hyp : HypN sp (leavesTrees pre trees ++ leavesTree pre u)) :
    SetEq (leavesTrees pre trees') (leavesTrees pre trees ++ leavesTree pre u) :=
  ((merge_specs cmp sp _).2 trees u trees' r pre h
    (fun t ht' => by simp [okTree, ht t ht']) (by simp [okTree, hu]) hroot hyp).2.2.setEq

/-- F6, at the nested level, for every order: in `One` mode `c as p` merged into `{c, d}` is dropped. -/
theorem alias_twin_nested_counterexample (cmp : Tree → Tree → Ordering) :
    mergeUseTreesInner cmp .one [.mk [i 'c'], .mk [i 'd']] (.mk [ia 'c' 'p']) =
      .ok [.mk [i 'c'], .mk [i 'd']] := rfl

/-! ## `normalize_use_trees_with_granularity` -/

/-- `Crate`, `Module`, `One`: under `safeRun sp` (the mergeable items — no attributes, no comment —
are well-formed and leafy, and every two import occurrences of them satisfy `safePair sp`) the keyed
leaf set of the run is unchanged, and the items with attributes or comments come out unchanged, in
their order.  For `Crate` `safePair` is `true`: no alias condition at all. -/
theorem granularity_leaves_partial (cmp : Tree → Tree → Ordering) (g : Granularity)
    (sp : SharedPrefix) (hg : spOf g = some sp) (its res : List Item)
    (h : withGranularity cmp g its = .ok res) (hs : safeRun sp its = true) :
    SetEq (runLeaves res) (runLeaves its) ∧ res.filter isProt = its.filter isProt :=
  granularity_leaves cmp g sp hg its res h hs

example : safeRun .one [useNested, use [i 'a', i 'e'], use [.slf none, i 'd']] = true := by decide
example : safeRun .module [useA, useAB, use [i 'a', ia 'b' 'x']] = true := by decide
example : safeRun .crate [useA, useAasX, useAB] = true := by decide

/-- F6: `use a; use a as x;` under `Module` and `One` loses `a as x`
(`merge_rest` returns `None` when both paths are exhausted by the alias-blind prefix). -/
theorem alias_twin_counterexample (cmp : Tree → Tree → Ordering) :
    withGranularity cmp .module [useA, useAasX] = .ok [useA] ∧
    withGranularity cmp .one [useA, useAasX] = .ok [useA] ∧
    (⟨[], none, ⟨[.name (n 'a') none], some (n 'x')⟩⟩ : ItemLeaf) ∈ runLeaves [useA, useAasX] ∧
    (⟨[], none, ⟨[.name (n 'a') none], some (n 'x')⟩⟩ : ItemLeaf) ∉ runLeaves [useA] :=
  ⟨rfl, rfl, by decide, by decide⟩

/-- `Crate` is not affected: the twins are kept. -/
theorem alias_twin_crate_ok (cmp : Tree → Tree → Ordering) :
    withGranularity cmp .crate [useA, useAasX] = .ok [useA, useAasX] := rfl

/-- A second defect of `One`: `use a::b; use a as x;`
becomes `use a as x::{self as x, b};` — the alias lands on a non-terminal segment (not Rust), and
neither original import is denoted any more.  (`use a as x; use a::b;` in that order is fine.) -/
theorem alias_stem_counterexample (cmp : Tree → Tree → Ordering) :
    withGranularity cmp .one [useAB, useAasX] =
      .ok [use [ia 'a' 'x', .list [.mk [.slf (some (n 'x'))], .mk [i 'b']]]] ∧
    (⟨[], none, ⟨[.name (n 'a') none], some (n 'x')⟩⟩ : ItemLeaf) ∉
      runLeaves [use [ia 'a' 'x', .list [.mk [.slf (some (n 'x'))], .mk [i 'b']]]] ∧
    (⟨[], none, ⟨[.name (n 'a') none, .name (n 'b') none], none⟩⟩ : ItemLeaf) ∉
      runLeaves [use [ia 'a' 'x', .list [.mk [.slf (some (n 'x'))], .mk [i 'b']]]] :=
  ⟨rfl, by decide, by decide⟩

/-- `Item`: the keyed leaf set is unchanged (nested paths non-empty, as the parser builds them):
flattening, nesting a trailing `self` and dropping repeated imports lose nothing. -/
theorem granularity_item_leaves (cmp : Tree → Tree → Ordering) (its res : List Item)
    (h : withGranularity cmp .item its = .ok res) (hne : neRun its = true) :
    SetEq (runLeaves res) (runLeaves its) := by
  cases h
  exact RF.Lemmas.Imports.granularity_item_leaves its hne

example : neRun [useNested, useAB, useA] = true := by decide

/-- Imports that differ in attributes or visibility are not repetitions: `#[x] use f::B; #[y] use f::B;` and
`pub use f::B; use f::B;` come out unchanged, while a plain repetition is dropped. -/
theorem granularity_item_keeps_keyed_twins (cmp : Tree → Tree → Ordering) :
    let a : Item := ⟨.mk [i 'f', i 'B'], some [], some (n 'x'), false⟩
    let b : Item := ⟨.mk [i 'f', i 'B'], some [], some (n 'y'), false⟩
    let p : Item := ⟨.mk [i 'f', i 'B'], some ['p', 'u', 'b'], none, false⟩
    let q : Item := ⟨.mk [i 'f', i 'B'], some [], none, false⟩
    withGranularity cmp .item [a, b] = .ok [a, b] ∧
    withGranularity cmp .item [p, q] = .ok [p, q] ∧
    withGranularity cmp .item [q, q] = .ok [q] :=
  ⟨rfl, rfl, rfl⟩

theorem granularity_preserve (cmp : Tree → Tree → Ordering) (its : List Item) :
    withGranularity cmp .preserve its = .ok its := rfl

/-- `normalize_use_trees_with_granularity` never panics, for any input and granularity: the index,
`unreachable!` and `len -= 1` sites of `merge_rest` are not reachable from it (and the model's
fuel always suffices). -/
theorem granularity_total (cmp : Tree → Tree → Ordering) (g : Granularity) (its : List Item) :
    ∃ res, withGranularity cmp g its = .ok res :=
  RF.Lemmas.Imports.granularity_total cmp g its

/-! ## visibility: `is_same_visibility` / `UseTree::same_visibility`, literally -/

private def s (str : String) : List Char := str.toList

/-- `is_same_visibility` holds exactly when the two visibilities denote the same thing
(`pub(crate)` and `pub(in crate)` do, `pub(in a)` and `pub(in a::b)` do not), for visibilities as the
parser builds them (a restricted path is non-empty and no name contains a colon). -/
theorem sameVisibility_iff_eq (a b : Vis) (ha : visWF a = true) (hb : visWF b = true) :
    isSameVisibility a b = true ↔ visDen a = visDen b := by
  cases a <;> cases b <;> simp [isSameVisibility, visDen]
  rename_i p _ q _
  simp only [visWF, Bool.and_eq_true, Bool.not_eq_true', List.isEmpty_eq_false_iff] at ha hb
  constructor
  · exact pathToString_inj p q ha.1 hb.1 ha.2 hb.2
  · intro h; rw [h]

example : visWF (.vres [s "crate", s "engine"] false) = true ∧
    isSameVisibility (.vres [s "crate"] true) (.vres [s "crate"] false) = true ∧
    isSameVisibility (.vres [s "crate"] true) (.vres [s "crate", s "engine"] false) = false ∧
    isSameVisibility (.vres [s "crate", s "engine"] false) (.vres [s "crate", s "engine", s "planner"] false) = false ∧
    isSameVisibility (.vres [s "super"] true) (.vres [s "super", s "x"] false) = false ∧
    isSameVisibility .vpub (.vres [s "crate"] true) = false := by decide

/-- The guard is needed: names with colons (no parser builds them) collide under `path_to_string`. -/
theorem sameVisibility_colon_counterexample :
    isSameVisibility (.vres [s "a::b"] false) (.vres [s "a", s "b"] false) = true ∧
    visDen (.vres [s "a::b"] false) ≠ visDen (.vres [s "a", s "b"] false) := by decide

/-- The model of the import algebra keeps, of a visibility, the key `visKey`; comparing keys (what
`sharePrefix` does, `sameVis`) IS `UseTree::same_visibility` with `is_same_visibility` inside, for
every pair of optional visibilities, without hypothesis. -/
theorem sameVisibility_is_key_equality (a b : Option Vis) :
    sameVisibility a b = sameVis (a.map visKey) (b.map visKey) ∧
    (∀ x y : Vis, isSameVisibility x y = true ↔ visKey x = visKey y) :=
  ⟨sameVisibility_eq_sameVis a b, isSameVisibility_iff_key⟩

/-! ## no merging across attributes, comments, visibility -/

/-- (1) `share_prefix` is false when `self` has attributes or a comment, and across differing
visibility (`None` and inherited count as the same); (2) `merge` changes only the path;
(3) the merging granularities return the items with attributes or comments unchanged and in order. -/
theorem no_merge_across (cmp : Tree → Tree → Ordering) :
    (∀ sp a b, sharePrefix sp a b = true →
      a.attrs = none ∧ a.hasComment = false ∧ a.vis.getD [] = b.vis.getD []) ∧
    (∀ sp a b a', mergeItem cmp sp a b = .ok a' →
      a'.vis = a.vis ∧ a'.attrs = a.attrs ∧ a'.hasComment = a.hasComment) ∧
    (∀ g sp its res, spOf g = some sp → withGranularity cmp g its = .ok res →
      res.filter isProt = its.filter isProt) := by
  refine ⟨?_, ?_, ?_⟩
  · intro sp a b h
    obtain ⟨h1, h2, h3, _⟩ := sharePrefix_true h
    exact ⟨h1, h2, sameVis_key h3⟩
  · intro sp a b a' h; exact mergeItem_fields h
  · intro g sp its res hg h; exact withGranularity_prot cmp hg h

/-! ## `group_imports` -/

/-- `group_imports` returns exactly three groups (std, external, local); their concatenation is a
permutation of the input (nothing dropped or duplicated), every item is in the group of its class,
and each group keeps the input order. -/
theorem group_is_partition (ts : List Item) :
    (groupImports ts).length = 3 ∧ (groupImports ts).flatten.Perm ts ∧
    (∀ t ∈ (groupImports ts)[0]!, classify t.tree = .std) ∧
    (∀ t ∈ (groupImports ts)[1]!, classify t.tree = .external) ∧
    (∀ t ∈ (groupImports ts)[2]!, classify t.tree = .localG) ∧
    (∀ g ∈ groupImports ts, g.Sublist ts) :=
  RF.Lemmas.Imports.group_is_partition ts

/-! ## the whole `use` arm -/

/-- Normalise every item, apply the granularity, regroup, sort (any `cmp`), drop empty groups:
the keyed leaf set of the output is that of the input, provided the input items are well-formed
(`normalizable`) and the *normalised* items satisfy the hypothesis of the granularity (`safeFor`). -/
theorem run_leaves_partial (cmp : Tree → Tree → Ordering) (g : Granularity) (gt : GroupTactic)
    (reorder : Bool) (items normalized : List Item) (groups : List (List Item))
    (hn : mapE (normalizeItem cmp) items = .ok normalized)
    (h : rewriteUseRun cmp g gt reorder items = .ok groups)
    (hwf : normalizable items = true) (hs : safeFor g normalized = true) :
    SetEq (runLeaves groups.flatten) (runLeaves items) := by
  obtain ⟨merged, hm, hp⟩ := run_perm cmp g gt reorder items normalized groups hn h
  refine ((SetEq.of_perm (runLeaves_perm hp)).trans (granularity_safe cmp g normalized merged hm hs)).trans
    (mapE_flatMap_setEq _ _ _ _ _ hn fun it hit it' hit' => ?_)
  simp only [normalizable, List.all_eq_true, Bool.and_eq_true, Bool.not_eq_true'] at hwf
  exact (normalize_leaves cmp it it' hit' (hwf it hit).1 (hwf it hit).2).1

example : normalizable [useNested, useAB] = true ∧ safeFor .crate [useNested, useAB] = true := by decide

/-- The groups that are rendered are, put end to end, a permutation of what the granularity step
returned: regrouping, sorting and dropping empty groups neither lose nor repeat a declaration. -/
theorem run_groups_permutation (cmp : Tree → Tree → Ordering) (g : Granularity) (gt : GroupTactic)
    (reorder : Bool) (items normalized : List Item) (groups : List (List Item))
    (hn : mapE (normalizeItem cmp) items = .ok normalized)
    (h : rewriteUseRun cmp g gt reorder items = .ok groups) :
    ∃ merged, withGranularity cmp g normalized = .ok merged ∧ groups.flatten.Perm merged :=
  run_perm cmp g gt reorder items normalized groups hn h

/-- No merging across attributes or attached comments, for the whole arm and without any
hypothesis on the declarations: under `Crate`, `Module` and `One` every declaration that has
attributes or a comment (anywhere in it) is rendered exactly as it was normalised — same path, same
visibility, same attributes — and no other declaration acquires attributes or a comment. -/
theorem run_no_merge_across (cmp : Tree → Tree → Ordering) (g : Granularity) (sp : SharedPrefix)
    (hg : spOf g = some sp) (gt : GroupTactic) (reorder : Bool)
    (items normalized : List Item) (groups : List (List Item))
    (hn : mapE (normalizeItem cmp) items = .ok normalized)
    (h : rewriteUseRun cmp g gt reorder items = .ok groups) :
    (groups.flatten.filter isProt).Perm (normalized.filter isProt) := by
  obtain ⟨merged, hm, hp⟩ := run_perm cmp g gt reorder items normalized groups hn h
  rw [← withGranularity_prot cmp hg hm]
  exact hp.filter _

/-- non-vacuity: `#[x] use a::b; use a::c; use a::d; // c` under `Crate`: the two plain
declarations… are one, the attributed one and the commented one stand as they were. -/
example (cmp : Tree → Tree → Ordering) :
    let a : Item := ⟨.mk [i 'a', i 'b'], some [], some (n 'x'), false⟩
    let c : Item := ⟨.mk [i 'a', i 'c'], some [], none, true⟩
    withGranularity cmp .crate [a, useAB, c, use [i 'a', i 'd']] =
      .ok [a, use [i 'a', .list (RF.Sort.stableSort cmp [.mk [i 'b'], .mk [i 'd']])], c] := rfl

/-- The arm never panics on declarations as the parser builds them (well-formed, non-empty paths),
whatever the granularity, grouping and reordering. -/
theorem run_total (cmp : Tree → Tree → Ordering) (g : Granularity) (gt : GroupTactic)
    (reorder : Bool) (items : List Item)
    (hwf : ∀ it ∈ items, wfPath true it.tree.path = true ∧ it.tree.path ≠ []) :
    ∃ groups, rewriteUseRun cmp g gt reorder items = .ok groups :=
  RF.Lemmas.Imports.run_total cmp g gt reorder items hwf

example : ∀ it ∈ [useNested, useAB, useAasX], wfPath true it.tree.path = true ∧ it.tree.path ≠ [] := by
  decide

/-- The whole arm under `Preserve`, `Item` and `Crate` keeps the keyed leaf set of every run of
declarations as the parser builds them (`normalizable`: well-formed paths, no bare `use self;`):
no hypothesis on aliases, duplicates, visibilities, attributes or comments.  (For `Module` and `One`
see `run_leaves_partial`: the alias conditions are needed, the counter-examples are above.) -/
theorem run_leaves_preserve_item_crate (cmp : Tree → Tree → Ordering) (g : Granularity)
    (hg : g = .preserve ∨ g = .item ∨ g = .crate) (gt : GroupTactic) (reorder : Bool)
    (items : List Item) (groups : List (List Item))
    (h : rewriteUseRun cmp g gt reorder items = .ok groups) (hwf : normalizable items = true) :
    SetEq (runLeaves groups.flatten) (runLeaves items) := by
  cases hn : mapE (normalizeItem cmp) items with
  | error e => simp [rewriteUseRun, hn] at h
  | ok normalized =>
    obtain ⟨h1, h2, h3⟩ := normalized_safe cmp items normalized hn hwf
    refine run_leaves_partial cmp g gt reorder items normalized groups hn h hwf ?_
    rcases hg with rfl | rfl | rfl
    · exact h1
    · exact h2
    · exact h3

example : normalizable [useNested, useA, useAasX, use [i 'a', .list [.mk [i 'b', .list []], .mk [i 'c']]]] = true := by
  decide

end RF.Props.C10

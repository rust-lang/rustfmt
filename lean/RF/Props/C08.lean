import RF.Lemmas.Newline
import RF.Lemmas.Shape

/-!
# C08  Emitted text obeys the whitespace and newline discipline

Theorems about `RF.Model.Newline` (the model of `newline_style.rs`, of the trailing-newline truncation
in `format_lines`, of `push_vertical_spaces`, `push_str` and `remove_trailing_white_spaces`) and about
`Indent::to_string*` of `RF.Model.Shape`.  Quantification: every text (`List Char`), every buffer state,
every request, every pair of bounds, every `Indent`, every `tab_spaces ≥ 1`.

Statements of the design that are false of the code are kept as `_partial` with the exact hypothesis,
next to a `_counterexample`:
  * `unix_no_crlf_partial`, `unix_only_terminators_partial`, `unix_idempotent_partial` (`\r\r\n`, F5b);
  * `exactly_one_final_newline_partial` (`\r` after a `\n` in the trailing run of the buffer);
  * `clamp_bounds` needs `lower ≤ upper` (F17);
  * `removeTrailingWhitespace_idem_partial` (the `CharClasses` char-literal look-ahead);
  * `processMissingCode_strips_partial` (runs of two or more trailing blanks are not stripped).
-/
namespace RF.Props.C08
open RF.Newline RF.Shape

/-- In the output of the Windows converter every `\n` has a `\r` immediately before it. -/
theorem windows_every_lf_has_cr (t pre suf : List Char)
    (h : convertToWindows t = pre ++ '\n' :: suf) : pre.getLast? = some '\r' := by
  have h1 := (RF.Lemmas.Newline.everyLfAfterCr_iff _ none).mp
    (RF.Lemmas.Newline.everyLfAfterCr_windows t none) pre suf h
  rwa [RF.Lemmas.Newline.prevOf_none] at h1

example : convertToWindows ['a', '\n', 'b', '\r', '\n'] = ['a', '\r'] ++ '\n' :: ['b', '\r', '\n'] := by
  decide

/-- … stated with the oracle the harness runs on emitted text. -/
theorem windows_style_ok (t : List Char) : styleOk .windows (convertToWindows t) = true := by
  rw [RF.Lemmas.Newline.styleOk_windows]; exact RF.Lemmas.Newline.everyLfAfterCr_windows t none

/-- The oracle `styleOk .windows` means what it should. -/
theorem styleOk_windows_iff (t : List Char) :
    styleOk .windows t = true ↔ ∀ pre suf, t = pre ++ '\n' :: suf → pre.getLast? = some '\r' := by
  rw [RF.Lemmas.Newline.styleOk_windows, RF.Lemmas.Newline.everyLfAfterCr_iff]
  simp only [RF.Lemmas.Newline.prevOf_none]

/-- The Windows converter changes nothing but terminators: the line contents (text between
terminators, a terminator being `\n` or `\r\n`) and the number of lines are the same. -/
theorem windows_only_terminators (t : List Char) : lines (convertToWindows t) = lines t :=
  RF.Lemmas.Newline.linesGo_windows t [] (by simp)

theorem windows_idempotent (t : List Char) :
    convertToWindows (convertToWindows t) = convertToWindows t :=
  RF.Lemmas.Newline.windows_idempotent t

/-- The output of the Unix converter contains `\r\n` exactly when the input contains `\r\r\n`. -/
theorem unix_crlf_iff (t : List Char) : hasCrLf (convertToUnix t) = hasCrCrLf t :=
  RF.Lemmas.Newline.hasCrLf_unix t

/-- In particular no CRLF is left when the input has no `\r\r\n`. -/
theorem unix_no_crlf_partial (t : List Char) (h : ¬ ∃ a b, t = a ++ '\r' :: '\r' :: '\n' :: b) :
    ¬ ∃ pre suf, convertToUnix t = pre ++ '\r' :: '\n' :: suf := by
  rw [← RF.Lemmas.Newline.hasCrLf_iff, unix_crlf_iff, RF.Lemmas.Newline.hasCrCrLf_iff]
  exact h

/-- non-vacuity: a mixed text without `\r\r\n` -/
example : ¬ ∃ a b, ['a', '\r', '\n', 'b', '\n', '\r', 'c'] = a ++ '\r' :: '\r' :: '\n' :: b := by
  rw [← RF.Lemmas.Newline.hasCrCrLf_iff]; decide

/-- `str::replace` is a single pass: `a\r\r\n` becomes `a\r\n`, which still holds a CRLF. -/
theorem unix_crlf_counterexample :
    ∃ t pre suf, convertToUnix t = pre ++ '\r' :: '\n' :: suf :=
  ⟨['a', '\r', '\r', '\n'], ['a'], [], by decide⟩

theorem unix_style_ok_partial (t : List Char) (h : hasCrCrLf t = false) :
    styleOk .unix (convertToUnix t) = true := by
  rw [RF.Lemmas.Newline.styleOk_unix, unix_crlf_iff, h]; rfl

/-- The oracle `styleOk .unix` means "no `\r\n`". -/
theorem styleOk_unix_iff (t : List Char) :
    styleOk .unix t = true ↔ ¬ ∃ pre suf, t = pre ++ '\r' :: '\n' :: suf := by
  rw [RF.Lemmas.Newline.styleOk_unix, ← RF.Lemmas.Newline.hasCrLf_iff]; simp

/-- Without `\r\r\n` in the input the Unix converter changes nothing but terminators. -/
theorem unix_only_terminators_partial (t : List Char) (h : hasCrCrLf t = false) :
    lines (convertToUnix t) = lines t :=
  RF.Lemmas.Newline.linesGo_unix t [] (by simp) h

example : hasCrCrLf ['a', '\r', '\n', 'b', '\n', '\r', 'c'] = false := by decide

/-- With `\r\r\n` the content of a line changes: `a\r` becomes `a`. -/
theorem unix_only_terminators_counterexample :
    ∃ t, lines (convertToUnix t) ≠ lines t :=
  ⟨['a', '\r', '\r', '\n'], by decide⟩

/-- Without `\r\r\n` in the input, converting twice is converting once. -/
theorem unix_idempotent_partial (t : List Char) (h : hasCrCrLf t = false) :
    convertToUnix (convertToUnix t) = convertToUnix t :=
  RF.Lemmas.Newline.unix_fix _ (by rw [unix_crlf_iff, h])

theorem unix_idempotent_counterexample :
    ∃ t, convertToUnix (convertToUnix t) ≠ convertToUnix t :=
  ⟨['a', '\r', '\r', '\n'], by decide⟩

/-- `Auto` follows the first terminator of the text it is given: Windows iff the first `\n` has a `\r`
immediately before it. -/
theorem auto_follows_first_terminator (pre suf : List Char) (h : '\n' ∉ pre) :
    autoDetect (pre ++ '\n' :: suf) =
      if pre.getLast? = some '\r' then Effective.windows else Effective.unix :=
  RF.Lemmas.Newline.autoDetect_first pre suf h

example : '\n' ∉ ['a', '\r'] := by decide

/-- A text without `\n` gets the native style (Unix on the platform modelled). -/
theorem auto_no_terminator_native (t : List Char) (h : '\n' ∉ t) : autoDetect t = .unix :=
  RF.Lemmas.Newline.autoDetect_no_lf t h

example : '\n' ∉ ['a', '\r', 'b'] := by decide

/-- `apply_newline_style` is one of the two converters, chosen by the style (and, for `Auto`, by the
raw input only). -/
theorem apply_is_converter (style : Style) (formatted raw : List Char) :
    applyNewlineStyle style formatted raw =
      match effective style raw with
      | .windows => convertToWindows formatted
      | .unix => convertToUnix formatted := rfl

/-- `append_newline` followed by the truncation never panics (no `usize` underflow, `truncate` always on
a char boundary). -/
theorem finalize_never_panics (b : List Char) : (finalize b).isSome = true :=
  RF.Lemmas.Newline.formatLinesTruncate_isSome _

/-- For a buffer without `\r` that holds at least one char other than `\n`, the text after
`append_newline` and truncation is the buffer with its trailing `\n`s replaced by exactly one. -/
theorem exactly_one_final_newline (b : List Char) (hcr : '\r' ∉ b) (hne : ∃ x ∈ b, x ≠ '\n') :
    ∃ p k, b = p ++ List.replicate k '\n' ∧ p ≠ [] ∧ p.getLast? ≠ some '\n' ∧
      finalize b = some (p ++ ['\n']) :=
  RF.Lemmas.Newline.finalize_no_cr b hcr hne

example : '\r' ∉ ['a', '\n', '\n', '\n'] ∧ ∃ x ∈ ['a', '\n', '\n', '\n'], x ≠ '\n' := by decide

/-- General form: when the trailing run of the buffer is `\r* \n*` (after a part that is empty or ends in
a char other than `\n`, `\r`), the result is that part, the `\r`s, and exactly one `\n`. -/
theorem exactly_one_final_newline_partial (p : List Char) (c k : Nat)
    (hp : ∀ x, p.getLast? = some x → x ≠ '\n' ∧ x ≠ '\r') :
    finalize (p ++ List.replicate c '\r' ++ List.replicate k '\n') =
      some (p ++ List.replicate c '\r' ++ ['\n']) :=
  RF.Lemmas.Newline.finalize_cr_lf p c k hp

example : ∀ x, ['a', ';'].getLast? = some x → x ≠ '\n' ∧ x ≠ '\r' := by simp

/-- `newline_count` skips `\r` but the truncation removes bytes: a buffer ending in `\n\r` loses the
appended `\n` and ends without terminator; one ending in `\n\n\r` ends in two `\n`. -/
theorem exactly_one_final_newline_counterexample :
    finalize ['a', '\n', '\r'] = some ['a', '\n', '\r'] ∧
    finalize ['a', '\n', '\n', '\r'] = some ['a', '\n', '\n'] := by
  constructor <;> decide

/-- What the truncation does in general (`p` empty or ending in ordinary text, `r` made of `\n`/`\r`):
it removes `count('\n', r) - 1` chars from the end. -/
theorem truncate_exact (p r : List Char) (hp : ∀ x, p.getLast? = some x → x ≠ '\n' ∧ x ≠ '\r')
    (hr : ∀ c ∈ r, c = '\n' ∨ c = '\r') :
    formatLinesTruncate (p ++ r) = some (p ++ r.take (r.length - (r.count '\n' - 1))) :=
  RF.Lemmas.Newline.formatLinesTruncate_decomp p r hp hr

example : (∀ x, ['a'].getLast? = some x → x ≠ '\n' ∧ x ≠ '\r') ∧
    (∀ c ∈ ['\n', '\r', '\n'], c = '\n' ∨ c = '\r') := by decide

/-- Soundness of the oracle `finalOk` run on emitted text. -/
theorem finalOk_sound (t : List Char) (h : finalOk t = true) :
    ∃ body, (t = body ++ ['\n'] ∨ t = body ++ ['\r', '\n']) ∧ body ≠ [] ∧
      body.getLast? ≠ some '\n' ∧ startsWithBlankLine t = false := by
  unfold finalOk at h
  cases hs : stripFinalTerminator t with
  | none => simp [hs] at h
  | some body =>
    simp only [hs, Bool.and_eq_true, Bool.not_eq_true', bne_iff_ne, ne_eq] at h
    exact ⟨body, RF.Lemmas.Newline.stripFinalTerminator_some t body hs, by simpa using h.1.1,
      h.1.2, h.2⟩

example : finalOk ['f', 'n', '\r', '\n'] = true ∧ finalOk ['a', '\n', '\n'] = false ∧
    finalOk [' ', '\n', 'a', '\n'] = false := by decide

/-- With `off` newlines at the end of the buffer and any request `n` (0 included), the run of `\n`
after `push_vertical_spaces` has length in `[lower+1, max off (upper+1)]`, provided `lower ≤ upper`. -/
theorem clamp_bounds (off n lower upper : Nat) (h : lower ≤ upper) :
    lower + 1 ≤ clampBlank off n lower upper ∧
      clampBlank off n lower upper ≤ max off (upper + 1) :=
  RF.Lemmas.Newline.clamp_bounds off n lower upper h

/-- default bounds (0, 1): one newline in the buffer, five requested, one more is pushed -/
example : (0 : Nat) ≤ 1 ∧ clampBlank 1 5 0 1 = 2 ∧ pushVerticalSpaces 1 5 0 1 = 1 := by decide

theorem clamp_exact (off n lower upper : Nat) (h : lower ≤ upper) :
    clampBlank off n lower upper = max off (max (lower + 1) (min (off + n) (upper + 1))) :=
  RF.Lemmas.Newline.clamp_eq off n lower upper h

/-- `blank_lines_lower_bound = 2`, `blank_lines_upper_bound = 1` (F17): a request of one newline yields
three (two blank lines, above the upper bound); a request of three yields two (one blank line, below the
lower bound). -/
theorem clamp_lower_gt_upper_counterexample :
    ¬ (clampBlank 0 1 2 1 ≤ max 0 (1 + 1)) ∧ ¬ (2 + 1 ≤ clampBlank 0 3 2 1) := by
  decide

/-- `clampBlank` really is the run at the end of the visitor's buffer after the call. -/
theorem clampBlank_is_buffer_run (v : Visitor) (n lower upper : Nat) :
    trailingNewlines (v.pushVerticalSpaces n lower upper).buffer =
      clampBlank (trailingNewlines v.buffer) n lower upper := by
  simp [Visitor.pushVerticalSpaces, Visitor.pushStr, RF.Lemmas.Newline.trailingNewlines_push,
    clampBlank]

/-- Clamping is idempotent: asking again for nothing adds nothing. -/
theorem clampBlank_idem (off n lower upper : Nat) (h : lower ≤ upper) :
    clampBlank (clampBlank off n lower upper) 0 lower upper = clampBlank off n lower upper := by
  have hb := clamp_bounds off n lower upper h
  rw [clamp_exact _ 0 lower upper h]; omega

/-- … and a gap that was produced by the clamp (from an empty run) is reproduced when it is the
request of a second formatting pass. -/
theorem clampBlank_reformat (n lower upper : Nat) (h : lower ≤ upper) :
    clampBlank 0 (clampBlank 0 n lower upper) lower upper = clampBlank 0 n lower upper := by
  have hb := clamp_bounds 0 n lower upper h
  rw [clamp_exact 0 _ lower upper h]; omega

/-- With contradictory bounds the clamp is not idempotent. -/
theorem clampBlank_idem_counterexample :
    clampBlank (clampBlank 0 3 2 1) 0 2 1 ≠ clampBlank 0 3 2 1 := by decide

/-- `push_str` keeps `line_number` equal to the number of `\n` in the buffer (the `debug_assert` of
`format_file`, formatting.rs:224-229). -/
theorem line_number_invariant (v : Visitor) (s : List Char)
    (h : v.lineNumber = countNewlines v.buffer) :
    (v.pushStr s).lineNumber = countNewlines (v.pushStr s).buffer := by
  simp [Visitor.pushStr, countNewlines, h] at *

example : (Visitor.mk [] 0).lineNumber = countNewlines (Visitor.mk [] 0).buffer := rfl

/-- One line of copied code through the loop of `process_missing_code` (line inside `file_lines`):
`body` is the line up to its last non-blank, `ws` its trailing blanks.  What is pushed is the line with
at most one blank removed — the last one, and only when the number of trailing blanks is odd — because
a blank that follows a blank clears `last_wspace` (missed_spans.rs:352-356). -/
theorem processMissingCode_line (pre body ws post rest : List Char) (cl : Nat → Bool) (l : Nat)
    (out : List Char) (hb : '\n' ∉ body)
    (hbl : ∀ x, body.getLast? = some x → isWhitespace x = false)
    (hws : ∀ c ∈ ws, isWhitespace c = true ∧ c ≠ '\n') (hcl : cl l = true) :
    pmcLoop (pre ++ body ++ ws ++ '\n' :: post) cl pre.length (body ++ ws ++ '\n' :: rest)
        ⟨pre.length, none, l⟩ out =
      pmcLoop (pre ++ body ++ ws ++ '\n' :: post) cl (pre.length + body.length + ws.length + 1) rest
        ⟨pre.length + body.length + ws.length + 1, none, l + 1⟩
        (out ++ body ++ ws.take (ws.length - ws.length % 2) ++ ['\n']) := by
  have hbody : RF.Lemmas.Newline.lwAfter none pre.length body = none := by
    by_cases hne : body = []
    · subst hne; rfl
    · exact RF.Lemmas.Newline.lwAfter_text _ _ _ hne hbl
  generalize hsn : pre ++ body ++ ws ++ '\n' :: post = sn
  rw [List.append_assoc body, RF.Lemmas.Newline.pmcLoop_noLf _ _ body _ _ _ _ hb,
    RF.Lemmas.Newline.pmcLoop_noLf _ _ ws _ _ _ _ fun e => (hws _ e).2 rfl]
  simp only [hbody, RF.Lemmas.Newline.lwAfter_blanks ws _ fun c hc => (hws c hc).1, pmcLoop, if_true, hcl,
    Bool.not_true, Bool.false_eq_true, if_false]
  by_cases hodd : ws.length % 2 = 1
  · -- the slice stops before the last blank
    have e := List.take_append_drop (ws.length - 1) ws
    have hs : sn = pre ++ (body ++ ws.take (ws.length - 1)) ++
        (ws.drop (ws.length - 1) ++ '\n' :: post) := by
      rw [← hsn]
      conv => lhs; rw [← e]
      simp only [List.append_assoc]
    have hsl := RF.Lemmas.Newline.sliceExcl_mid hs (b := pre.length + body.length + ws.length - 1)
      (by rw [List.length_append, List.length_take]; omega)
    simp only [hodd, if_true, hsl, List.append_assoc]
  · have hs : sn = pre ++ (body ++ ws ++ ['\n']) ++ post := by simp [← hsn]
    have hsl := RF.Lemmas.Newline.sliceExcl_mid hs (b := pre.length + body.length + ws.length + 1)
      (by simp only [List.length_append, List.length_singleton]; omega)
    have hev : ws.length % 2 = 0 := by omega
    simp only [hev, Nat.zero_ne_one, if_false, hsl, Nat.sub_zero, List.take_length, List.append_assoc]

/-- Hence of at most one trailing blank nothing is kept (for two and three see the counterexample). -/
theorem processMissingCode_strips_partial (ws : List Char) (h : ws.length ≤ 1) :
    ws.take (ws.length - ws.length % 2) = [] := by
  have : ws.length - ws.length % 2 = 0 := by omega
  rw [this, List.take_zero]

example : ∀ c ∈ [' '], isWhitespace c = true ∧ c ≠ '\n' := by decide

/-- Two trailing blanks survive; of three, two survive (observed on the built binary with a block
comment cut by `--file-lines`: `b  ` stays `b  `, `b ` becomes `b`). -/
theorem processMissingCode_strip_counterexample :
    (processMissingCode ['b', ' ', ' ', '\n', 'c'] 0 5 (fun _ => true) [] ⟨0, none, 1⟩).map (·.1) =
      some ['b', ' ', ' ', '\n', 'c'] ∧
    (processMissingCode ['b', ' ', ' ', ' ', '\n', 'c'] 0 6 (fun _ => true) [] ⟨0, none, 1⟩).map (·.1) =
      some ['b', ' ', ' ', '\n', 'c'] ∧
    (processMissingCode ['b', ' ', '\n', 'c'] 0 4 (fun _ => true) [] ⟨0, none, 1⟩).map (·.1) =
      some ['b', '\n', 'c'] := by
  refine ⟨?_, ?_, ?_⟩ <;> decide

/-- `Indent::to_string` is `block_indent / tab_spaces` tabs followed by `alignment` spaces under
`hard_tabs` (a remainder `block_indent % tab_spaces` is dropped, not turned into spaces), and
`block_indent + alignment` spaces otherwise — for every width, i.e. the static-buffer path (≤ 80) and
the allocating path agree. -/
theorem indent_shape (i : Indent) (c : Config) (hts : 1 ≤ c.tab_spaces) :
    i.to_string c = .ok
      (if c.hard_tabs then
        List.replicate (i.block_indent / c.tab_spaces) '\t' ++ List.replicate i.alignment ' '
       else List.replicate (i.block_indent + i.alignment) ' ') :=
  RF.Lemmas.Shape.to_string_eq i c (fun _ => hts)

example : 1 ≤ (Config.mk true 4 100 80).tab_spaces := by decide

/-- The same with the leading `\n` (`Indent::to_string_with_newline`, `Shape::to_string_with_newline`,
the latter with `offset` in place of `alignment`). -/
theorem indent_shape_with_newline (i : Indent) (s : Shape) (c : Config) (hts : 1 ≤ c.tab_spaces) :
    i.to_string_with_newline c = .ok ('\n' :: RF.Lemmas.Shape.indentChars i c) ∧
    s.to_string_with_newline c =
      .ok ('\n' :: RF.Lemmas.Shape.indentChars { s.indent with alignment := s.offset } c) :=
  ⟨RF.Lemmas.Shape.to_string_with_newline_eq i c (fun _ => hts),
   RF.Lemmas.Shape.shape_to_string_with_newline_eq s c (fun _ => hts)⟩

/-- The alphabet claim: only spaces without hard tabs; tabs then spaces with. -/
theorem indent_alphabet (i : Indent) (c : Config) (hts : 1 ≤ c.tab_spaces) :
    ∃ nt ns, i.to_string c = .ok (List.replicate nt '\t' ++ List.replicate ns ' ') ∧
      (c.hard_tabs = false → nt = 0) := by
  rw [indent_shape i c hts]
  cases h : c.hard_tabs
  · exact ⟨0, i.block_indent + i.alignment, by simp, fun _ => rfl⟩
  · exact ⟨i.block_indent / c.tab_spaces, i.alignment, by simp, by simp⟩

/-- Under `hard_tabs` the emitted indentation, with a tab counted as `tab_spaces` columns, is as wide as
`Indent::width` says only when `block_indent` is a multiple of `tab_spaces` (the invariant the comment
on the field asks for): the remainder is lost. -/
theorem indent_visual_width (i : Indent) (c : Config) :
    c.tab_spaces * (i.block_indent / c.tab_spaces) + i.alignment + i.block_indent % c.tab_spaces =
      i.width := by
  have := Nat.div_add_mod i.block_indent c.tab_spaces
  simp only [Indent.width]; omega

/-- width 81 and 200 take the allocating path -/
example : (Indent.mk 81 0).to_string ⟨false, 4, 100, 80⟩ = .ok (List.replicate 81 ' ') := by decide
example : (Indent.mk 8 3).to_string ⟨true, 4, 100, 80⟩ = .ok ['\t', '\t', ' ', ' ', ' '] := by decide

/-- `CharClasses`, hence `remove_trailing_white_spaces`, never hits one of its assertions. -/
theorem removeTrailingWhitespace_never_panics (t : List Char) :
    (removeTrailingWhiteSpaces t).isSome = true := by
  simp [removeTrailingWhiteSpaces, RF.Lemmas.Newline.classify_isSome]

/-- The loop is idempotent on a fixed classification of the chars. -/
theorem removeTrailingWhitespace_idem (ks : List (CC.Kind × Char)) :
    rtwTagged [] (rtwTagged [] ks) = rtwTagged [] ks := by
  simpa using RF.Lemmas.Newline.rtwTagged_compose ks [] [] RF.Lemmas.Newline.WsOnly_nil

/-- The whole function is idempotent on texts whose classification survives the removal
(`rtwStable`, decidable, exposed as `nl.oracle.rtwstable`). -/
theorem removeTrailingWhitespace_idem_partial (t out : List Char) (hs : rtwStable t = true)
    (h : removeTrailingWhiteSpaces t = some out) : removeTrailingWhiteSpaces out = some out := by
  unfold rtwStable at hs
  unfold removeTrailingWhiteSpaces at h ⊢
  cases hc : CC.classify t with
  | none => simp [hc] at h
  | some ks =>
    simp only [hc, decide_eq_true_eq] at hs
    simp only [hc, Option.map_some, Option.some.injEq] at h
    subst h
    rw [hs]
    simp [removeTrailingWhitespace_idem]

example : rtwStable ['a', ' ', '\n', '"', ' ', '\n', '"', ' ', '/', '/', ' ', '\n'] = true := by decide

/-- The whole function is idempotent on every text that contains no `'`: the only look-ahead of
`CharClasses` that a removed blank can disturb is the two-char one after `'`. -/
theorem removeTrailingWhitespace_idem_no_quote_partial (t out : List Char) (hq : '\'' ∉ t)
    (h : removeTrailingWhiteSpaces t = some out) : removeTrailingWhiteSpaces out = some out := by
  rw [RF.Lemmas.Newline.removeTrailingWhiteSpaces_eq_rtwS] at h ⊢
  exact RF.Lemmas.Newline.rtwS_rerun t .normal .normal [] out hq
    (fun _ _ => by rw [List.append_nil]; rfl) (.inl rfl) h

example : '\'' ∉ ['a', ' ', '\n', '"', ' ', '\n', '"'] := by decide

/-- Not so in general: in `' \n'"'" \n` the first `'` is followed by a blank; once the blank is removed
the look-ahead of `CharClasses` sees `'\n'` as a char literal, the string literals shift, and the blank
before the second `\n`, kept by the first pass as "inside a string", is removed by the second.
(Not lexable Rust: no token starts with `'` followed by a blank.) -/
theorem removeTrailingWhitespace_idem_counterexample :
    removeTrailingWhiteSpaces ['\'', ' ', '\n', '\'', '"', '\'', '"', ' ', '\n'] =
      some ['\'', '\n', '\'', '"', '\'', '"', ' ', '\n'] ∧
    removeTrailingWhiteSpaces ['\'', '\n', '\'', '"', '\'', '"', ' ', '\n'] =
      some ['\'', '\n', '\'', '"', '\'', '"', '\n'] := by
  constructor <;> decide

/-- In the output no blank other than `\n` stands before a `\n` — unless `CharClasses` classified that
`\n` as inside a string literal — nor at the end of the text. -/
theorem removeTrailingWhitespace_no_trailing_blank (t : List Char) :
    ∃ ks, CC.classify t = some ks ∧
      removeTrailingWhiteSpaces t = some ((rtwTagged [] ks).map Prod.snd) ∧
      noTrailingBlankT none (rtwTagged [] ks) = true := by
  have h := RF.Lemmas.Newline.classify_isSome t
  cases hc : CC.classify t with
  | none => simp [hc] at h
  | some ks =>
    exact ⟨ks, rfl, by simp [removeTrailingWhiteSpaces, hc],
      RF.Lemmas.Newline.rtwTagged_noTrailingBlankT ks [] none rfl RF.Lemmas.Newline.WsOnly_nil⟩

/-- When no `\n` of the text is inside a string literal the plain oracle holds of the output. -/
theorem removeTrailingWhitespace_no_trailing_blank_plain (t out : List Char)
    (ks : List (CC.Kind × Char)) (hc : CC.classify t = some ks)
    (hstr : ∀ x ∈ ks, x.2 = '\n' → x.1 ≠ .inString)
    (h : removeTrailingWhiteSpaces t = some out) : noTrailingBlank none out = true := by
  simp only [removeTrailingWhiteSpaces, hc, Option.map_some, Option.some.injEq] at h
  subst h
  rw [RF.Lemmas.Newline.noTrailingBlankT_plain]
  · exact RF.Lemmas.Newline.rtwTagged_noTrailingBlankT ks [] none rfl RF.Lemmas.Newline.WsOnly_nil
  · exact fun x hx => hstr x ((RF.Lemmas.Newline.rtwTagged_sublist ks []).subset hx)

example : ∃ ks, CC.classify ['a', ' ', '\n', '/', '/', ' ', '\n'] = some ks ∧
    ∀ x ∈ ks, x.2 = '\n' → x.1 ≠ .inString := ⟨_, rfl, by decide⟩

/-- Meaning of the plain oracle. -/
theorem noTrailingBlank_iff (t : List Char) :
    noTrailingBlank none t = true ↔
      (∀ pre suf, t = pre ++ '\n' :: suf →
          ∀ w, pre.getLast? = some w → w = '\n' ∨ isWhitespace w = false) ∧
        (∀ w, t.getLast? = some w → w = '\n' ∨ isWhitespace w = false) := by
  simp only [RF.Lemmas.Newline.noTrailingBlank_iff, RF.Lemmas.Newline.prevOf_none,
    RF.Lemmas.Newline.prevOk_iff]

end RF.Props.C08

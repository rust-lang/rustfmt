import RF.Model.Attrs
import RF.Lemmas.OptRewrites
import RF.Lemmas.ListsRc
import RF.Lemmas.Attrs
/-!
C01 / C03 on attributes (`src/attr.rs`, model `RF/Model/Attrs.lean`): what the text that
`<[ast::Attribute]>::rewrite_result` returns says about the attributes and about the comments between them, for ALL
attribute lists and gaps.

The comment rewriters, the multi-line layout of a meta item and the nested layout of `format_derive` are parameters of
the model (`Env.rdc`, `Env.rc`, `Env.metaRw`, `Env.fmtDerive`); a theorem names the property of a parameter it needs
(`keeps`: the non-blank characters are unchanged).  For the instances the driver uses these properties are proved:
`renderMeta` (`metaitem_tokens_preserved`), `formatDeriveOneLine` (`format_derive_one_line_keeps`),
`rewriteCommentLight` (`RF.Lemmas.ListsRc.rewriteCommentLight_content`).
-/
namespace RF.Props.Attrs
open RF.Attrs RF.Lists RF.Lemmas.Lists RF.Lemmas.Attrs

/-! ## meta items -/

theorem tok_sq (t : MTok) : sq t.render = if t.isTrail then [] else sq t.src := by
  cases t <;> simp [MTok.render, MTok.src, MTok.isTrail, sq] <;> decide +kernel

/-- The one-line form of a meta item consists of exactly its tokens, in order (paths,
literals as written, parentheses, commas, `=`), minus a trailing comma. -/
theorem metaitem_tokens_preserved (ts : List MTok) : sq (renderMeta ts) = metaSq ts := by
  induction ts with
  | nil => rfl
  | cons t r ih =>
    have h1 : renderMeta (t :: r) = t.render ++ renderMeta r := by simp [renderMeta]
    rw [h1, sq, squeeze_append]
    have ht := tok_sq t
    simp only [sq] at ht ih
    rw [ht, ih]
    cases hk : t.isTrail <;> simp [metaSq, hk, sq, squeeze_append]

example : renderMeta [.path "cfg_attr".toList, .lp, .path "a".toList, .comma, .path "doc".toList, .eq,
    .lit "\"x y\"".toList, .trail, .rp] = "cfg_attr(a, doc = \"x y\")".toList := by
  -- the kernel decodes a string literal slowly; the core lemma turns it into its characters (here and below)
  repeat rw [String.toList_ofList]
  decide +kernel

/-- a literal is kept as written (white space inside it included) -/
theorem metaitem_literals_verbatim (ts : List MTok) (s : Str) (h : MTok.lit s ∈ ts) : s <:+: renderMeta ts := by
  obtain ⟨l1, l2, rfl⟩ := List.append_of_mem h
  exact ⟨renderMeta l1, renderMeta l2, by simp [renderMeta, MTok.render]⟩

/-! ## one attribute -/

/-- An attribute that is skipped, holds a comment, or whose meta item does not
parse (`#[foo(bar baz)]`, `#[a = concat!(..)]`) is returned as written. -/
theorem attr_unparsed_fallback_verbatim (e : Env) (a : Attr) (hd : a.isDoc = false)
    (h : a.skip = true ∨ a.hasComment = true ∨ a.metaToks = none) : rewriteAttr e a = some a.snippet := by
  unfold rewriteAttr rewriteAttrG
  simp only [hd, Bool.false_eq_true, if_false]
  rcases h with h | h | h
  · simp [h]
  · simp [h]
  · by_cases hs : (a.skip || a.hasComment) = true
    · simp [hs]
    · simp [hs, h]

/-- the same when the meta item parses but its rewrite fails (`MetaItem::rewrite_result` is `Err`) -/
theorem attr_unrenderable_fallback_verbatim (e : Env) (a : Attr) (toks : List MTok) (hd : a.isDoc = false)
    (hs : a.skip = false) (hc : a.hasComment = false) (hm : a.metaToks = some toks) (hn : e.normDoc = false)
    (hw : ¬ e.width < (attrPrefix a.inner).length + 1) (hr : e.metaRw a toks = none) :
    rewriteAttr e a = some a.snippet := by
  unfold rewriteAttr rewriteAttrG
  simp [hd, hs, hc, hm, hn, hw, hr]

def exAttr : Attr := ⟨false, false, "#[foo(bar baz)]".toList, none, none, none, false, false, false, false, []⟩
example : ∀ e, rewriteAttr e exAttr = some "#[foo(bar baz)]".toList :=
  fun e => attr_unparsed_fallback_verbatim e exAttr rfl (Or.inr (Or.inr rfl))

/-- the style a text opens with: `#![` / `//!` / `/*!` inner, `#[` / `///` / `/**` outer -/
def readStyle : Str → Option Bool
  | '#' :: '!' :: '[' :: _ => some true
  | '#' :: '[' :: _ => some false
  | '/' :: '/' :: '!' :: _ => some true
  | '/' :: '/' :: '/' :: _ => some false
  | _ => none

/-- Rendered attributes: `#![…]` stays `#![…]`, `#[…]` stays `#[…]`. -/
theorem inner_outer_style_kept (e : Env) (a : Attr) (toks : List MTok) (rw t : Str) (hd : a.isDoc = false)
    (hs : a.skip = false) (hc : a.hasComment = false) (hm : a.metaToks = some toks) (hn : e.normDoc = false)
    (hr : e.metaRw a toks = some rw) (h : rewriteAttr e a = some t) : readStyle t = some a.inner := by
  unfold rewriteAttr rewriteAttrG at h
  simp only [hd, hs, hc, hm, hn, hr, Bool.false_eq_true, if_false, Bool.or_self, Bool.false_and] at h
  split at h
  · simp at h
  · cases hi : a.inner <;> cases hu : a.isUnsafe <;> simp [hi, hu, attrPrefix] at h <;> subst h <;> rfl

/-- … and a normalised doc attribute becomes `//!` lines when inner, `///` lines when outer -/
theorem inner_outer_style_kept_doc (inner : Bool) (v : Str) :
    readStyle (RF.Opt.docCommentText inner v) = some inner := by
  unfold RF.Opt.docCommentText
  cases inner <;> cases RF.Opt.strLines v with
  | nil => rfl
  | cons l r => cases r <;> simp [RF.Opt.joinWith, readStyle]

/-- … and a merged derive takes the style handed to `format_derive` (that of the run's first attribute; the lists
`FmtVisitor::visit_attrs` rewrites hold one style only) -/
theorem inner_outer_style_kept_derive (w : Nat) (inner : Bool) (ps : List Str) (t : Str)
    (h : formatDeriveOneLine w inner ps = some (some t)) : readStyle t = some inner := by
  rw [formatDeriveOneLine_some h]
  cases inner <;> rfl

theorem sq_joinWith_comma (l : List Str) :
    sq (RF.Opt.joinWith [',', ' '] l) = sq (RF.Opt.joinWith [','] l) := by
  induction l with
  | nil => rfl
  | cons x r ih =>
    cases r with
    | nil => rfl
    | cons y r' =>
      simp only [RF.Opt.joinWith, sq, squeeze_append] at ih ⊢
      rw [ih]
      rfl

/-- `format_derive` on one line keeps the derived paths: `#[derive(` the elements `)]` -/
theorem format_derive_one_line_keeps (w : Nat) (inner : Bool) (ps : List Str) (t : Str)
    (h : formatDeriveOneLine w inner ps = some (some t)) :
    sq t = sq (attrPrefix inner ++ "[derive(".toList ++ RF.Opt.joinWith [','] ps ++ ")]".toList) := by
  have hj := sq_joinWith_comma ps
  simp only [sq, squeeze_append] at hj ⊢
  rw [formatDeriveOneLine_some h, ← hj]
  simp only [squeeze_append]

example : formatDeriveOneLine 100 false ["A".toList, "B".toList] = some (some "#[derive(A, B)]".toList) := by
  repeat rw [String.toList_ofList]
  decide +kernel

/-! ## normalize_doc_attributes: the four slashes -/

/-- identity comment rewriters, `renderMeta` for meta items, width 100 -/
def envId (normDoc : Bool) : Env :=
  ⟨true, false, normDoc, [], 100, 100, some, some, fun _ t => some (renderMeta t), fun _ _ => none⟩

/-- `#[doc = "/x"]` -/
def docSlash : Attr :=
  ⟨false, false, "#[doc = \"/x\"]".toList, some [.path "doc".toList, .eq, .lit "\"/x\"".toList], none,
    some "/x".toList, false, false, false, false, []⟩

/-- `rewriteAttrPinned` (a doc value whose line starts with a slash is normalised too) prints `#[doc = "/x"]` as
`////x`, which is an ordinary comment: the documentation is lost. -/
theorem normalize_doc_four_slashes_counterexample :
    rewriteAttrPinned (envId true) docSlash = some "////x".toList ∧ allLineDoc "////x".toList = false := by decide +kernel

/-- `rewriteAttr` leaves it an attribute -/
theorem normalize_doc_four_slashes_fixed :
    rewriteAttr (envId true) docSlash = some "#[doc = \"/x\"]".toList := by
  repeat rw [String.toList_ofList]
  decide +kernel

/-- **What a normalised doc attribute turns into is documentation**: every line is a `///` / `//!` comment. -/
theorem normalize_doc_lines_are_doc (inner : Bool) (v : Str) (h : survivesAsLineDoc inner v = true)
    :
    ∀ l ∈ (match RF.Opt.strLines v with
      | [] => [if inner then "//!".toList else "///".toList]
      | ls => ls.map ((if inner then "//!".toList else "///".toList) ++ ·)), isLineDoc l = true := by
  -- the openers as character lists: evaluating a string literal is what is slow to check here
  rw [show "//!".toList = ['/', '/', '!'] from String.toList_ofList, show "///".toList = ['/', '/', '/'] from String.toList_ofList]
  intro l hl
  cases hs : RF.Opt.strLines v with
  | nil =>
    rw [hs] at hl
    cases List.mem_singleton.mp hl
    cases inner <;> rfl
  | cons x r =>
    rw [hs] at hl
    obtain ⟨y, hy, rfl⟩ := List.mem_map.mp hl
    cases inner with
    | true => rfl
    | false =>
      -- no line of the value starts with a slash
      have hy' : (y.head? == some '/') = false := by
        rw [survivesAsLineDoc, hs, Bool.false_or, Bool.not_eq_true'] at h
        exact Bool.eq_false_iff.mpr (List.any_eq_false.mp h y hy)
      show (y.head? != some '/') = true
      rw [bne, hy']
      rfl

/-! ## the list: every attribute once, in order; every gap between the same two groups -/

theorem andThen_some {seg : Seg} {gt : Option Str} {g : Str} {tail : List Attr} {rest : Option (List Seg)}
    {segs : List Seg} (h : andThen seg gt g tail rest = some segs) :
    (tail = [] ∧ segs = [seg]) ∨ (∃ t r, tail ≠ [] ∧ gt = some t ∧ rest = some r ∧ segs = seg :: .gap g t :: r) :=
  andThen_eq_some h

theorem lastGap_mem (run : List Attr) (hne : run ≠ []) : ∃ a ∈ run, lastGap run = a.gap := by
  unfold lastGap
  cases h : run.getLast? with
  | none => simp [List.getLast?_eq_none_iff] at h; exact absurd h hne
  | some a => exact ⟨a, List.mem_of_getLast? h, rfl⟩

theorem docRun_le (attrs : List Attr) : docRun attrs ≤ attrs.length := by
  have := RF.Lemmas.OptRewrites.takeRun_le RF.Opt.Attr.isDocComment (attrs.map toIn)
  simpa [docRun] using this

theorem deriveRun_le (attrs : List Attr) : deriveRun attrs ≤ attrs.length := by
  have := RF.Lemmas.OptRewrites.takeRun_le RF.Opt.Attr.isDerive (attrs.map toIn)
  simpa [deriveRun] using this

theorem deriveRun_pos (a : Attr) (rest : List Attr) (hd : a.isDoc = false) (h : a.derive.isSome = true) :
    deriveRun (a :: rest) ≥ 1 := by
  unfold deriveRun
  simp only [List.map_cons]
  apply (RF.Lemmas.OptRewrites.takeRun_pos_iff _ _ _).mpr
  cases hh : a.derive with
  | none => simp [hh] at h
  | some ps => simp [toIn, Attr.optAttr, hd, hh, RF.Opt.Attr.isDerive]

/-- a run of doc comments only starts at a doc comment -/
theorem docRun_zero_of_not_doc (a : Attr) (rest : List Attr) (hd : a.isDoc = false) : docRun (a :: rest) = 0 := by
  unfold docRun
  simp only [List.map_cons, RF.Opt.takeRun]
  have : RF.Opt.Attr.isDocComment (toIn a).attr = false := by
    simp only [toIn, Attr.optAttr, hd, Bool.false_eq_true, if_false]
    cases a.derive <;> simp [RF.Opt.Attr.isDocComment]
    cases a.normValue <;> simp
  simp [this]

/-- The generic invariant of the loop: a property of segments that holds for what each branch pushes holds for every
segment of the result.  `Q` is a property of the gaps of the input. -/
theorem rewriteGo_forall (e : Env) (single : Attr → Option Str) (P : Seg → Prop) (Q : Str → Prop)
    (hdocs : ∀ run text, e.rdc (RF.Opt.joinWith ['\n'] (run.map (·.snippet))) = some text → P (.docs run text))
    (hder : ∀ run ps text, RF.Opt.collectPaths (run.map toIn) = some ps → e.fmtDerive run ps = some text →
      P (.derives run text))
    (hsingle : ∀ a text, single a = some text → P (.single a text))
    (hgapD : ∀ g t, Q g → gapAfterDocs e g = some t → P (.gap g t))
    (hgapO : ∀ g b t, Q g → gapAfterOther e g b = some t → P (.gap g t)) :
    ∀ fuel attrs segs, (∀ a ∈ attrs, Q a.gap) → rewriteGo e single fuel attrs = some segs → ∀ s ∈ segs, P s := by
  intro fuel attrs
  -- the gap behind a run is the gap of one of its attributes
  have hrun (a : Attr) (rest : List Attr) (hq : ∀ x ∈ a :: rest, Q x.gap) (k : Nat) (hk : k ≥ 1) :
      Q (lastGap ((a :: rest).take k)) := by
    obtain ⟨x, hx, he⟩ := lastGap_mem ((a :: rest).take k) (by cases k with | zero => cases hk | succ k => nofun)
    exact he ▸ hq x (List.mem_of_mem_take hx)
  fun_induction rewriteGo e single fuel attrs with
  | case1 =>
    intro segs _ h
    cases Option.some.inj h
    exact fun _ hs => absurd hs List.not_mem_nil
  | case2 =>
    intro segs _ h
    cases Option.some.inj h
    exact fun _ hs => absurd hs List.not_mem_nil
  | case3 => nofun
  | case4 fuel a rest attrs nd hnd run tail text htext ih =>
    intro segs hq h
    exact andThen_forall h (hdocs _ _ htext)
      (fun t _ hgt => hgapD _ _ (hrun a rest hq nd hnd) hgt)
      fun r hr => ih r (fun x hx => hq x (List.mem_of_mem_drop hx)) hr
  | case5 => nofun
  | case6 => nofun
  | case7 fuel a rest attrs nd hnd hd n run tail ps hps text htext ih =>
    intro segs hq h
    have hpos : n ≥ 1 := deriveRun_pos_of_branch hnd hd
    exact andThen_forall h (hder _ _ _ hps htext)
      (fun t _ hgt => hgapO _ _ _ (hrun a rest hq n hpos) hgt)
      fun r hr => ih r (fun x hx => hq x (List.mem_of_mem_drop hx)) hr
  | case8 => nofun
  | case9 fuel a rest attrs nd hnd hd text htext ih =>
    intro segs hq h
    exact andThen_forall h (hsingle _ _ htext) (fun t _ hgt => hgapO _ _ _ (hq a (.head _)) hgt)
      fun r hr => ih r (fun x hx => hq x (.tail _ hx)) hr
/-! ### the parameters' property -/

/-- a rewriter keeps the non-blank characters of its input -/
def Keeps (f : Str → Option Str) : Prop := ∀ s t, f s = some t → sq t = sq s

/-- the gap consists of blanks and comments: without a slash it is blank -/
def GapOk (g : Str) : Prop := ((trim g).isEmpty || !(trim g).contains '/') = true → sq g = []

theorem sq_nl (b : Bool) : squeeze (nl b) = [] := by cases b <;> rfl

theorem recover_keeps (e : Env) (hrc : Keeps e.rc) (hind : sq e.indentStr = []) (g c : Str) (hg : GapOk g)
    (h : recover e g = some c) : sq c = sq g := by
  have hind' : squeeze e.indentStr = [] := hind
  unfold recover at h
  by_cases hb : ((trim g).isEmpty || !(trim g).contains '/') = true
  · rw [if_pos hb] at h
    cases Option.some.inj h
    exact (hg hb).symm
  · rw [if_neg hb] at h
    cases hmc : e.rc (trim g) with
    | none =>
      rw [hmc] at h
      cases h
    | some mc =>
      have hk : sq mc = sq g := (hrc _ _ hmc).trans (squeeze_trim g)
      rw [hmc] at h
      dsimp only at h
      by_cases hem : mc.isEmpty = true
      · rw [if_pos hem] at h
        cases Option.some.inj h
        rw [← hk, List.isEmpty_iff.mp hem]
      · rw [if_neg hem] at h
        cases Option.some.inj h
        rw [sq, squeeze_append, ← hk]
        split
        · rw [show squeeze ('\n' :: e.indentStr) = squeeze e.indentStr from rfl, hind']
          rfl
        · rfl

/-- What is pushed between two groups consists of exactly the non-blank characters
of the source text between them — every comment of the gap reappears once, in order, between the same two attributes
— or the rewrite fails (`none`: the caller leaves the attributes as written). -/
theorem attr_gap_comments_preserved (e : Env) (single : Attr → Option Str) (hrc : Keeps e.rc)
    (hind : sq e.indentStr = []) (attrs : List Attr) (hg : ∀ a ∈ attrs, GapOk a.gap) (segs : List Seg)
    (h : rewriteSegs e single attrs = some segs) :
    ∀ g t, Seg.gap g t ∈ segs → sq t = sq g := by
  intro g t hmem
  have hind' : squeeze e.indentStr = [] := hind
  -- what is pushed for a gap is the recovered comment between line breaks and indentation
  have := rewriteGo_forall e single (fun s => match s with | .gap g t => sq t = sq g | _ => True) GapOk
    (fun _ _ _ => trivial) (fun _ _ _ _ _ => trivial) (fun _ _ _ => trivial)
    (by
      intro g t hq hgt
      obtain ⟨c, hr, rfl⟩ := Option.map_eq_some_iff.mp hgt
      show sq _ = sq g
      rw [← recover_keeps e hrc hind g c hq hr, sq, squeeze_append, hind', List.append_nil]
      split
      next hem =>
        rw [List.isEmpty_iff.mp hem]
        exact sq_nl _
      next => simp only [squeeze_append, sq_nl, show squeeze ['\n'] = [] from rfl, List.nil_append, List.append_nil])
    (by
      intro g b t hq hgt
      obtain ⟨c, hr, rfl⟩ := Option.map_eq_some_iff.mp hgt
      show sq _ = sq g
      rw [← recover_keeps e hrc hind g c hq hr]
      simp only [sq, squeeze_append, sq_nl, hind', show squeeze ['\n'] = [] from rfl, List.append_nil])
    attrs.length attrs segs hg h (.gap g t) hmem
  simpa using this

/-- A run of sugared doc comments is handed to `rewrite_doc_comment` as written
(joined by line feeds); when that keeps the text, the result consists of the doc comments' characters, in order. -/
theorem attr_doc_comments_verbatim (e : Env) (single : Attr → Option Str) (hrdc : Keeps e.rdc) (attrs : List Attr)
    (segs : List Seg) (h : rewriteSegs e single attrs = some segs) :
    ∀ run t, Seg.docs run t ∈ segs → sq t = run.flatMap (fun a => sq a.snippet) := by
  intro run t hmem
  have hj : ∀ l : List Str, sq (RF.Opt.joinWith ['\n'] l) = l.flatMap sq := by
    intro l
    induction l with
    | nil => rfl
    | cons x r ih =>
      cases r with
      | nil => simp [RF.Opt.joinWith]
      | cons y r' =>
        simp only [RF.Opt.joinWith, sq, squeeze_append, List.flatMap_cons] at ih ⊢
        rw [ih]
        simp [squeeze] <;> decide +kernel
  have := rewriteGo_forall e single
    (fun s => match s with | .docs run t => sq t = run.flatMap (fun a => sq a.snippet) | _ => True) (fun _ => True)
    (by
      intro run text ht
      have := hrdc _ _ ht
      show sq text = run.flatMap (fun a => sq a.snippet)
      rw [this, hj]
      simp [List.flatMap_map])
    (fun _ _ _ _ _ => trivial) (fun _ _ _ => trivial) (fun _ _ _ _ => trivial) (fun _ _ _ _ _ => trivial)
    attrs.length attrs segs (fun _ _ => trivial) h (.docs run t) hmem
  simpa using this

/-- Order and multiplicity: the segments consume every attribute exactly once, in order. -/
theorem attrs_preserved (e : Env) (single : Attr → Option Str) :
    ∀ fuel attrs segs, attrs.length ≤ fuel → rewriteGo e single fuel attrs = some segs →
      segs.flatMap Seg.srcs = attrs := by
  intro fuel attrs
  fun_induction rewriteGo e single fuel attrs with
  | case1 attrs =>
    intro segs hl h
    cases Option.some.inj h
    exact (List.eq_nil_of_length_eq_zero (Nat.le_zero.mp hl)).symm
  | case2 =>
    intro segs _ h
    cases Option.some.inj h
    rfl
  | case3 => nofun
  | case4 fuel a rest attrs nd hnd run tail text htext ih =>
    intro segs hl h
    have hlen : ((a :: rest).drop nd).length ≤ fuel := by rw [List.length_drop]; omega
    rw [andThen_srcs h fun r hr => ih r hlen hr]
    exact List.take_append_drop nd (a :: rest)
  | case5 => nofun
  | case6 => nofun
  | case7 fuel a rest attrs nd hnd hd n run tail ps hps text htext ih =>
    intro segs hl h
    have hpos : n ≥ 1 := deriveRun_pos_of_branch hnd hd
    have hlen : ((a :: rest).drop n).length ≤ fuel := by rw [List.length_drop]; omega
    rw [andThen_srcs h fun r hr => ih r hlen hr]
    exact List.take_append_drop n (a :: rest)
  | case8 => nofun
  | case9 fuel a rest attrs nd hnd hd text htext ih =>
    intro segs hl h
    rw [andThen_srcs h fun r hr => ih r (Nat.le_of_succ_le_succ hl) hr]
    rfl

/-- the list version: `rewriteSegs` gives enough fuel -/
theorem attrs_preserved_list (e : Env) (single : Attr → Option Str) (attrs : List Attr) (segs : List Seg)
    (h : rewriteSegs e single attrs = some segs) : segs.flatMap Seg.srcs = attrs :=
  attrs_preserved e single attrs.length attrs segs (Nat.le_refl _) h

/-- what a merged derive consists of: the paths of its run, collected in order by RF.Opt.collectPaths (the merge
DECISION — which derives form a run — is RF.Opt.takeRun: `RF.Props.OptRewrites.merge_derives_exact`) -/
theorem attrs_derives_merged (e : Env) (single : Attr → Option Str) (attrs : List Attr) (segs : List Seg)
    (h : rewriteSegs e single attrs = some segs) :
    ∀ run t, Seg.derives run t ∈ segs →
      ∃ ps, RF.Opt.collectPaths (run.map toIn) = some ps ∧ e.fmtDerive run ps = some t := by
  intro run t hmem
  have := rewriteGo_forall e single
    (fun s => match s with
      | .derives run t => ∃ ps, RF.Opt.collectPaths (run.map toIn) = some ps ∧ e.fmtDerive run ps = some t
      | _ => True) (fun _ => True)
    (fun _ _ _ => trivial) (fun run ps text h1 h2 => ⟨ps, h1, h2⟩) (fun _ _ _ => trivial)
    (fun _ _ _ _ => trivial) (fun _ _ _ _ _ => trivial)
    attrs.length attrs segs (fun _ _ => trivial) h (.derives run t) hmem
  simpa using this

/-- every single attribute's text is what `Attribute::rewrite_result` returned for it -/
theorem attrs_singles (e : Env) (single : Attr → Option Str) (attrs : List Attr) (segs : List Seg)
    (h : rewriteSegs e single attrs = some segs) : ∀ a t, Seg.single a t ∈ segs → single a = some t := by
  intro a t hmem
  have := rewriteGo_forall e single
    (fun s => match s with | .single a t => single a = some t | _ => True) (fun _ => True)
    (fun _ _ _ => trivial) (fun _ _ _ _ _ => trivial) (fun _ _ h => h)
    (fun _ _ _ _ => trivial) (fun _ _ _ _ _ => trivial)
    attrs.length attrs segs (fun _ _ => trivial) h (.single a t) hmem
  simpa using this

/-! ### non-vacuity: a list with a doc comment, two derives, a comment in a gap -/

def exEnv : Env :=
  ⟨true, false, false, [], 100, 100, some, some, fun _ t => some (renderMeta t),
    fun run ps => (formatDeriveOneLine 100 ((run.head?.map (·.inner)).getD false) ps).getD none⟩

def exList : List Attr :=
  [⟨false, true, "/// d".toList, none, none, none, false, false, false, false, "\n".toList⟩,
   ⟨false, false, "#[derive(A)]".toList, some [.path "derive".toList, .lp, .path "A".toList, .rp],
     some (some ["A".toList]), none, false, false, false, false, "\n".toList⟩,
   ⟨false, false, "#[derive(B)]".toList, some [.path "derive".toList, .lp, .path "B".toList, .rp],
     some (some ["B".toList]), none, false, false, false, false, " // c\n".toList⟩,
   ⟨false, false, "#[ inline ]".toList, some [.path "inline".toList], none, none, false, false, false, false, []⟩]

example : rewriteAttrs exEnv exList = some "/// d\n#[derive(A, B)] // c\n#[inline]".toList := by
  repeat rw [String.toList_ofList]
  decide +kernel

end RF.Props.Attrs

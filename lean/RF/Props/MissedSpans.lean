import RF.Model.MissedSpans
import RF.Model.ListsRc
import RF.Lemmas.MissedSpans
import RF.Lemmas.ListsRc
import RF.Lemmas.Newline
/-!
# The missed-span writer (`src/missed_spans.rs`) — part of C03, C08 and C16

`format_missing(end)`, `format_missing_with_indent(end)`, `format_missing_no_indent(end)` write the text
between two nodes the formatter handles itself: white space, comments, and code it failed to format.
Model: `RF.Model.MissedSpans` (byte offsets, `none` = panic; `rewrite_comment` and `unicode_str_width` are
parameters).  The statements below are about one call on a visitor `v` whose `last_pos` and `end` cut the
snippet out of the file's text on character boundaries (`ValidSpan`); `written v v'` is what the call
pushed, piece by piece.

  * `missed_no_panic` (C16): no slice off a character boundary or out of range, no failed assertion, no
    division by zero — for EVERY snippet (code included), provided `hard_tabs → tab_spaces ≥ 1`.  The
    precondition is exact: `missed_tab_spaces_zero_counterexample`; the span conditions are exact too
    (`missed_inverted_span_counterexample`, `missed_off_boundary_counterexample`).
    `missed_line_start_counterexample`: the formula the code had before repair 01f650e
    (`line_start = offset + lf_count + crlf_count * 2`) panics on `// c` LF U+2028 LF (F34).
  * `missed_content_preserved` (C03): for every snippet the non-blank characters written are exactly those
    of the snippet, when the comment rewriter keeps the non-blank characters of a comment
    (`rcLight_content`: the rewriter under the default comment options does).
  * `missed_comments_emitted_partial` (C03): below style edition 2024 the comment pieces are the comment
    slices of the snippet, exactly once, in order, each as `rewrite_comment` returned it;
    `missed_comments_emitted_counterexample`: style edition 2024 writes a comment that trails code as it
    stands, without asking the rewriter; `missed_comments_emitted`: in every edition the comments' non-blank
    characters are written in order (the oracle the harness runs on the real code's output).
  * `missed_only_whitespace_and_comments` (C03/C08): for a gap of white space and comments every piece
    that is not a comment is white space, and no piece is code.
  * `missed_blank_lines_clamped` (C08): every run of line breaks pushed by `push_vertical_spaces` obeys
    `RF.Props.C08.clamp_bounds` with respect to the buffer in front of it.
  * `close_block_no_panic`, `close_block_content`, `close_block_comments_emitted_partial` (C03, C16): the
    same for the comments in front of a closing brace (`visitor.rs::close_block`).
  * `missed_code_kept_verbatim` / `missed_code_stripped_partial` / `missed_code_stripped_counterexample`
    (C08): `process_missing_code` copies code line by line, dropping the LAST trailing blank of a line when
    the line ends in an odd number of blanks (`last_wspace` is cleared by the second blank of a pair), and
    re-indents the unfinished last line; trailing blanks are therefore stripped only from lines that end in
    at most one blank.
-/
namespace RF.Props.MissedSpans
open RF.Missed RF.Comment RF.Shape
open RF.Lemmas.Missed

/-- `last_pos .. end` cuts `snippet` out of the file's text: both ends on character boundaries, in range,
not inverted. -/
def ValidSpan (env : Env) (v : Vis) (end_ : Nat) (snippet : List Char) : Prop :=
  ∃ pre post, env.big = pre ++ snippet ++ post ∧ v.lastPos = utf8Len pre ∧
    end_ = utf8Len pre + utf8Len snippet

/-- The three entry points. -/
inductive Entry where
  | plain | withIndent | noIndent
  deriving DecidableEq, Repr

def run (env : Env) (e : Entry) (end_ : Nat) (v : Vis) : Option Vis :=
  match e with
  | .plain => formatMissing env end_ v
  | .withIndent => formatMissingIndent env true end_ v
  | .noIndent => formatMissingIndent env false end_ v

/-- The pieces pushed between `v` and `v'`. -/
def written (v v' : Vis) : List Piece := v'.log.drop v.log.length

/-- The comment rewriter of the default comment options (`normalize_comments = wrap_comments = false`),
as the driver instantiates it. -/
def rcLight (config : Config) (ed2024 : Bool) : Rc := fun orig _ shape =>
  RF.Lists.identifyCommentLight (RF.Lists.indentString shape.indent config)
    (fun g => RF.Lists.trimLeftPreserveLayout g shape.indent config ed2024) (orig.length + 1) orig

/-- A small concrete setting for the examples: the identity rewriter, one column per character. -/
def env0 (big : List Char) : Env :=
  { config := ⟨false, 4, 100, 80⟩, lower := 0, upper := 1, ed2024 := false, base := 0, big := big,
    rc := fun c _ _ => some c, width := List.length }

def vis0 (buffer : List Char) (lastPos : Nat) : Vis :=
  { buffer := buffer, lineNumber := 0, lastPos := lastPos, blockIndent := ⟨4, 0⟩, log := [] }

/-- `x;` `// c` LF LF `y`: the gap between the two statements. -/
def big0 : List Char := ['x', ';', '/', '/', ' ', 'c', '\n', '\n', 'y']

theorem written_of_result {env : Env} {v v' : Vis} {end_ : Nat} {snippet : List Char} {o : List Piece}
    (h : Result env v end_ snippet v' o) : written v v' = o := by
  rw [written, h.log, List.drop_left]

theorem run_spec (env : Env) (e : Entry) (v : Vis) (end_ : Nat) (snippet : List Char)
    (hspan : ValidSpan env v end_ snippet)
    (hts : env.config.hard_tabs = true → 1 ≤ env.config.tab_spaces) :
    ∃ v', run env e end_ v = some v' ∧ Result env v end_ snippet v' (written v v') := by
  obtain ⟨pre, post, hbig, hpos, hend⟩ := hspan
  obtain ⟨v', o, h, hres⟩ : ∃ v' o, run env e end_ v = some v' ∧ Result env v end_ snippet v' o := by
    cases e with
    | plain => exact formatMissing_spec env hts pre snippet post hbig v hpos end_ hend
    | withIndent => exact formatMissingInner_spec env hts (.indent true) pre snippet post hbig v hpos end_ hend
    | noIndent => exact formatMissingInner_spec env hts (.indent false) pre snippet post hbig v hpos end_ hend
  exact ⟨v', h, written_of_result hres ▸ hres⟩

/-- One call of the missed-span writer on a valid span never panics — whatever the snippet holds
(comments, any Unicode white space, code, unterminated comments or strings), whatever the buffer, the
indentation, the page width and the blank-line bounds — provided `tab_spaces ≥ 1` under `hard_tabs`. -/
theorem missed_no_panic (env : Env) (e : Entry) (v : Vis) (end_ : Nat) (snippet : List Char)
    (hspan : ValidSpan env v end_ snippet)
    (hts : env.config.hard_tabs = true → 1 ≤ env.config.tab_spaces) :
    (run env e end_ v).isSome = true := by
  obtain ⟨v', h, _⟩ := run_spec env e v end_ snippet hspan hts
  rw [h]; rfl

/-- … and afterwards `last_pos = end`, `block_indent` is untouched and the buffer has only grown. -/
theorem missed_frame (env : Env) (e : Entry) (v v' : Vis) (end_ : Nat) (snippet : List Char)
    (hspan : ValidSpan env v end_ snippet)
    (hts : env.config.hard_tabs = true → 1 ≤ env.config.tab_spaces) (h : run env e end_ v = some v') :
    v'.lastPos = end_ ∧ v'.blockIndent = v.blockIndent ∧ v'.buffer = v.buffer ++ render (written v v') := by
  obtain ⟨v'', h', hres⟩ := run_spec env e v end_ snippet hspan hts
  cases h.symm.trans h'
  exact ⟨hres.pos, hres.indent, hres.buffer⟩

/-- `line_number` counts the line breaks pushed (the invariant `line_number = count_newlines(buffer)`
of C04's buffer machine is kept). -/
theorem missed_line_number (env : Env) (e : Entry) (v v' : Vis) (end_ : Nat) (snippet : List Char)
    (hspan : ValidSpan env v end_ snippet)
    (hts : env.config.hard_tabs = true → 1 ≤ env.config.tab_spaces) (h : run env e end_ v = some v') :
    v'.lineNumber = v.lineNumber + RF.Newline.countNewlines (render (written v v')) := by
  obtain ⟨v'', h', hres⟩ := run_spec env e v end_ snippet hspan hts
  cases h.symm.trans h'
  exact hres.line

example : ValidSpan (env0 big0) (vis0 ['x', ';'] 2) 8 ['/', '/', ' ', 'c', '\n', '\n'] :=
  ⟨['x', ';'], ['y'], rfl, rfl, rfl⟩

/-- The gap of `big0`: the comment stays on the statement's line, one blank line is kept, the next
statement is indented. -/
example : (run (env0 big0) .withIndent 8 (vis0 ['x', ';'] 2)).map (·.buffer) =
    some ['x', ';', ' ', '/', '/', ' ', 'c', '\n', '\n', ' ', ' ', ' ', ' '] := by decide +kernel

/-- `hard_tabs = true`, `tab_spaces = 0`: `Indent::to_string` divides by zero. -/
theorem missed_tab_spaces_zero_counterexample :
    run { env0 ['x', '\n', 'y'] with config := ⟨true, 0, 100, 80⟩ } .withIndent 2 (vis0 ['x'] 1) = none := by
  decide +kernel

/-- `last_pos > end`: `assert!(start < end)`. -/
theorem missed_inverted_span_counterexample :
    run (env0 ['x', ' ', 'y']) .withIndent 1 (vis0 ['x'] 2) = none := by decide +kernel

/-- `end` inside the two-byte character `é`: the snippet slice panics. -/
theorem missed_off_boundary_counterexample :
    run (env0 ['x', ' ', 'é']) .withIndent 3 (vis0 ['x'] 1) = none := by decide +kernel

/-! ### The formula before repair 01f650e (F34) -/

/-- One turn of the loop as it was: behind a blank slice the line was taken to start at
`offset + lf_count + crlf_count * 2`, which counts one byte per line break and nothing for any other
white space of the slice. -/
def wsiStepOld (env : Env) (snippet : List Char) (bigDiff : Nat) (sl : Slice) (st : RF.Missed.Status)
    (v : Vis) : Option (RF.Missed.Status × Vis) :=
  let (lf, crlf) := countLfCrlf false sl.text
  let newlineCount := lf + crlf
  if sl.kind = .comment then
    match takeBytes? (sl.start + bigDiff) env.big with
    | none => none
    | some bigPrefix => processComment env snippet bigPrefix sl.text sl.start st v
  else if (trim sl.text).isEmpty && newlineCount > 0 then
    some ({ st with cur_line := st.cur_line + newlineCount, line_start := sl.start + lf + crlf * 2 },
          v.pushVerticalSpaces env newlineCount)
  else processMissingCode env snippet sl.text sl.start st v

def wsiLoopOld (env : Env) (snippet : List Char) (bigDiff : Nat) :
    List Slice → RF.Missed.Status → Vis → Option (RF.Missed.Status × Vis)
  | [], st, v => some (st, v)
  | sl :: rest, st, v =>
    match wsiStepOld env snippet bigDiff sl st v with
    | none => none
    | some (st1, v1) => wsiLoopOld env snippet bigDiff rest st1 v1

/-- `write_snippet` up to the closure, old formula: the final `&snippet[status.line_start..]`. -/
def lastSnippetOld (env : Env) (start : Nat) (snippet : List Char) (v : Vis) : Option (List Char) :=
  match commentCodeSlices? snippet with
  | none => none
  | some slices =>
    match wsiLoopOld env snippet start slices ⟨0, none, 1⟩ v with
    | none => none
    | some (st, _) => dropBytes? st.line_start snippet

/-- `// c` LF U+2028 LF between two items: the blank slice U+2028 LF is 4 bytes with one line break, the
old formula puts `line_start` one byte into U+2028 and `&snippet[line_start..]` panics — while the
repaired code writes the gap (`missed_no_panic`). -/
theorem missed_line_start_counterexample :
    lastSnippetOld (env0 ['x', '/', '/', ' ', 'c', '\n', '\u2028', '\n', 'y']) 1
        ['/', '/', ' ', 'c', '\n', '\u2028', '\n'] (vis0 ['x'] 1) = none ∧
      (run (env0 ['x', '/', '/', ' ', 'c', '\n', '\u2028', '\n', 'y']) .withIndent 10 (vis0 ['x'] 1)).isSome
        = true := by
  constructor <;> decide +kernel

/-- The rewriter of the default comment options keeps the non-blank characters of a comment. -/
theorem rcLight_content (config : Config) (ed2024 : Bool) : RcContent (rcLight config ed2024) := by
  intro c bs sh r h
  unfold rcLight at h
  have hsq : ∀ s, RF.Missed.squeeze s = RF.Lists.squeeze s := fun _ => rfl
  rw [hsq, hsq]
  exact RF.Lemmas.ListsRc.identifyCommentLight_content _
    (RF.Lemmas.Lists.squeeze_of_ws (RF.Lemmas.Lists.indentString_ws sh.indent config)) _
    (fun g r hg => RF.Lemmas.ListsRc.trimLeftPreserveLayout_content g sh.indent config ed2024 r hg) _ _ _ h

/-- For EVERY snippet — comments, white space, code — the non-blank characters the call writes are
exactly the non-blank characters of the snippet, in order: no comment character and no code character is
dropped, duplicated or invented.  (At the start of the file a blank snippet is dropped whole.) -/
theorem missed_content_preserved (env : Env) (e : Entry) (v v' : Vis) (end_ : Nat) (snippet : List Char)
    (hspan : ValidSpan env v end_ snippet)
    (hts : env.config.hard_tabs = true → 1 ≤ env.config.tab_spaces) (hrc : RcContent env.rc)
    (h : run env e end_ v = some v') :
    squeeze (render (written v v')) = squeeze snippet := by
  obtain ⟨v'', h', hres⟩ := run_spec env e v end_ snippet hspan hts
  cases h.symm.trans h'
  exact hres.content hrc

/-- … with the rewriter of the default options. -/
theorem missed_content_preserved_default (env : Env) (e : Entry) (v v' : Vis) (end_ : Nat)
    (snippet : List Char) (hspan : ValidSpan env v end_ snippet)
    (hts : env.config.hard_tabs = true → 1 ≤ env.config.tab_spaces)
    (hrc : env.rc = rcLight env.config env.ed2024) (h : run env e end_ v = some v') :
    contentOk snippet (render (written v v')) = true := by
  have := missed_content_preserved env e v v' end_ snippet hspan hts
    (by rw [hrc]; exact rcLight_content _ _) h
  simp [contentOk, this]

example : RcContent (env0 big0).rc := by intro c bs sh r h; cases h; rfl

theorem commentTexts_eq (snippet : List Char) (items : List Slice)
    (h : commentCodeSlices? snippet = some items) : commentTexts snippet = commentSlices items := by
  simp [commentTexts, h, commentSlices]

/-- Below style edition 2024: the comment pieces written are the comment slices of the snippet
(`CommentCodeSlices`), exactly once each and in order, each as `rewrite_comment` returned it for some
shape — or as written where `rewrite_comment` failed.  For every snippet that is not blank, code
included.  (Under `format_missing` the `;` shortcut must not apply.) -/
theorem missed_comments_emitted_partial (env : Env) (e : Entry) (v v' : Vis) (end_ : Nat)
    (snippet : List Char) (hspan : ValidSpan env v end_ snippet)
    (hts : env.config.hard_tabs = true → 1 ≤ env.config.tab_spaces) (hed : env.ed2024 = false)
    (hsemi : trim snippet ≠ [';']) (hnb : trim snippet ≠ []) (h : run env e end_ v = some v') :
    ∃ shapes : List Shape, shapes.length = (commentTexts snippet).length ∧
      commentPieces (written v v') =
        List.zipWith (fun c sh => rcOr env c sh) (commentTexts snippet) shapes := by
  obtain ⟨v'', h', hres⟩ := run_spec env e v end_ snippet hspan hts
  cases h.symm.trans h'
  generalize written v v' = o at hres
  have hnws : ¬ AllWs snippet := fun hws => hnb ((trim_nil_iff snippet).mpr hws)
  cases hres.shape with
  | nothing hws => exact absurd hws hnws
  | empty last hnil _ => subst hnil; exact absurd allWs_nil hnws
  | blank t last hws _ _ => exact absurd hws hnws
  | written items lo last hitems hlo hlast =>
    obtain ⟨shapes, hlen, hzip⟩ := hlo.comments hed
    rw [commentTexts_eq snippet items hitems]
    exact ⟨shapes, hlen, by rw [commentPieces_append, hlast.noComment, hzip]; simp⟩
  | semi hs => exact absurd hs hsemi

/-- `x;` then `// c` LF: one comment slice, one comment piece (the identity rewriter returns it whole,
the line break is pushed separately). -/
example : (run (env0 ['x', ';', '/', '/', ' ', 'c', '\n', 'y']) .withIndent 7 (vis0 ['x', ';'] 2)).map
      (fun v' => commentPieces v'.log) = some [['/', '/', ' ', 'c', '\n']] ∧
    commentTexts ['/', '/', ' ', 'c', '\n'] = [['/', '/', ' ', 'c', '\n']] := by
  constructor <;> decide +kernel

/-- Style edition 2024 does not hand a comment that trails code to `rewrite_comment`: with a rewriter
that answers `!` for every comment, the comment behind `x;` is written as it stands (without its line
break), not as `!`. -/
theorem missed_comments_emitted_counterexample :
    (run { env0 ['x', ';', '/', '/', ' ', 'c', '\n', 'y'] with ed2024 := true, rc := fun _ _ _ => some ['!'] }
        .withIndent 7 (vis0 ['x', ';'] 2)).map (fun v' => commentPieces v'.log) =
      some [['/', '/', ' ', 'c']] := by decide +kernel

/-- Every edition, gaps of white space and comments: the non-blank characters of the comments are
written in order, and nothing else that is not blank is written — the two oracles the harness evaluates
on the real code's output hold of the model's. -/
theorem missed_comments_emitted (env : Env) (e : Entry) (v v' : Vis) (end_ : Nat) (snippet : List Char)
    (hspan : ValidSpan env v end_ snippet)
    (hts : env.config.hard_tabs = true → 1 ≤ env.config.tab_spaces) (hrc : RcContent env.rc)
    (hgap : isBlankGap snippet = true) (h : run env e end_ v = some v') :
    commentsEmitted snippet (render (written v v')) = true ∧
      onlyBlanksAndComments snippet (render (written v v')) = true := by
  have hc := missed_content_preserved env e v v' end_ snippet hspan hts hrc h
  obtain ⟨items, hitems, hblank⟩ := (isBlankGap_iff snippet).mp hgap
  obtain ⟨items', hitems', hcat, _, _⟩ := RF.Lemmas.Comment.slices_spec snippet
  rw [hitems] at hitems'; cases hitems'
  have hsq : squeeze snippet = ((commentTexts snippet).map squeeze).flatten := by
    rw [commentTexts_eq snippet items hitems, ← blankSlices_squeeze items hblank, hcat]
  constructor
  · unfold commentsEmitted
    rw [hc, hsq]
    have := occursInOrder_flatten ((commentTexts snippet).map squeeze) []
    simpa using this
  · unfold onlyBlanksAndComments
    rw [hc, hsq]; simp

example : isBlankGap ['/', '/', ' ', 'c', '\n', '\n'] = true := by decide +kernel

/-- For a gap made of white space (any Unicode white space) and comments — what a well-formed source has
between two nodes — every piece written is a comment or white space, and none was copied as code. -/
theorem missed_only_whitespace_and_comments (env : Env) (e : Entry) (v v' : Vis) (end_ : Nat)
    (snippet : List Char) (hspan : ValidSpan env v end_ snippet)
    (hts : env.config.hard_tabs = true → 1 ≤ env.config.tab_spaces)
    (hgap : isBlankGap snippet = true) (hsemi : trim snippet ≠ [';'])
    (h : run env e end_ v = some v') :
    ∀ q ∈ written v v', q.tag ≠ .code ∧ (q.tag ≠ .comment → ∀ c ∈ q.text, isWs c = true) := by
  obtain ⟨v'', h', hres⟩ := run_spec env e v end_ snippet hspan hts
  cases h.symm.trans h'
  obtain ⟨items, hitems, hblank⟩ := (isBlankGap_iff snippet).mp hgap
  refine hres.shape.forall (fun _ => ⟨nofun, fun h => absurd rfl h⟩) (fun _ ht => ⟨nofun, fun _ => ht⟩)
    (fun _ ht => ⟨nofun, fun _ => ht⟩) (fun _ ht => ⟨nofun, fun _ => ht⟩) ?_
  -- no code: the snippet is not `;`, and no `Normal` slice has anything but white space
  rintro (hs | ⟨items', s, hitems', hs, hk, hn⟩)
  · exact absurd hs hsemi
  · cases hitems.symm.trans hitems'
    exact absurd ((hblank s hs).resolve_left (by rw [hk]; nofun)) hn

/-- What the closure of `format_missing*` receives as `last_snippet` is white space, for every snippet:
`write_snippet_inner` has always written everything else before (so the `trim_end` of
`format_missing_indent` pushes the empty string, and `format_missing` ends with blanks of the source). -/
theorem missed_last_snippet_blank (env : Env) (e : Entry) (v v' : Vis) (end_ : Nat)
    (snippet : List Char) (hspan : ValidSpan env v end_ snippet)
    (hts : env.config.hard_tabs = true → 1 ≤ env.config.tab_spaces) (h : run env e end_ v = some v') :
    ∀ q ∈ written v v', q.tag = .last → ∀ c ∈ q.text, isWs c = true := by
  obtain ⟨v'', h', hres⟩ := run_spec env e v end_ snippet hspan hts
  cases h.symm.trans h'
  exact hres.shape.forall (fun _ => nofun) (fun _ _ => nofun) (fun _ _ => nofun) (fun _ ht _ => ht)
    (fun _ _ => nofun)

/-- `x` blank `y` blanks through `format_missing`: the code is copied behind fresh indentation and the
`last` piece is empty. -/
example : (run (env0 ['x', ' ', 'y', ' ', ' ', 'z']) .plain 5 (vis0 ['x'] 1)).map (·.log) =
    some [⟨.blank, [' ', ' ', ' ', ' ']⟩, ⟨.code, ['y']⟩, ⟨.last, []⟩] := by decide +kernel

/-- Every run of line breaks that `push_vertical_spaces` pushes during the call — between two comments,
between a comment and the next node, for a blank gap — is clamped against the run already at the end of
the buffer exactly as `RF.Props.C08.clamp_bounds` says: afterwards the run is at least
`blank_lines_lower_bound + 1` long and at most `blank_lines_upper_bound + 1`, or no longer than it was.
(`lower ≤ upper`; for `lower > upper` see `RF.Props.C08.clamp_lower_gt_upper_counterexample`.) -/
theorem missed_blank_lines_clamped (env : Env) (e : Entry) (v v' : Vis) (end_ : Nat)
    (snippet : List Char) (hspan : ValidSpan env v end_ snippet)
    (hts : env.config.hard_tabs = true → 1 ≤ env.config.tab_spaces) (hlu : env.lower ≤ env.upper)
    (h : run env e end_ v = some v') (l1 l2 : List Piece) (t : List Char)
    (hsplit : written v v' = l1 ++ ⟨.vspace, t⟩ :: l2) :
    ∃ k, t = List.replicate k '\n' ∧
      RF.Newline.trailingNewlines (v.buffer ++ render l1 ++ t) =
        RF.Newline.trailingNewlines (v.buffer ++ render l1) + k ∧
      env.lower + 1 ≤ RF.Newline.trailingNewlines (v.buffer ++ render l1) + k ∧
      RF.Newline.trailingNewlines (v.buffer ++ render l1) + k ≤
        max (RF.Newline.trailingNewlines (v.buffer ++ render l1)) (env.upper + 1) := by
  obtain ⟨v'', h', hres⟩ := run_spec env e v end_ snippet hspan hts
  cases h.symm.trans h'
  obtain ⟨n, hn⟩ := hres.vs l1 t l2 hsplit
  have hb := RF.Lemmas.Newline.clamp_bounds
    (RF.Newline.trailingNewlines (v.buffer ++ render l1)) n env.lower env.upper hlu
  unfold RF.Newline.clampBlank at hb
  refine ⟨_, hn, ?_, hb.1, hb.2⟩
  rw [hn, RF.Lemmas.Newline.trailingNewlines_push]

/-- `x;` LF LF LF LF `y` under the default bounds (0, 1): four line breaks asked for, two pushed. -/
example : (run (env0 ['x', ';', '\n', '\n', '\n', '\n', 'y']) .withIndent 6 (vis0 ['x', ';'] 2)).map
    (fun v' => v'.log.head?) = some (some ⟨.vspace, ['\n', '\n']⟩) := by decide +kernel

/-- `process_missing_code` on a slice `sub` of the snippet that starts at `line_start` with `last_wspace`
clear (which is how `write_snippet_inner` calls it: `RF.Lemmas.Missed.Inv`): no panic, and exactly
`pmcSpec indent sub` is appended to the buffer — the complete lines of `sub`, each through `keepLine`,
then the indented, trimmed rest if it is not blank. -/
theorem missed_code_kept_verbatim (env : Env) (snippet pre sub tail : List Char)
    (hs : snippet = pre ++ sub ++ tail) (st : RF.Missed.Status) (v : Vis)
    (hls : st.line_start = utf8Len pre) (hlw : st.last_wspace = none) (indent : List Char)
    (hind : indentStr? env v.blockIndent = some indent) :
    ∃ st' v', processMissingCode env snippet sub (utf8Len pre) st v = some (st', v') ∧
      v'.buffer = v.buffer ++ pmcSpec indent sub := by
  obtain ⟨st', _, _, h, _⟩ := processMissingCode_eq env snippet pre [] sub tail
    (by rw [List.append_nil]; exact hs) st v hls hlw indent hind
  rw [List.append_nil] at h
  exact ⟨st', _, h, by rw [(wrote_pushAll v _).buffer, pmcPieces_render]⟩

/-- "Verbatim modulo trailing white space", exactly: a complete line is copied as it is, or without its
last character, which is then white space — the latter precisely when the line ends in an odd number
of white-space characters. -/
theorem missed_code_line_verbatim (l : List Char) :
    (keepLine l = l ∨ ∃ c, isWs c = true ∧ l = keepLine l ++ [c]) ∧
      (keepLine l ≠ l → trailWs l % 2 = 1) := by
  refine ⟨keepLine_cases l, ?_⟩
  intro h
  unfold keepLine at h
  by_cases hodd : trailWs l % 2 = 1
  · exact hodd
  · rw [if_neg hodd] at h; exact absurd rfl h

/-- When every complete line ends in at most one blank, the lines come out without trailing white
space (`str::trim_end`). -/
theorem missed_code_stripped_partial (indent sub : List Char) (h : oneTrail [] sub = true) :
    pmcSpec indent sub = stripLines [] sub ++
      (if (trim (lastPart [] sub)).isEmpty then [] else indent ++ trim (lastPart [] sub)) := by
  unfold pmcSpec; rw [pmcLines_stripped [] sub h]

example : oneTrail [] ['a', ' ', '\n', 'b', '\r', '\n', ' ', 'c'] = true ∧
    pmcSpec [' ', ' '] ['a', ' ', '\n', 'b', '\r', '\n', ' ', 'c'] =
      ['a', '\n', 'b', '\n', ' ', ' ', 'c'] := by decide +kernel

/-- Two blanks at the end of a line are both kept (`last_wspace` is set by the first and cleared by the
second), three lose only the last: trailing white space is not stripped in general. -/
theorem missed_code_stripped_counterexample :
    pmcSpec [] ['a', ' ', ' ', '\n'] = ['a', ' ', ' ', '\n'] ∧
      pmcSpec [] ['a', ' ', ' ', ' ', '\n'] = ['a', ' ', ' ', '\n'] ∧
      stripLines [] ['a', ' ', ' ', '\n'] = ['a', '\n'] := by decide +kernel

/-- … seen through the whole call: `x;` then a line of code with two trailing blanks. -/
example : (run (env0 ['x', ';', '\n', 'a', ' ', ' ', '\n', 'y']) .withIndent 7 (vis0 ['x', ';'] 2)).map
    (·.buffer) = some ['x', ';', '\n', 'a', ' ', ' ', '\n', ' ', ' ', ' ', ' '] := by decide +kernel

/-! ## close_block: the comments in front of a closing brace (C03, C16) -/

/-- `close_block(span, unindent_comment)` on a span cut out of the file's text on character boundaries
never panics (`block_unindent` is guarded, every slice is on a boundary), provided
`hard_tabs → tab_spaces ≥ 1`. -/
theorem close_block_no_panic (env : Env) (pre snippet post : List Char)
    (hbig : env.big = pre ++ snippet ++ post) (unindentComment : Bool) (v : Vis)
    (hts : env.config.hard_tabs = true → 1 ≤ env.config.tab_spaces) :
    (closeBlock env (utf8Len pre) (utf8Len pre + utf8Len snippet) unindentComment v).isSome = true := by
  obtain ⟨v', _, _, _, h, _⟩ := closeBlock_spec env hts pre snippet post hbig unindentComment v
  rw [h]; rfl

/-- What `close_block` writes is, blanks aside, the comments of the snippet, the code in it that is more
than `;`, and the closing brace — in this order, nothing dropped, nothing added (when the comment
rewriter keeps the non-blank characters of a comment). -/
theorem close_block_content (env : Env) (pre snippet post : List Char)
    (hbig : env.big = pre ++ snippet ++ post) (unindentComment : Bool) (v v' : Vis)
    (hts : env.config.hard_tabs = true → 1 ≤ env.config.tab_spaces) (hrc : RcContent env.rc)
    (h : closeBlock env (utf8Len pre) (utf8Len pre + utf8Len snippet) unindentComment v = some v') :
    v'.buffer = v.buffer ++ render (written v v') ∧
      closeContentOk snippet (render (written v v')) = true := by
  obtain ⟨v'', items, o, nl, h', hitems, hnl, hp, _, hc⟩ :=
    closeBlock_spec env hts pre snippet post hbig unindentComment v
  cases h.symm.trans h'
  rw [written, hp.log, List.drop_left]
  refine ⟨hp.buffer, ?_⟩
  rw [closeContentOk, closeContent_eq hitems, render_append, squeeze_append, hc hrc, render_cons,
    squeeze_append, squeeze_of_allWs hnl]
  exact beq_self_eq_true _

/-- Below style edition 2024 `close_block` writes the comment slices of the snippet as comment pieces,
exactly once each and in order, each as `rewrite_comment` returned it for some shape (or as written
where it failed). -/
theorem close_block_comments_emitted_partial (env : Env) (pre snippet post : List Char)
    (hbig : env.big = pre ++ snippet ++ post) (unindentComment : Bool) (v v' : Vis)
    (hts : env.config.hard_tabs = true → 1 ≤ env.config.tab_spaces) (hed : env.ed2024 = false)
    (h : closeBlock env (utf8Len pre) (utf8Len pre + utf8Len snippet) unindentComment v = some v') :
    ∃ shapes : List Shape, shapes.length = (commentTexts snippet).length ∧
      commentPieces (written v v') =
        List.zipWith (fun c sh => rcOr env c sh) (commentTexts snippet) shapes := by
  obtain ⟨v'', items, o, nl, h', hitems, _, hp, hout, _⟩ :=
    closeBlock_spec env hts pre snippet post hbig unindentComment v
  cases h.symm.trans h'
  rw [written, hp.log, List.drop_left, commentPieces_append, commentTexts_eq snippet items hitems]
  exact List.append_nil _ ▸ hout.comments hed

/-- `{ x; /* c */ }`: the comment stays behind the statement, the brace goes to its own line. -/
example : (closeBlock (env0 ['{', ' ', 'x', ';', ' ', '/', '*', ' ', 'c', ' ', '*', '/', ' ', '}']) 4 13 false
      (vis0 ['{', ' ', 'x', ';'] 4)).map (·.buffer) =
    some ['{', ' ', 'x', ';', ' ', '/', '*', ' ', 'c', ' ', '*', '/', '\n', '}'] ∧
    closeContent [' ', '/', '*', ' ', 'c', ' ', '*', '/', ' '] = ['/', '*', 'c', '*', '/', '}'] := by
  constructor <;> decide +kernel

/-- A stray `;` in front of the brace is dropped: `closeContent` does not count it. -/
example : closeContent [' ', ';', ' '] = ['}'] := by decide +kernel

theorem close_block_tab_spaces_zero_counterexample :
    closeBlock { env0 ['{', '}'] with config := ⟨true, 0, 100, 80⟩ } 1 1 false (vis0 ['{'] 1) = none := by
  decide +kernel

end RF.Props.MissedSpans

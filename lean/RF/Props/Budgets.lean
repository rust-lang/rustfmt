import RF.Lemmas.Budgets
/-!
Theorems about the width-budget arithmetic (`RF/Model/Budgets.lean`), for ALL inputs.

* `budgets_no_panic` / `…_pinned_ok_iff` / `…_counterexample`: which of the modelled subtractions can abort a
  dev build, under exactly which condition, and a concrete input for each (C16).  The three `…_pinned`
  definitions are the unchecked subtractions, each reached with a real program (see the comments); the
  definitions without the suffix saturate.
* `budgets_exact`: closed forms.
* `budgets_monotone`: a wider page never shrinks a budget -- with the one exception proved in
  `multi_budget_visual_not_monotone_counterexample`.
* `ret_fits_exact`: when the return type stays on the signature line, with the accounting for a function
  without body (`ret_fits_bodiless_counterexample`: its `;` is counted as two columns).
* `budget_layout_independent`: the decisions read the measured widths only (C02); where the source layout
  does get in -- the last line of a left-hand side -- `rhs_depends_on_lhs_layout_counterexample`.
-/
namespace RF.Budgets
open RF.Shape

/-! ## C16: who can abort -/

theorem usub_ok_iff (a b : Nat) : (∃ n, usub a b = .ok n) ↔ b ≤ a := by
  unfold usub
  by_cases h : a < b
  · simp only [h, if_true]
    constructor
    · rintro ⟨n, h'⟩; cases h'
    · intro h'; omega
  · simp only [h, if_false]
    constructor
    · intro _; omega
    · intro _; exact ⟨_, rfl⟩

theorem usub_ok_eq (a b n : Nat) (h : usub a b = .ok n) : n = a - b := by
  unfold usub at h
  by_cases h' : a < b
  · simp only [h', if_true] at h; cases h
  · simp only [h', if_false] at h; cases h; rfl

theorem where_offset_width (c : Cfg) (s : Shape) :
    ((s.indent.add (Indent.new c.tab_spaces 0)).add_usize 6).width = s.indent.width + c.tab_spaces + 6 := by
  simp only [Indent.add, Indent.add_usize, Indent.new, Indent.width]; omega

/-- `rewrite_where_clause`, visual style, the unchecked subtraction: returns normally iff the where indentation plus
`where ` is inside the page. -/
theorem where_visual_budget_pinned_ok_iff (c : Cfg) (s : Shape) :
    (∃ n, where_visual_budget_pinned c s = .ok n) ↔ s.indent.width + c.tab_spaces + 6 ≤ c.max_width := by
  show (∃ n, usub c.max_width ((s.indent.add (Indent.new c.tab_spaces 0)).add_usize 6).width = .ok n) ↔ _
  rw [usub_ok_iff, where_offset_width]

/-- Reached by `mod a { mod b { mod c { fn f<T>() where T: Copy {} } } }` with
`indent_style=Visual,max_width=20`: panic at items.rs:3192. -/
theorem where_visual_budget_pinned_counterexample :
    where_visual_budget_pinned { max_width := 20, tab_spaces := 4 } ⟨8, ⟨12, 0⟩, 0⟩ = .error .subOverflow := by
  decide +kernel

/-- where it returns, the unchecked and the saturating subtraction agree -/
theorem where_visual_budget_agrees (c : Cfg) (s : Shape) (n : Nat)
    (h : where_visual_budget_pinned c s = .ok n) : where_visual_budget c s = n := by
  have h' : usub c.max_width ((s.indent.add (Indent.new c.tab_spaces 0)).add_usize 6).width = .ok n := h
  rw [usub_ok_eq _ _ _ h']; rfl

/-- `format_trait`, the unchecked subtraction `block_indent + tab_spaces - 1`. -/
theorem trait_where_width_pinned_ok_iff (c : Cfg) (i : Indent) :
    (∃ n, trait_where_width_pinned c i = .ok n) ↔ 1 ≤ i.block_indent + c.tab_spaces := by
  show (∃ n, usub (i.block_indent + c.tab_spaces) 1 = .ok n) ↔ _
  rw [usub_ok_iff]

/-- Reached by `trait Aaaaaaaaaaaaaa<Tttttttttttttttttttttt, Uuuuuuuuuuuuuuuuuuuuuu> where T: Copy {}` with
`where_single_line=true,tab_spaces=0,max_width=40,comment_width=10`: panic at items.rs:1240. -/
theorem trait_where_width_pinned_counterexample :
    trait_where_width_pinned { max_width := 40, tab_spaces := 0 } ⟨0, 0⟩ = .error .subOverflow := by decide +kernel

/-- `format_tuple_struct`, the unchecked subtraction `tab_spaces - 1`. -/
theorem tuple_struct_where_indent_pinned_ok_iff (c : Cfg) (i : Indent) :
    (∃ r, tuple_struct_where_indent_pinned c i = .ok r) ↔ 1 ≤ c.tab_spaces := by
  rw [← usub_ok_iff]
  unfold tuple_struct_where_indent_pinned
  cases usub c.tab_spaces 1 <;> simp

/-- Reached by `struct Aaaa<Tttttttttt, Uuuuuuuuuu>(T) where T: Copy;` with
`indent_style=Visual,tab_spaces=0,max_width=30`: panic at items.rs:1670. -/
theorem tuple_struct_where_indent_pinned_counterexample :
    tuple_struct_where_indent_pinned { max_width := 30, tab_spaces := 0 } ⟨0, 0⟩ = .error .subOverflow := by
  decide +kernel

/-- EXACT precondition under which every pinned subtraction of the modelled code returns normally.
(`compute_budgets_for_params`, `generics_shape_from_config`, `cond_budget`, `rhs_orig_shape`,
`shape_from_rhs_tactic`, `where_clause_shape` contain no unchecked subtraction at all: they are total
functions into `Nat`, `Option` or `Except ExceedsMaxWidthError`.) -/
theorem budgets_no_panic (c : Cfg) (s : Shape) (i : Indent) :
    ((∃ n, where_visual_budget_pinned c s = .ok n) ∧ (∃ n, trait_where_width_pinned c i = .ok n) ∧
      (∃ r, tuple_struct_where_indent_pinned c i = .ok r)) ↔
    (s.indent.width + c.tab_spaces + 6 ≤ c.max_width ∧ 1 ≤ c.tab_spaces) := by
  rw [where_visual_budget_pinned_ok_iff, trait_where_width_pinned_ok_iff,
    tuple_struct_where_indent_pinned_ok_iff]
  omega

example : (⟨60, ⟨8, 0⟩, 0⟩ : Shape).indent.width + (4 : Nat) + 6 ≤ 100 ∧ 1 ≤ (4 : Nat) := by decide +kernel

/-- `ControlFlow::rewrite_cond`: with the subtraction unchecked the one-line budget aborts exactly when
keyword, blank and ` {` do not fit behind the used width; the code saturates, so `cond_budget` is total. -/
theorem cond_one_line_budget_unchecked_ok_iff (c : Cfg) (b : CondBudget) :
    (∃ n, cond_one_line_budget_unchecked c b = .ok n) ↔
      b.constr_shape.used_width + b.offset +
        (if c.control_brace_style ≠ .alwaysNextLine then 2 else 0) ≤ c.max_width := by
  show (∃ n, usub c.max_width (b.constr_shape.used_width + b.offset +
        (if c.control_brace_style ≠ .alwaysNextLine then 2 else 0)) = .ok n) ↔ _
  rw [usub_ok_iff]

/-- `if a {` at indentation 16 on a page of 20 columns: the condition fits (`if a` ends in column 20), the
budget with an unchecked subtraction would abort, the real one is 0 and the brace moves down. -/
theorem cond_one_line_budget_unchecked_counterexample :
    let c : Cfg := { max_width := 20, tab_spaces := 4 }
    let b : CondBudget := ⟨⟨4, ⟨16, 0⟩, 0⟩, 3, 0⟩
    cond_budget c ⟨4, ⟨16, 0⟩, 0⟩ false 2 0 = .ok b ∧
    cond_one_line_budget_unchecked c b = .error .subOverflow ∧
    rewrite_cond c ⟨4, ⟨16, 0⟩, 0⟩ false true 1 = some ⟨false, true, 5⟩ := by
  decide +kernel

/-! ## closed forms -/

/-- `one_line_budget = max_width − (indent + result + ret + overhead + brace)`, 0 when the signature so
far holds a line break or the vertical layout is forced; in block style
`multi_line_budget = max_width − (indent + tab_spaces + 1)` and the parameters are indented one block. -/
theorem budgets_exact (c : Cfg) (rl : Nat) (rn : Bool) (i : Indent) (ret : Nat) (b : FnBraceStyle)
    (force : Bool) :
    (compute_budgets_for_params c rl rn i ret b force).1 =
      (if rn = false ∧ force = false then c.max_width - params_used_space i rl ret b else 0) ∧
    (c.indent_style = .block →
      (compute_budgets_for_params c rl rn i ret b force).2 =
        (c.max_width - (i.width + c.tab_spaces + 1), i.blockIndent c.shape)) :=
  ⟨one_line_budget_eq c rl rn i ret b force, fun h => block_multi_budget_eq c h rl rn i ret b force⟩

/-- the overhead in `params_used_space`: `()` + blank before the return type + ` {` / `;` -/
theorem params_used_space_exact (i : Indent) (rl ret : Nat) (b : FnBraceStyle) :
    params_used_space i rl ret b =
      i.width + rl + ret + (if ret = 0 then 2 else 3) +
        (match b with | .none => 1 | .sameLine => 2 | .nextLine => 0) := by
  unfold params_used_space; cases b <;> simp <;> omega

example : compute_budgets_for_params { max_width := 100, tab_spaces := 4 } 10 false ⟨4, 0⟩ 6 .sameLine false
    = (75, 91, ⟨8, 0⟩) := by decide +kernel

/-- `where_clause_shape` (block style) in closed form: one block further in, the rest of the page minus
the comma; refused when that is less than nothing. -/
theorem where_clause_shape_exact (c : Cfg) (s : Shape)
    (h : s.indent.block_indent + c.tab_spaces + 1 ≤ c.max_width) :
    where_clause_shape c s =
      .ok ⟨c.max_width - s.indent.block_indent - c.tab_spaces - 1,
           ⟨s.indent.block_indent + c.tab_spaces, 0⟩, 0⟩ := by
  have h1 : ¬ (c.max_width - (s.indent.block_indent + 0) < c.tab_spaces) := by omega
  have h2 : ¬ (c.max_width - (s.indent.block_indent + 0) - c.tab_spaces < 1) := by omega
  simp only [where_clause_shape, Shape.block_left, Shape.sub_width, Shape.sub_width_opt, checkedSub,
    Shape.block, Shape.with_max_width, Shape.block_indent, Indent.block_only, Indent.width,
    Cfg.shape, Indent.new, saturatingSub, if_true, h1, h2, if_false, Option.map]
  simp only [Nat.add_zero]

/-! ## monotonicity -/

/-- A wider page does not shrink the one-line budget, nor (block style) the multi-line budget; the
indentation of the parameters does not move. -/
theorem budgets_monotone (c : Cfg) (w : Nat) (hw : c.max_width ≤ w) (rl : Nat) (rn : Bool) (i : Indent)
    (ret : Nat) (b : FnBraceStyle) (force : Bool) :
    (compute_budgets_for_params c rl rn i ret b force).1 ≤
      (compute_budgets_for_params (c.withWidth w) rl rn i ret b force).1 ∧
    (c.indent_style = .block →
      (compute_budgets_for_params c rl rn i ret b force).2.1 ≤
        (compute_budgets_for_params (c.withWidth w) rl rn i ret b force).2.1 ∧
      (compute_budgets_for_params c rl rn i ret b force).2.2 =
        (compute_budgets_for_params (c.withWidth w) rl rn i ret b force).2.2) := by
  constructor
  · rw [one_line_budget_eq, one_line_budget_eq]
    split
    · simp only [withWidth_max]; omega
    · exact Nat.le_refl 0
  · intro h
    have h' : (c.withWidth w).indent_style = .block := h
    rw [block_multi_budget_eq c h, block_multi_budget_eq (c.withWidth w) h']
    simp only [withWidth_max, withWidth_tab]
    constructor
    · omega
    · simp [Indent.blockIndent, Cfg.shape, Cfg.withWidth]

/-- "fits at width w ⇒ fits at w + 1": horizontal parameters stay horizontal on a wider page. -/
theorem params_fit_monotone (c : Cfg) (w : Nat) (hw : c.max_width ≤ w) (ps : List Nat) (rl : Nat) (i : Indent)
    (ret : Nat) (b : FnBraceStyle)
    (h : params_total ps ≤ (compute_budgets_for_params c rl false i ret b false).1) :
    params_total ps ≤ (compute_budgets_for_params (c.withWidth w) rl false i ret b false).1 :=
  Nat.le_trans h (budgets_monotone c w hw rl false i ret b false).1

/-- Visual style: one more column can SHRINK the multi-line budget (the one-line attempt becomes possible
and aligns the parameters behind the long name). -/
theorem multi_budget_visual_not_monotone_counterexample :
    let c : Cfg := { max_width := 32, tab_spaces := 4, indent_style := .visual }
    (compute_budgets_for_params c 30 false ⟨0, 0⟩ 0 .nextLine false).2.1 = 27 ∧
    (compute_budgets_for_params (c.withWidth 33) 30 false ⟨0, 0⟩ 0 .nextLine false).2.1 = 0 := by
  decide +kernel

/-- the control-flow budget is monotone as well -/
theorem cond_budget_monotone (c : Cfg) (w : Nat) (hw : c.max_width ≤ w) (s : Shape) (k l : Nat)
    (b b' : CondBudget) (h : cond_budget c s false k l = .ok b)
    (h' : cond_budget (c.withWidth w) s false k l = .ok b') : b.one_line_budget ≤ b'.one_line_budget := by
  unfold cond_budget at h h'
  simp only [Bool.false_eq_true, if_false] at h h'
  cases h; cases h'
  simp only [saturatingSub, Shape.used_width, withWidth_max]
  have : (c.withWidth w).control_brace_style = c.control_brace_style := rfl
  rw [this]; omega

/-! ## the return type -/

/-- What the code tests (block style, a parameter list that is not empty and stays on the line of `fn`):
the return type stays iff the one-line signature INCLUDING two more columns fits when there is no where
clause -- ` {` for a function with body, and the same two columns for the single `;` of one without. -/
theorem ret_fits_exact (c : Cfg) (s : Sig) (hb : c.indent_style = .block) (hp : s.params ≠ [])
    (hr : s.ret ≠ 0) (hin : (sig_layout c s).params_in_block = false) :
    (sig_layout c s).ret_should_indent = false ↔
      s.indent.width + sig_one_line_width s + (if s.preds = 0 then 2 else 0) ≤ c.max_width := by
  have hne : s.params.isEmpty = false := by cases h : s.params with | nil => exact absurd h hp | cons _ _ => rfl
  unfold sig_layout at hin ⊢
  simp only [hb, hne] at hin ⊢
  simp only [sig_length, sig_one_line_width, param_str_len, hr] at hin ⊢
  simp at hin ⊢
  simp [hin]
  split <;> omega

/-- A trait method whose one-line form with its `;` is exactly `max_width` wide: the parameters fit (their
budget counts `;` as one column), the return type moves all the same (`sig_length` counts two). -/
theorem ret_fits_bodiless_counterexample :
    let c : Cfg := { max_width := 40, tab_spaces := 4 }
    let s : Sig := ⟨⟨4, 0⟩, 12, [6, 6], 6, 0, .none⟩
    s.indent.width + sig_one_line_width s + 1 = c.max_width ∧
    (sig_layout c s).params_in_block = false ∧ (sig_layout c s).ret_should_indent = true ∧
    sig_one_line c s = false ∧
    -- the same signature with a body and ` {` ending in the same column stays on one line
    sig_one_line c { s with brace := .sameLine, prefix_len := 11 } = true := by
  decide +kernel

example : let c : Cfg := { max_width := 60, tab_spaces := 4 }
    let s : Sig := ⟨⟨4, 0⟩, 12, [6, 6], 6, 0, .sameLine⟩
    (sig_layout c s).params_in_block = false ∧ (sig_layout c s).ret_should_indent = false := by decide +kernel

/-- Function with body, brace on the same line, no where clause: everything is one line iff the line
with its ` {` is at most `max_width` wide (block style, Tall). -/
theorem sig_one_line_exact (c : Cfg) (s : Sig) (hb : c.indent_style = .block) (ht : c.fn_params_layout = .tall)
    (hp : s.params ≠ []) (hr : s.ret ≠ 0) (hw : s.preds = 0) (hbr : s.brace = .sameLine) :
    sig_one_line c s = true ↔ s.indent.width + sig_one_line_width s + 2 ≤ c.max_width := by
  have hne : s.params.isEmpty = false := by cases h : s.params with | nil => exact absurd h hp | cons _ _ => rfl
  unfold sig_one_line sig_layout
  simp only [hb, hne, ht, params_tactic, one_line_budget_eq, params_used_space, hbr, hr, hw]
  simp only [sig_length, sig_one_line_width, param_str_len, hr, hw]
  simp
  by_cases h : params_total s.params ≤ c.max_width - (s.indent.width + s.prefix_len + s.ret + 3 + 2)
  · simp [h]
    by_cases h0 : c.max_width - (s.indent.width + s.prefix_len + s.ret + 3 + 2) = 0
    · have : params_total s.params = 0 := by omega
      omega
    · omega
  · simp [h]
    omega

/-! ## C02: what the budgets read -/

/-- A source rendering of a signature: the measured pieces and, separately, how the source laid them
out (line breaks between the pieces, blanks).  `measure` is what `rewrite_fn_base` is handed. -/
structure SrcSig where
  sig : Sig
  /-- positions of the line breaks of the source text between the tokens of the signature -/
  breaks : List Nat
  /-- runs of blanks between tokens -/
  blanks : List Nat

def SrcSig.measure (x : SrcSig) : Sig := x.sig

/-- Two sources with the same tokens (hence the same rendered pieces) get the same budgets and the same
layout, however they were laid out; in particular the output of the formatter, fed back, gets the
budgets its source got. -/
theorem budget_layout_independent (c : Cfg) (a b : SrcSig) (h : a.sig = b.sig) :
    sig_layout c a.measure = sig_layout c b.measure ∧ sig_one_line c a.measure = sig_one_line c b.measure ∧
    compute_budgets_for_params c a.measure.prefix_len false a.measure.indent a.measure.ret a.measure.brace false =
      compute_budgets_for_params c b.measure.prefix_len false b.measure.indent b.measure.ret b.measure.brace false := by
  simp only [SrcSig.measure, h, and_self]

example : (⟨⟨⟨0, 0⟩, 10, [4], 6, 0, .sameLine⟩, [3, 5], [1]⟩ : SrcSig).sig =
    (⟨⟨⟨0, 0⟩, 10, [4], 6, 0, .sameLine⟩, [], [2, 2]⟩ : SrcSig).sig := rfl

/-- Where the layout of a piece does get in: `rewrite_assign_rhs_expr` measures the LAST LINE of the
left-hand side.  The same left-hand side of 12 columns on one line, or broken after its first 3 columns
(last line 9 wide inside an indentation of 4), puts a right-hand side of 8 columns on the same line in
one case and on the next line in the other. -/
theorem rhs_depends_on_lhs_layout_counterexample :
    let c : Cfg := { max_width := 20, tab_spaces := 4 }
    let s : Shape := ⟨20, ⟨4, 0⟩, 0⟩
    choose_rhs c (rhs_orig_shape s 12 false) .default (some 8) (some 8) false = .nextLine ∧
    choose_rhs c (rhs_orig_shape s 9 true) .default (some 8) (some 8) false = .sameLine := by
  decide +kernel

/-- and it is the only way: for a given last-line measure the shape of the right-hand side is fixed -/
theorem rhs_orig_shape_exact (s : Shape) (llw : Nat) (h : llw + 1 ≤ s.width) :
    rhs_orig_shape s llw false = ⟨s.width - (llw + 1), s.indent, s.offset + (llw + 1)⟩ := by
  unfold rhs_orig_shape Shape.offset_left_opt Shape.sub_width_opt Shape.add_offset checkedSub
  simp only [saturatingSub, Bool.false_eq_true, if_false, Nat.sub_zero]
  have : ¬ (s.width < llw + 1) := by omega
  simp [this]

end RF.Budgets

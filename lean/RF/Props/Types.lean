import RF.Model.Types
import RF.Lemmas.Types
/-!
TYPES — what is proved about the composition logic of `src/types.rs` (`RF/Model/Types.lean`).

`types_tokens_preserved` (and its siblings for bounds, generic parameters and where predicates): for
EVERY tree, EVERY position and EVERY oracle (= every combination of outcomes of the layout heuristics:
which sub-rewrites return a text, which of two attempts is taken, whether `join_bounds` retries), the
rewriter with `Env.pinned = false` returns `none` (the caller keeps the source text) or exactly the
canonical tokens of the tree.  No piece is silently omitted.

With `Env.pinned = true` (`rewrite_bound_params` answers `None` both for "no parameter" and for "a parameter did
not rewrite", and its callers read `None` as "no binder") the rewriters do not satisfy it (`…_counterexample`, one per
caller); they do on trees whose binders hold lifetimes only (`…_partial`): the binders of stable Rust.
-/
namespace RF.Types
open RF.Tok

/-- The type rewriter (`impl Rewrite for ast::Ty`) never omits, adds, reorders or alters a token. -/
theorem types_tokens_preserved (abi : Bool) (fits : Piece → Bool) (p : Piece) (t : Ty) :
    rwTy ⟨false, abi, fits⟩ p t = none ∨ rwTy ⟨false, abi, fits⟩ p t = some (canonTy abi t) :=
  rwTy_ok ⟨false, abi, fits⟩ t p (Or.inl rfl)

/-- `impl Rewrite for ast::GenericBounds` / `join_bounds`. -/
theorem bounds_tokens_preserved (abi : Bool) (fits : Piece → Bool) (p : Piece) (bs : Bounds) :
    rwBoundsJoined ⟨false, abi, fits⟩ p bs = none
      ∨ rwBoundsJoined ⟨false, abi, fits⟩ p bs = some (sepBy plus (canonBounds abi bs)) :=
  rwBoundsJoined_ok ⟨false, abi, fits⟩ p bs (Or.inl rfl)

/-- `impl Rewrite for ast::GenericParam`, item by item (`rewrite_bound_params` joins them with `, `). -/
theorem params_tokens_preserved (abi : Bool) (fits : Piece → Bool) (p : Piece) (i : Nat) (ps : Params) :
    rwParams ⟨false, abi, fits⟩ p i ps = none ∨ rwParams ⟨false, abi, fits⟩ p i ps = some (canonParams abi ps) :=
  rwParams_ok ⟨false, abi, fits⟩ ps p i (Or.inl rfl)

/-- The induction step for where predicates: `Env.pinned = false`, or a tree whose binders hold lifetimes only. -/
theorem rwPred_ok (e : Env) (p : Piece) (w : Pred) (h : e.pinned = false ∨ lbPred w = true) :
    rwPred e p w = none ∨ rwPred e p w = some (canonPred e.abi w) :=
  match w, h with
  | .bound b t bs, h =>
    have hb := or_and_left (or_and_left h)
    (rwTy_ok e t (p ++ [0]) (or_and_right (or_and_left h))).bind <|
      (binderPre_ok' e.pinned _ (rwParams_ok e b (p ++ [1]) 0 hb) (hb.imp_right (rwParams_lifetimes e b _ _))).bind <|
      (pick_ok _ (rwBoundsJoined_ok e (p ++ [2]) bs (or_and_right h))
        (rwBoundsJoined_ok e (p ++ [3]) bs (or_and_right h))).bind (.pure _)
  | .region _ _, _ => att_ok _ (.inr rfl)
  | .eq l r, h =>
    (rwTy_ok e l (p ++ [0]) (or_and_left h)).bind <|
      (pick_ok _ (rwTy_ok e r (p ++ [1]) (or_and_right h)) (rwTy_ok e r (p ++ [2]) (or_and_right h))).bind (.pure _)

/-- `impl Rewrite for ast::WherePredicate`. -/
theorem pred_tokens_preserved (abi : Bool) (fits : Piece → Bool) (p : Piece) (w : Pred) :
    rwPred ⟨false, abi, fits⟩ p w = none ∨ rwPred ⟨false, abi, fits⟩ p w = some (canonPred abi w) :=
  rwPred_ok ⟨false, abi, fits⟩ p w (Or.inl rfl)

/-! ### `Env.pinned = true` on the trees of stable Rust

Binders that hold lifetimes only (`lbTy`, `lbPred`: decidable on the tree) always rewrite, so the old
`rewrite_bound_params` never returned its ambiguous `None` on them. -/

theorem types_tokens_preserved_partial (abi : Bool) (fits : Piece → Bool) (p : Piece) (t : Ty)
    (h : lbTy t = true) :
    rwTy ⟨true, abi, fits⟩ p t = none ∨ rwTy ⟨true, abi, fits⟩ p t = some (canonTy abi t) :=
  rwTy_ok ⟨true, abi, fits⟩ t p (Or.inr h)

theorem pred_tokens_preserved_partial (abi : Bool) (fits : Piece → Bool) (p : Piece) (w : Pred)
    (h : lbPred w = true) :
    rwPred ⟨true, abi, fits⟩ p w = none ∨ rwPred ⟨true, abi, fits⟩ p w = some (canonPred abi w) :=
  rwPred_ok ⟨true, abi, fits⟩ p w (Or.inr h)

/-- Non-vacuity of the hypothesis: `for<'a, 'b: 'a> fn(&'a T)` and `for<'a> T: Tr` are such trees. -/
example : lbTy (.bareFn (.lifetime "'a".toList [] (.lifetime "'b".toList ["'a".toList] .nil)) false .none
    (.cons none (.ref (some "'a".toList) false (.path false (.plain "T".toList .nil))) .nil) false .none) = true := by
  decide +kernel
example : lbPred (.bound (.lifetime "'a".toList [] .nil) (.path false (.plain "T".toList .nil))
    (.trait false .nil 0 false 0 false (.plain "Tr".toList .nil) .nil)) = true := by decide +kernel

/-! ### `Env.pinned = true`: a binder that does not fit is dropped

`T` with a trait bound is a parameter that can fail to rewrite (a lifetime cannot).  The oracle lets
every piece succeed except that parameter. -/

def nm (s : String) : Name := s.toList
/-- `T: Tr` as the only parameter of a binder -/
def binderT : Params := .type (nm "T") (.trait false .nil 0 false 0 false (.plain (nm "Tr") .nil) .nil) .none .nil
def tyT : Ty := .path false (.plain (nm "T") .nil)

/-- `for<T: Tr> fn(T)` came out as `fn(T)` (`rewrite_bare_fn`). -/
theorem types_tokens_preserved_counterexample :
    ∃ (fits : Piece → Bool) (t : Ty) (r : Toks),
      rwTy ⟨true, true, fits⟩ [] t = some r ∧ r ≠ canonTy true t ∧ r = [kw "fn", mkO '(', tI (nm "T"), mkC ')'] :=
  ⟨failing [[0, 0]], .bareFn binderT false .none (.cons none tyT .nil) false .none,
    [kw "fn", mkO '(', tI (nm "T"), mkC ')'], by decide⟩

/-- `unsafe<T: Tr> &T` came out as `&T`: another type (`TyKind::UnsafeBinder`). -/
theorem unsafe_binder_counterexample :
    ∃ (fits : Piece → Bool) (t : Ty) (r : Toks),
      rwTy ⟨true, true, fits⟩ [] t = some r ∧ r ≠ canonTy true t ∧ r = [tP '&', tI (nm "T")] :=
  ⟨failing [[0, 0]], .unsafeBinder binderT (.ref none false tyT), [tP '&', tI (nm "T")], by decide⟩

/-- `dyn for<T: Tr> Fn(T)` came out as `dyn Fn(T)` (`PolyTraitRef`). -/
theorem bounds_tokens_preserved_counterexample :
    ∃ (fits : Piece → Bool) (t : Ty) (r : Toks),
      rwTy ⟨true, true, fits⟩ [] t = some r ∧ r ≠ canonTy true t
        ∧ r = [kw "dyn", tI (nm "Fn"), mkO '(', tI (nm "T"), mkC ')'] :=
  ⟨failing [[0, 0, 0, 0], [1, 0, 0, 0]],
    .traitObj 1 (.trait false binderT 0 false 0 false (.fn (nm "Fn") (.cons tyT .nil) .none .nil) .nil),
    [kw "dyn", tI (nm "Fn"), mkO '(', tI (nm "T"), mkC ')'], by decide⟩

/-- `for<T: Tr> A: B` came out as `A: B` (`WherePredicate`). -/
theorem pred_tokens_preserved_counterexample :
    ∃ (fits : Piece → Bool) (w : Pred) (r : Toks),
      rwPred ⟨true, true, fits⟩ [] w = some r ∧ r ≠ canonPred true w
        ∧ r = [tI (nm "A"), tP ':', tI (nm "B")] :=
  ⟨failing [[1, 0]],
    .bound binderT (.path false (.plain (nm "A") .nil)) (.trait false .nil 0 false 0 false (.plain (nm "B") .nil) .nil),
    [tI (nm "A"), tP ':', tI (nm "B")], by decide⟩

/-- Non-vacuity: `Env.pinned = false`, same trees, same oracles: the rewrite fails as a whole. -/
example : rwTy ⟨false, true, failing [[0, 0]]⟩ [] (.bareFn binderT false .none (.cons none tyT .nil) false .none) = none := by
  decide +kernel
example : rwPred ⟨false, true, failing [[1, 0]]⟩ []
    (.bound binderT (.path false (.plain (nm "A") .nil)) (.trait false .nil 0 false 0 false (.plain (nm "B") .nil) .nil))
    = none := by decide +kernel
/-- … and with every piece fitting it returns the canonical tokens, binder included. -/
example : rwTy ⟨false, true, fun _ => true⟩ [] (.bareFn binderT false .none (.cons none tyT .nil) false .none)
    = some [kw "for", tP '<', tI (nm "T"), tP ':', tI (nm "Tr"), tP '>', kw "fn", mkO '(', tI (nm "T"), mkC ')'] := by
  decide +kernel

end RF.Types

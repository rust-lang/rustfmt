import RF.Gen.Gates

/-!
# C09  Released style editions are frozen — the gate discipline

`RF.Gen.Gates` is regenerated from /repo on every run: `gates` is every comparison
`<style edition> op StyleEdition::EditionNNNN` in the formatting code (the translator refuses when the
style edition is observed in any other way), `defaults` the per-edition default table, `armOf` the arm of
the defaults macro each edition takes; `pinned*` are the same data at the audited commit.

What these theorems establish: the formatting code cannot tell 2015, 2018 and 2021 apart (every gate
and every default is constant on them), and the set of gates that distinguish released editions, and the
default table released editions see, are exactly those of the audited commit.  What they do not
establish: that an *ungated* change of layout did not happen — that half of C09 is the differential search
against the frozen binary.
-/
namespace RF.Props.C09
open RF.Gates RF.Gen.Gates

/-- Any two editions are comparable (editions are compared through `rank`). -/
theorem order_total : ∀ a b : StyleEdition, a.rank ≤ b.rank ∨ b.rank ≤ a.rank := by
  intro a b; omega

theorem rank_injective : ∀ a b : StyleEdition, a.rank = b.rank → a = b := by
  have inv : ∀ a : StyleEdition, StyleEdition.all[a.rank]? = some a := by intro a; cases a <;> rfl
  intro a b h
  have := inv a
  rw [h, inv b] at this
  exact (Option.some.inj this).symm

/-- Every gate of the current tree has the same truth value under 2015, 2018 and 2021. -/
theorem gates_const_2015_2018_2021 :
    ∀ g ∈ gates, g.eval .e2015 = g.eval .e2018 ∧ g.eval .e2018 = g.eval .e2021 := by
  decide +kernel

/-- Every default is the same under 2015, 2018 and 2021. -/
theorem defaults_const_2015_2018_2021 :
    ∀ r ∈ defaults, defaultOf armOf r .e2015 = defaultOf armOf r .e2018 ∧
      defaultOf armOf r .e2018 = defaultOf armOf r .e2021 := by
  decide +kernel

/-- The gates that distinguish released editions are, file by file and with multiplicity, those of the
audited commit (a new distinguishing gate, a removed one, or a moved boundary breaks this; a gate on
an unreleased edition such as `>= Edition2027` does not). -/
theorem gates_frozen : frozenOK gates pinnedGates = true := by
  decide +kernel

/-- The default every released edition gets, option by option, is the audited one. -/
theorem defaults_frozen :
    ∀ e ∈ StyleEdition.released,
      defaults.map (fun r => (r.1, defaultOf armOf r e)) =
      pinnedDefaults.map (fun r => (r.1, defaultOf armOf r e)) := by
  decide +kernel

/-- Parametricity: a formatter that observes the style edition only through the gates and the defaults
cannot distinguish two editions on which all gates and defaults agree. -/
theorem indistinguishable {Out : Type} (fmt : (List Bool) → (List (List Nat)) → Out)
    (e1 e2 : StyleEdition)
    (hg : gates.map (·.eval e1) = gates.map (·.eval e2))
    (hd : defaults.map (defaultOf armOf · e1) = defaults.map (defaultOf armOf · e2)) :
    fmt (gates.map (·.eval e1)) (defaults.map (defaultOf armOf · e1)) =
    fmt (gates.map (·.eval e2)) (defaults.map (defaultOf armOf · e2)) := by
  rw [hg, hd]

/-- …hence 2015, 2018 and 2021 produce the same output for such a formatter. -/
theorem editions_2015_2018_2021_same {Out : Type} (fmt : (List Bool) → (List (List Nat)) → Out) :
    fmt (gates.map (·.eval .e2015)) (defaults.map (defaultOf armOf · .e2015)) =
      fmt (gates.map (·.eval .e2018)) (defaults.map (defaultOf armOf · .e2018)) ∧
    fmt (gates.map (·.eval .e2018)) (defaults.map (defaultOf armOf · .e2018)) =
      fmt (gates.map (·.eval .e2021)) (defaults.map (defaultOf armOf · .e2021)) := by
  have hg := gates_const_2015_2018_2021
  have hd := defaults_const_2015_2018_2021
  exact ⟨indistinguishable fmt _ _ (List.map_congr_left fun g h => (hg g h).1) (List.map_congr_left fun r h => (hd r h).1),
    indistinguishable fmt _ _ (List.map_congr_left fun g h => (hg g h).2) (List.map_congr_left fun r h => (hd r h).2)⟩

/-! Non-vacuity and sensitivity: the gate list is not empty, some gate does distinguish 2021 from 2024,
and `frozenOK` rejects a moved boundary. -/
example : gates.length > 30 := by decide +kernel
example : ∃ g ∈ gates, g.eval .e2021 ≠ g.eval .e2024 := by decide +kernel
example : frozenOK [⟨0, .le, .e2018⟩] [⟨0, .le, .e2021⟩] = false := by decide
example : frozenOK [⟨0, .ge, .e2027⟩, ⟨1, .le, .e2021⟩] [⟨1, .le, .e2021⟩] = true := by decide

end RF.Props.C09

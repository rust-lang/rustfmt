import RF.Lemmas.TokEquiv

/-!
# C01  Formatting preserves the meaning of the program — the validator is sound for hard tokens

There is no model of rustfmt's rewriters here.  `RF.Tok.equiv cfg a b` (op `tok.equiv`) is the
*validator* that judges every (input tokens, output tokens, configuration) triple the real formatter
produces in `rfverif c01`; this file proves, FOR ALL token lists, what an `ok` of the validator
certifies.

* `soft cfg t`: delimiters, `,` `;` `|` `<` `>` `:` `+` (a trailing `+` of a bound list), the keywords
  `where` `for` `in`, the literal `"C"` and (only with `use_try_shorthand`) `try` / `r#try` `!` `?`.  Everything else is *hard*: identifiers,
  lifetimes, literals, every other keyword and operator, doc comments (`hard cfg t = !soft cfg t`).
* `norm cfg = post cfg ∘ regions cfg ∘ mid cfg`.  `mid` re-spells single tokens (rules 10–13: doc
  comments, string continuations, literal spelling, `x.0.0`), `regions` replaces every maximal run
  of `use` / `mod x;` / `extern crate` items and every run of `#[derive(..)]` by one block of
  canonically ordered leaves (rule 4), `post` is the chain of 16 separator / delimiter rules
  (rules 1–3, 5–9, 13).
* `hardSeq cfg ts`: the certificate.  The list of segments of `mid cfg ts` — a hard token outside
  every reorder region, or a non-empty reorder region as (kind, canonical leaf list) — in order.

Main results

* `norm_rule_local`  one locality lemma per rule of `post`: the rule only
  deletes / inserts / rewrites tokens of the class it names; every other token is kept, in order.
  This is what keeps the closed list closed.
* `norm_hard_preserved`  the hard tokens of the normal form are exactly the rendering of `hardSeq`:
  no rule of `post` can add, drop, reorder or alter a hard token (options `use_field_init_shorthand`
  and `condense_wildcard_suffixes` off; with them on see `norm_weak_preserved`).
* `equiv_sound`  an accepted pair has EQUAL certificates: the same hard tokens in the same order
  outside reorder regions, and region by region the same canonical leaves — by
  `region_leaves_sound` the same list of derive paths, a permutation of the `mod` / `extern crate`
  items, the same set of imported paths.  So the validator cannot accept an output in which an
  identifier, lifetime, literal, keyword, operator, visibility, attribute or doc comment was added,
  dropped, reordered or altered outside the closed list.  `equiv_rejects` is the contrapositive.
* `mid_local`, `mid_plain`, `canonTok_other`, `resplit_text`: `mid` touches only literals, doc
  comments and the `.` of `x.0.0` (with `normalize_doc_attributes` also the tokens of a
  `#[doc = ".."]` attribute); it is the token-wise map `canonTok` after `resplit`, which keeps the
  concatenated text.
* `norm_hard_preserved_fis`, `equiv_sound_fis`  the same for `use_field_init_shorthand = true`, up to
  `squash` (an identifier that repeats the hard token before it is dropped: `a: a` ~ `a`).
* `literal_canon_value`  the literal-spelling canonicalisations of the validator keep the value.
* `validator_distinguishes`  the validator (which compares soft tokens as well) tells apart 1-tuples,
  tuple arguments, statements vs tail expressions, dropped parentheses, `a & &b` vs `a && b`.
* `tokEquiv_refl`, `tokEquiv_symm`, `tokEquiv_trans`: the validator is an equivalence relation.
* `norm_idem_counterexample`: `norm` is NOT idempotent on arbitrary token lists (`< , >`); nothing
  above needs idempotence, the validator being the kernel of `norm`.

What is not proved here: that the SOFT tokens of an accepted pair mean the same (which
parentheses, braces and separators are redundant) — that rests on the output re-parsing; and that
rustfmt's output is accepted for every program — that is the search of `rfverif c01`.
-/
namespace RF.Props.C01
open RF.Tok

/-! ## The validator is an equivalence relation -/

theorem equiv_iff_norm_eq (cfg : Cfg) (a b : List Tok) : equiv cfg a b = true ↔ norm cfg a = norm cfg b := by
  unfold equiv; exact beq_iff_eq

theorem tokEquiv_refl (cfg : Cfg) (a : List Tok) : equiv cfg a a = true :=
  (equiv_iff_norm_eq cfg a a).2 rfl

theorem tokEquiv_symm (cfg : Cfg) (a b : List Tok) : equiv cfg a b = equiv cfg b a :=
  BEq.comm

theorem tokEquiv_trans (cfg : Cfg) (a b c : List Tok) (h1 : equiv cfg a b = true) (h2 : equiv cfg b c = true) :
    equiv cfg a c = true :=
  (equiv_iff_norm_eq cfg a c).2
    (((equiv_iff_norm_eq cfg a b).1 h1).trans ((equiv_iff_norm_eq cfg b c).1 h2))

/-- `firstDiff` (what `tok.equiv` prints) answers `none` exactly when the validator accepts. -/
theorem firstDiff_none_iff (cfg : Cfg) (a b : List Tok) : firstDiff cfg a b = none ↔ equiv cfg a b = true := by
  rw [equiv_iff_norm_eq]
  suffices h : ∀ (x y : List Tok) (n : Nat), firstDiffAux n x y = none ↔ x = y from h _ _ 0
  intro x y n
  fun_induction firstDiffAux n x y <;> simp_all

/-! ## Locality: each rule touches only the class of tokens it names -/

/-- One lemma per rule of the pipeline.  `outside S ts` is `ts` without the tokens of class `S`; the
classes are
`clsDelim` (any delimiter), `clsAbi` (`"C"`), `clsVis` (`in`, `:`), `clsEmpty` (`<` `>` `for` `where`
`:` `+`), `clsPipe` (`|`), `clsSemi` (`;`), `clsComma` (`,`), `clsBlock` (delimiters and `,`), `clsTry`
(`try` / `r#try` `!` `?` `,` and delimiters), `clsFis` (`:` and identifiers, raw ones included), `clsWild` (`_` `,` `.`). -/
theorem norm_rule_local (ts : List Tok) :
    outside clsDelim (runRule ruleVec ts) = outside clsDelim ts ∧
    outside clsAbi (runRule ruleAbi ts) = outside clsAbi ts ∧
    outside clsVis (runRule ruleVis ts) = outside clsVis ts ∧
    outside clsComma (whereSep false 0 0 false ts) = outside clsComma ts ∧
    outside clsEmpty (runRule ruleEmpty ts) = outside clsEmpty ts ∧
    outside clsPipe (runRule rulePipe ts) = outside clsPipe ts ∧
    outside clsComma (closureSep 0 0 noTok ts) = outside clsComma ts ∧
    outside clsSemi (semiSep [] {} false false 1 0 noTok ts) = outside clsSemi ts ∧
    outside clsBlock (runRule ruleBlock ts) = outside clsBlock ts ∧
    outside clsComma (runRule ruleComma ts) = outside clsComma ts ∧
    outside clsDelim (runRule ruleParen ts) = outside clsDelim ts ∧
    outside clsDelim (runRule ruleLitParen ts) = outside clsDelim ts ∧
    outside clsDelim (runRule ruleClosureParen ts) = outside clsDelim ts ∧
    outside clsTry (runRule ruleTry ts) = outside clsTry ts ∧
    outside clsFis (runRule ruleFis ts) = outside clsFis ts ∧
    outside clsWild (wildCondense ts) = outside clsWild ts :=
  ⟨runRule_outside _ _ ruleVec_local ts, runRule_outside _ _ ruleAbi_local ts,
   runRule_outside _ _ ruleVis_local ts, whereSep_local ts false 0 0 false,
   runRule_outside _ _ ruleEmpty_local ts, runRule_outside _ _ rulePipe_local ts,
   closureSep_local ts 0 0 noTok, semiSep_local ts [] {} false false 1 0 noTok,
   runRule_outside _ _ ruleBlock_local ts, runRule_outside _ _ ruleComma_local ts,
   runRule_outside _ _ ruleParen_local ts, runRule_outside _ _ ruleLitParen_local ts,
   runRule_outside _ _ ruleClosureParen_local ts, runRule_outside _ _ ruleTry_local ts,
   runRule_outside _ _ ruleFis_local ts, wildCondense_local ts⟩

/-- The classes of the thirteen rules other than the three opt-in rewrites of hard and `try!` tokens
(and of `ruleTry` under its option) are soft. -/
theorem rule_classes_soft (cfg : Cfg) (t : Tok) :
    (clsDelim t = true → soft cfg t = true) ∧ (clsAbi t = true → soft cfg t = true) ∧
    (clsVis t = true → soft cfg t = true) ∧ (clsEmpty t = true → soft cfg t = true) ∧
    (clsPipe t = true → soft cfg t = true) ∧ (clsSemi t = true → soft cfg t = true) ∧
    (clsComma t = true → soft cfg t = true) ∧ (clsBlock t = true → soft cfg t = true) ∧
    (cfg.useTry = true → clsTry t = true → soft cfg t = true) :=
  ⟨clsDelim_soft cfg t, clsAbi_soft cfg t, clsVis_soft cfg t, clsEmpty_soft cfg t, clsPipe_soft cfg t,
   clsSemi_soft cfg t, clsComma_soft cfg t, clsBlock_soft cfg t, fun h => clsTry_soft cfg h t⟩

/-- The generic step behind every `runRule` lemma: a rule function whose every action is local to a
class `S` (it replaces the current token by tokens equal to it outside `S`, and may replace closers /
insert or drop a `,` only when those are in `S`) yields a pass that keeps all tokens outside `S`. -/
theorem transducer_local (S : Tok → Bool) (f : Rule) (hf : RuleLocal S f) (ts : List Tok) :
    outside S (runRule f ts) = outside S ts :=
  runRule_outside S f hf ts

/-- `mid` (rules 10–13 on single tokens) only touches literals, doc comments, the `.` between tuple
indices and — with `normalize_doc_attributes` — the tokens `#` `!` `[` `]` `doc` `=` of an attribute. -/
theorem mid_local (cfg : Cfg) (ts : List Tok) : outside (clsMid cfg) (mid cfg ts) = outside (clsMid cfg) ts := by
  simp only [mid]
  rw [onlyIf_outside (g := docMerge _) fun _ x => outside_mono (S := Tok.isDoc)
      (fun t ht => by simp [clsMid, clsSpell, ht]) (docMergeAux_outside _ x none),
    map_canonTok_outside cfg (clsMid cfg) (fun t ht => by simp [clsMid, ht]) (clsMid_canonTok cfg),
    onlyIf_outside fun h x => outside_mono (fun t ht => by simp [clsMid, h, ht]) (docAttr_outside x)]
  exact outside_mono (fun t ht => by simp [clsMid, ht]) (resplitAux_outside ts 0)

/-- With `normalize_doc_attributes` and comment re-flowing off, `mid` is a token-wise re-spelling
after `resplit`. -/
theorem mid_plain (cfg : Cfg) (h1 : cfg.docattr = false) (h2 : cfg.reflow = false) (ts : List Tok) :
    mid cfg ts = (resplit ts).map (canonTok cfg) := by
  simp [mid, onlyIf, h1, h2]

/-! ## `use_field_init_shorthand`: the precise invariant of `ruleFis` -/

/-- The re-spelling leaves every token alone that is neither a literal nor a doc comment, and never
changes the class of one (except an integer-class literal with an `f32`/`f64` suffix under
`float_literal_trailing_zero`, which is compared as the float it is). -/
theorem canonTok_other (cfg : Cfg) (t : Tok) :
    (t.isDoc = false → isLit t = false → canonTok cfg t = t) ∧
    ((canonTok cfg t).cls = t.cls ∨ (t.cls = ['L','i'] ∧ (canonTok cfg t).cls = ['L','f'])) :=
  ⟨RF.Tok.canonTok_other cfg t, canonTok_cls cfg t⟩

/-- "Literals keep their value" on the validator's side.  `hex_literal_case`: the canonical spelling of
an integer literal has the same value, so two literals the validator identifies have equal values
(the suffix is part of the compared text).  `float_literal_trailing_zero`: the canonical spelling is
the text itself or the text without a fractional part made of `0` and `_` only. -/
theorem literal_canon_value (a b : List Char) :
    intValue (hexCanon a) = intValue a ∧ (hexCanon a = hexCanon b → intValue a = intValue b) ∧
    (floatCanon a = a ∨ ∃ ip fp rest, a = ip ++ '.' :: (fp ++ rest) ∧
      fp.all (fun c => c == '0' || c == '_') = true ∧ floatCanon a = ip ++ rest) :=
  ⟨intValue_hexCanon a, hexCanon_eq_value, floatCanon_shape a⟩

example : hexCanon (chars% "0xDEAD_beefu32") = (chars% "0xdead_beefu32") ∧ intValue (chars% "0xDEAD_beefu32") = 3735928559 ∧
    floatCanon (chars% "1.0_0e5") = (chars% "1e5") ∧ floatCanon (chars% "1.50") = (chars% "1.50") := by decide +kernel

/-- Rule 12 keeps the text: `resplit` only cuts a float-shaped literal into `digits . digits`. -/
theorem resplit_text (ts : List Tok) :
    (resplit ts).flatMap (·.text) = ts.flatMap (·.text) ∧ outside clsNum (resplit ts) = outside clsNum ts :=
  ⟨resplitAux_text ts 0, resplitAux_outside ts 0⟩

/-! ## Hard tokens are preserved -/

/-- `post` (all sixteen rules) keeps every hard token, in order.  The two opt-in rewrites of hard
tokens must be off. -/
theorem post_hard_preserved (cfg : Cfg) (hf : cfg.fis = false) (hw : cfg.wild = false) (ts : List Tok) :
    hards cfg (post cfg ts) = hards cfg ts := by
  rw [hards_eq_outside, hards_eq_outside, ← softX_eq_soft cfg hf hw]
  exact post_outside_softX cfg ts

/-- The hard tokens of the normal form are the rendering of the certificate `hardSeq`: the hard
tokens of `mid cfg ts` outside reorder regions, in order, and each non-empty reorder region as the
block of its canonical leaves. -/
theorem norm_hard_preserved (cfg : Cfg) (hf : cfg.fis = false) (hw : cfg.wild = false) (ts : List Tok) :
    hards cfg (norm cfg ts) = render (hardSeq cfg ts) := by
  unfold norm pre hardSeq
  rw [post_hard_preserved cfg hf hw, regions_eq_render, hards_render]

/-- For every configuration (the opt-in rewrites included): `post` keeps every token outside the
soft class and outside the classes of the ENABLED opt-in rewrites (`use_field_init_shorthand`: `:`
and identifiers; `condense_wildcard_suffixes`: `_` `,` `.`). -/
theorem norm_weak_preserved (cfg : Cfg) (ts : List Tok) :
    outside (softX cfg) (norm cfg ts) = outside (softX cfg) (pre cfg ts) :=
  post_outside_softX cfg (pre cfg ts)

/-- With `use_field_init_shorthand` on (and for every value of it): the hard tokens of the normal form
are the rendering of the certificate up to `squash`, which drops an identifier that repeats the
hard token directly before it — exactly the trace `a: a` ~ `a` leaves on the hard tokens. -/
theorem norm_hard_preserved_fis (cfg : Cfg) (hw : cfg.wild = false) (ts : List Tok) :
    squash noTok (hards cfg (norm cfg ts)) = squash noTok (render (hardSeq cfg ts)) := by
  unfold norm pre hardSeq
  rw [post_hards_squash cfg hw, regions_eq_render, hards_render]

/-- Soundness with `use_field_init_shorthand` on: equal certificates up to `squash`. -/
theorem equiv_sound_fis (cfg : Cfg) (hw : cfg.wild = false) (a b : List Tok) (h : equiv cfg a b = true) :
    squash noTok (render (hardSeq cfg a)) = squash noTok (render (hardSeq cfg b)) := by
  have hn := (equiv_iff_norm_eq cfg a b).1 h
  rw [← norm_hard_preserved_fis cfg hw a, ← norm_hard_preserved_fis cfg hw b, hn]

/-- SOUNDNESS.  If the validator accepts `(a, b)` — two lists as the lexer sends them, i.e. without
synthetic `R…` classes — then `a` and `b` have the same certificate. -/
theorem equiv_sound (cfg : Cfg) (hf : cfg.fis = false) (hw : cfg.wild = false) (a b : List Tok)
    (ha : NoR a) (hb : NoR b) (h : equiv cfg a b = true) : hardSeq cfg a = hardSeq cfg b := by
  have hn := (equiv_iff_norm_eq cfg a b).1 h
  have h1 := norm_hard_preserved cfg hf hw a
  have h2 := norm_hard_preserved cfg hf hw b
  rw [hn] at h1
  exact render_inj _ _ (hardSeq_wf cfg a ha) (hardSeq_wf cfg b hb) (h1.symm.trans h2)

/-- The contrapositive: a pair whose certificates differ is rejected. -/
theorem equiv_rejects (cfg : Cfg) (hf : cfg.fis = false) (hw : cfg.wild = false) (a b : List Tok)
    (ha : NoR a) (hb : NoR b) (h : hardSeq cfg a ≠ hardSeq cfg b) : equiv cfg a b = false := by
  cases he : equiv cfg a b
  · rfl
  · exact absurd (equiv_sound cfg hf hw a b ha hb he) h

/-- The weak form for every configuration. -/
theorem equiv_sound_all_cfg (cfg : Cfg) (a b : List Tok) (h : equiv cfg a b = true) :
    outside (softX cfg) (pre cfg a) = outside (softX cfg) (pre cfg b) := by
  have hn := (equiv_iff_norm_eq cfg a b).1 h
  rw [← norm_weak_preserved, ← norm_weak_preserved, hn]

/-- The certificate really is a cut of the token list: `regions` is the rendering of the segments,
every plain segment is a token of `mid cfg ts`, and a segment list is determined by its rendering
(`render` is injective on well-formed segment lists). -/
theorem hardSeq_faithful (cfg : Cfg) (ts : List Tok) :
    regions cfg (mid cfg ts) = render (segs cfg (mid cfg ts)) ∧
    (∀ t, Seg.plain t ∈ segs cfg (mid cfg ts) → t ∈ mid cfg ts) ∧
    (∀ s1 s2 : List Seg, (∀ s ∈ s1, s.wf) → (∀ s ∈ s2, s.wf) → render s1 = render s2 → s1 = s2) :=
  ⟨regions_eq_render cfg _, fun t h => segsAux_plain_mem cfg _ 0 t h, render_inj⟩

/-- The hard tokens the certificate lists outside reorder regions are a SUBSEQUENCE of the hard tokens
of `mid cfg ts`: their order is the order of the text and none is invented. -/
theorem hardSeq_in_order (cfg : Cfg) (ts : List Tok) :
    ((hardSeq cfg ts).filterMap Seg.plain?).Sublist (hards cfg (mid cfg ts)) := by
  unfold hardSeq
  rw [filter_keep_plain]
  exact (segsAux_plain_sublist cfg (mid cfg ts) 0).filter _

/-- What equal canonical leaf lists of two reorder regions say about their raw leaves: kind 3
(`#[derive]`): the same list; kinds 1, 2 (`mod x;`, `extern crate`): a permutation; kind 0 (`use`):
the same set of paths (the formatter drops an import it has already seen). -/
theorem region_leaves_sound (k : Kind) (l1 l2 : List (List Tok)) (h : canonLeaves k l1 = canonLeaves k l2) :
    (k = 3 → l1 = l2) ∧ (k ≠ 3 → k ≠ 0 → l1.Perm l2) ∧ (k = 0 → ∀ x, x ∈ l1 ↔ x ∈ l2) := by
  refine ⟨?_, ?_, ?_⟩
  · intro hk; subst hk; simpa [canonLeaves] using h
  · intro h3 h0
    have e : ∀ l, canonLeaves k l = sortLeaves l := by
      intro l; unfold canonLeaves; simp [h3, h0]
    rw [e, e] at h
    exact (sortLeaves_perm l1).symm.trans (h ▸ sortLeaves_perm l2)
  · intro hk x; subst hk
    have e : ∀ l, canonLeaves 0 l = dedupAdj (sortLeaves l) := by intro l; rfl
    rw [e, e] at h
    rw [← (sortLeaves_perm l1).mem_iff, ← (sortLeaves_perm l2).mem_iff, ← dedupAdj_mem x (sortLeaves l1), h, dedupAdj_mem]

/-! ## the two opt-in rewrites of hard tokens (coarse locality) -/

/-! ## Non-vacuity and counterexamples on fixture fragments

`lexEx` is a toy lexer for blank-separated words and `chars% ".."` the character list of a string
literal (Lemmas/TokEquiv.lean). -/

/-- tests/source/structs.rs:274 `pub(in self) struct Foo{}`, tests/source/closure.rs:21
`|trivial| { closure() }`, tests/source/match.rs:488 (leading `|`), tests/source/issue-945.rs:3
(`default async extern "C" fn`), with a trailing comma, an empty `where`, an empty generic list, a
redundant nested parenthesis and a `return` arm in a block added -/
def exIn : List Tok := lexEx (chars% "pub ( in self ) struct Foo { } impl Baz { default async extern \"C\" fn foo < 'a , > ( & 'a mut self , ) -> u32 where { let unblock_me = | trivial | { closure ( ) } ; match x { Foo :: A => println ! ( \"No\" ) , | Foo :: D => { return g :: < > ( ( 2.0 ) , ) ; } , } } }")

/-- what rustfmt prints for it (token-wise) -/
def exOut : List Tok := lexEx (chars% "pub ( self ) struct Foo { } impl Baz { default async extern \"C\" fn foo < 'a > ( & 'a mut self ) -> u32 { let unblock_me = | trivial | closure ( ) ; match x { Foo :: A => println ! ( \"No\" ) , Foo :: D => return g ( 2.0 ) , } } }")

/-- the same with the `mut` of the receiver dropped -/
def exBadMut : List Tok := lexEx (chars% "pub ( self ) struct Foo { } impl Baz { default async extern \"C\" fn foo < 'a > ( & 'a self ) -> u32 { let unblock_me = | trivial | closure ( ) ; match x { Foo :: A => println ! ( \"No\" ) , Foo :: D => return g ( 2.0 ) , } } }")

/-- the same with the modifier `default` dropped -/
def exBadDefault : List Tok := lexEx (chars% "pub ( self ) struct Foo { } impl Baz { async extern \"C\" fn foo < 'a > ( & 'a mut self ) -> u32 { let unblock_me = | trivial | closure ( ) ; match x { Foo :: A => println ! ( \"No\" ) , Foo :: D => return g ( 2.0 ) , } } }")

/-- the same with the lifetime altered -/
def exBadLt : List Tok := lexEx (chars% "pub ( self ) struct Foo { } impl Baz { default async extern \"C\" fn foo < 'a > ( & 'b mut self ) -> u32 { let unblock_me = | trivial | closure ( ) ; match x { Foo :: A => println ! ( \"No\" ) , Foo :: D => return g ( 2.0 ) , } } }")

/-- the hypotheses of `equiv_sound` hold of a non-trivial accepted pair -/
example : equiv {} exIn exOut = true ∧ NoR exIn ∧ NoR exOut ∧ exIn ≠ exOut ∧
    ({} : Cfg).fis = false ∧ ({} : Cfg).wild = false := by decide +kernel

/-- hence equal certificates (also visible by evaluation) -/
example : hardSeq {} exIn = hardSeq {} exOut := by decide +kernel
example : (hardSeq {} exIn).length = 37 := by decide +kernel

/-- the three altered outputs are rejected -/
example : equiv {} exIn exBadMut = false ∧ equiv {} exIn exBadDefault = false ∧ equiv {} exIn exBadLt = false := by
  decide +kernel

/-- and `equiv_rejects` applies to them: their certificates differ -/
example : hardSeq {} exIn ≠ hardSeq {} exBadMut ∧ hardSeq {} exIn ≠ hardSeq {} exBadDefault := by
  decide +kernel

/-- tests/source/imports.rs:21-28 with an attribute and a `mod` run: reorder regions -/
def exUseIn : List Tok := lexEx (chars% "use Foo :: { Baz , Bar } ; use std :: io :: { self } ; use std :: io :: self ; # [ derive ( Clone ) ] # [ derive ( Debug , ) ] struct S ; mod b ; mod a ;")
def exUseOut : List Tok := lexEx (chars% "use std :: io ; use Foo :: { Bar , Baz } ; # [ derive ( Clone , Debug ) ] struct S ; mod a ; mod b ;")
def exUseBad : List Tok := lexEx (chars% "use std :: io ; use Foo :: { Bar } ; # [ derive ( Clone , Debug ) ] struct S ; mod a ; mod b ;")

example : equiv {} exUseIn exUseOut = true ∧ equiv {} exUseIn exUseBad = false ∧ NoR exUseIn ∧ NoR exUseOut := by
  decide +kernel

/-- three regions (imports, derives, modules) and the three hard tokens `struct S` between them -/
example : (hardSeq {} exUseIn).map (fun s => match s with | .plain _ => 9 | .region k l => 10 * l.length + k) =
    [30, 23, 9, 9, 21] := by decide +kernel

/-- `region_leaves_sound` on a real pair of leaf lists -/
example : canonLeaves 1 [lexEx (chars% "mod b"), lexEx (chars% "mod a")] = canonLeaves 1 [lexEx (chars% "mod a"), lexEx (chars% "mod b")] := by
  decide +kernel

/-- `norm_rule_local` is not vacuous: `ruleEmpty` does delete tokens of its class -/
example : runRule ruleEmpty (lexEx (chars% "fn f < > ( ) where { }")) = lexEx (chars% "fn f ( ) { }") := by
  decide +kernel

/-- The hypotheses `fis = false`, `wild = false` of `equiv_sound` are needed: with the options on, the
validator accepts pairs whose hard tokens differ (that is the point of the two options). -/
theorem equiv_sound_fis_wild_counterexample :
    (equiv { fis := true } (lexEx (chars% "S { a : a , }")) (lexEx (chars% "S { a }")) = true ∧
     hardSeq { fis := true } (lexEx (chars% "S { a : a , }")) ≠ hardSeq { fis := true } (lexEx (chars% "S { a }"))) ∧
    (equiv { wild := true } (lexEx (chars% "S ( a , _ , _ )")) (lexEx (chars% "S ( a , . . )")) = true ∧
     hardSeq { wild := true } (lexEx (chars% "S ( a , _ , _ )")) ≠ hardSeq { wild := true } (lexEx (chars% "S ( a , . . )"))) := by
  decide +kernel

/-- `equiv_sound_fis` is not vacuous and still rejects: the shorthand is accepted, a changed field
value is not -/
example : equiv { fis := true } (lexEx (chars% "S { a : a , b : c }")) (lexEx (chars% "S { a , b : c }")) = true ∧
    equiv { fis := true } (lexEx (chars% "S { a : a , b : c }")) (lexEx (chars% "S { a , b }")) = false ∧
    squash noTok (render (hardSeq { fis := true } (lexEx (chars% "S { a : a , b : c }")))) =
      squash noTok (render (hardSeq { fis := true } (lexEx (chars% "S { a , b : c }")))) := by decide +kernel

/-- The validator compares SOFT tokens too (after the closed-list normalisations), which the theorems
above do not need but the search relies on.  Pairs it tells apart: a 1-tuple and a parenthesised
expression; a tuple argument and two arguments; a unit argument and no argument; a statement and a
tail expression; parenthesised and bare operands; a binary `&` of a borrow and a lazy `&&` (sent as
one token by the lexer front end).  Pairs it identifies: trailing commas of lists and arguments, the
`;` after `return` / `break` / `continue` and after a `loop` statement, doubled parentheses. -/
theorem validator_distinguishes :
    equiv {} (lexEx (chars% "let t = ( x , ) ;")) (lexEx (chars% "let t = ( x ) ;")) = false ∧
    equiv {} (lexEx (chars% "f ( ( a , b ) ) ;")) (lexEx (chars% "f ( a , b ) ;")) = false ∧
    equiv {} (lexEx (chars% "f ( ( ) ) ;")) (lexEx (chars% "f ( ) ;")) = false ∧
    equiv {} (lexEx (chars% "fn g ( ) { f ( ) ; }")) (lexEx (chars% "fn g ( ) { f ( ) }")) = false ∧
    equiv {} (lexEx (chars% "( a + b ) * c")) (lexEx (chars% "a + b * c")) = false ∧
    equiv {} [mkI ['a'], mkP '&', mkP '&', mkI ['b']] [mkI ['a'], ⟨['p'], ['&', '&']⟩, mkI ['b']] = false ∧
    equiv {} (lexEx (chars% "f ( a , b , ) ;")) (lexEx (chars% "f ( a , b ) ;")) = true ∧
    equiv {} (lexEx (chars% "let t = ( x , y , ) ;")) (lexEx (chars% "let t = ( x , y ) ;")) = true ∧
    equiv {} (lexEx (chars% "fn g ( ) { return 1 ; }")) (lexEx (chars% "fn g ( ) { return 1 }")) = true ∧
    equiv {} (lexEx (chars% "fn g ( ) { loop { } ; h ( ) ; }")) (lexEx (chars% "fn g ( ) { loop { } h ( ) ; }")) = true ∧
    equiv {} (lexEx (chars% "let y = ( ( a + b ) ) ;")) (lexEx (chars% "let y = ( a + b ) ;")) = true ∧
    equiv {} (lexEx (chars% "f ( ( a ) ) ;")) (lexEx (chars% "f ( a ) ;")) = true := by
  decide +kernel

/-- `norm` is not idempotent on arbitrary token lists: rule 1 (`,` before `>`) runs after rule 3
(`<>`), so `< , >` normalises to `< >`, which normalises to nothing.  Soundness does not need
idempotence. -/
theorem norm_idem_counterexample :
    norm {} (norm {} (lexEx (chars% "< , >"))) ≠ norm {} (lexEx (chars% "< , >")) := by
  decide +kernel

end RF.Props.C01

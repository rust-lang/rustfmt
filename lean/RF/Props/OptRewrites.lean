import RF.Lemmas.OptRewrites
import RF.Gen.Keywords
/-!
# C01 (closed list): each opt-in rewrite fires only where the list allows it and keeps what the construct denotes

The theorems are about the definitions of `RF/Model/OptRewrites.lean` — literal transcriptions of the predicates and
string builders in rustfmt — for ALL inputs of the small syntax each of them looks at.  The model is tied to the code by
the correspondence of `rfverif optin` (every decision on exhaustive universes of near-miss inputs parsed by rustfmt's
own parser) and, for the tables of `src/utils.rs`, by the translator `translate/c01_keywords.py`.

For every rewrite `k`: `…_exact` (it fires exactly when …), `…_sound` (the printed form denotes the same thing under an
explicit denotation), lemmas for the error / edge branches, and a `…_counterexample` about the variant `…Pinned` of
the model where there is one (rustfmt before the `fix:` commit the model file names).
-/
namespace RF.Props.OptRewrites
open RF.Opt RF.Lemmas.OptRewrites

/-! ## §1 field-init shorthand (`rewrite_field`, use_field_init_shorthand) -/

/-- **The shorthand fires exactly when** the field is written out, its initialiser was rendered, is not a literal,
renders to the very text of the field name, and the option is on. -/
theorem rewrite_field_exact (opt exprOk : Bool) (f : FieldIn) :
    (∃ a n, rewriteFieldS opt exprOk f = .shorthand a n) ↔
      (f.isShorthand = true ∨
        (exprOk = true ∧ f.init.isLit = false ∧ f.init.render = f.name ∧ opt = true)) := by
  unfold rewriteFieldS
  cases f.isShorthand
  · cases exprOk
    · simp
    · by_cases hc : (!f.init.isLit && f.init.render == f.name && opt) = true
      · rw [if_neg Bool.false_ne_true, if_pos rfl, if_pos hc]
        simpa [and_assoc] using hc
      · rw [if_neg Bool.false_ne_true, if_pos rfl, if_neg hc]
        simpa [and_assoc] using hc
  · simp

theorem fieldFires_iff (opt exprOk : Bool) (f : FieldIn) :
    fieldFires opt exprOk f = true ↔
      (f.isShorthand = false ∧ exprOk = true ∧ f.init.isLit = false ∧ f.init.render = f.name ∧ opt = true) := by
  simp [fieldFires, and_assoc]

/-- **Sound.**  Whatever the option, the shape and the initialiser: the printed field denotes the same (field name, value
tokens) pair as the source field.  In particular the shorthand is printed only for an initialiser that IS the
one-segment path of the field's name — `x::<T>`, `r#x` for `x`, `(x)`, `x.0`, `self::x`, `#[a] x`, `x as T`, `&x`,
`x?` never qualify. -/
theorem rewrite_field_sound (opt exprOk : Bool) (f : FieldIn) (hn : identLike f.name = true) :
    (rewriteFieldS opt exprOk f).den = f.den := by
  unfold rewriteFieldS FieldIn.den
  cases hs : f.isShorthand with
  | true => simp [FieldOut.den]
  | false =>
    cases exprOk with
    | false => simp [FieldOut.den]
    | true =>
      by_cases hc : (!f.init.isLit && f.init.render == f.name && opt) = true
      · simp only [hc, if_true, Bool.false_eq_true, if_false, FieldOut.den]
        simp only [Bool.and_eq_true, Bool.not_eq_true', beq_iff_eq] at hc
        obtain ⟨⟨hl, hr⟩, _⟩ := hc
        have := render_identLike hl (by rw [hr]; exact hn)
        rw [this, hr]
        simp [Init.toks, segsToks, Seg.toks]
      · simp [hc, FieldOut.den]

/-- the error branch (the initialiser does not fit the first shape): a written-out field stays written out -/
theorem rewrite_field_err_keeps_explicit (opt : Bool) (f : FieldIn) (hs : f.isShorthand = false) :
    rewriteFieldS opt false f = .explicitNextLine f.attrs f.name f.init := by
  simp [rewriteFieldS, hs]

/-- option off: nothing is abbreviated -/
theorem rewrite_field_off (exprOk : Bool) (f : FieldIn) (hs : f.isShorthand = false) :
    ∀ a n, rewriteFieldS false exprOk f ≠ .shorthand a n := by
  intro a n
  cases exprOk <;> simp [rewriteFieldS, hs]

/-- a tuple-struct literal `S { 0: 0 }` is why the guard looks at `is_lit`: the text matches, the shorthand does not fire -/
example : rewriteField true true ⟨cs% "0", false, .lit (cs% "0"), [], cs% ": "⟩ = cs% "0: 0" := by decide +kernel
/-- non-vacuity: it does fire on `x: x` and on `r#x: r#x`, and not on the near misses -/
example : rewriteField true true ⟨cs% "x", false, .path false [⟨cs% "x", none⟩], [], cs% ": "⟩ = cs% "x" := by decide +kernel
example : rewriteField true true ⟨cs% "r#x", false, .path false [⟨cs% "r#x", none⟩], [], cs% ": "⟩ = cs% "r#x" := by decide +kernel
example : rewriteField true true ⟨cs% "x", false, .path false [⟨cs% "r#x", none⟩], [], cs% ": "⟩ = cs% "x: r#x" := by decide +kernel
example : rewriteField true true ⟨cs% "x", false, .path false [⟨cs% "x", some (cs% "T")⟩], [], cs% ": "⟩ = cs% "x: x::<T>" := by
  decide +kernel
example : rewriteField true true ⟨cs% "x", false, .paren (.path false [⟨cs% "x", none⟩]), [], cs% ": "⟩ = cs% "x: (x)" := by
  decide +kernel
example : identLike (cs% "r#x") = true := by decide +kernel

/-- `fieldFiresAst` is told apart: deciding on the AST by symbol (ignoring `r#` and generic arguments) abbreviates
`x: x::<T>`, which changes the value tokens. -/
theorem field_ast_decision_counterexample :
    let f : FieldIn := ⟨cs% "x", false, .path false [⟨cs% "x", some (cs% "T")⟩], [], cs% ": "⟩
    fieldFiresAst true f = true ∧ fieldFires true true f = false ∧
      (FieldOut.shorthand f.attrs f.name).den ≠ f.den := by decide +kernel

/-- struct PATTERN fields: the pinned tree has no shorthand rewrite there — a written-out field stays written out
whatever its sub-pattern (`x: x`, `x: ref x`, `x: mut x`), a shorthand stays a shorthand -/
theorem pat_field_never_abbreviates (f : PatFieldIn) (hs : f.isShorthand = false) :
    rewritePatField f = f.name ++ cs% ": " ++ f.pat.render := by
  simp [rewritePatField, hs]

theorem pat_field_shorthand_kept (f : PatFieldIn) (hs : f.isShorthand = true) :
    rewritePatField f = f.pat.render := by
  simp [rewritePatField, hs]

example : rewritePatField ⟨cs% "x", false, .bind false false false (cs% "x") none⟩ = cs% "x: x" := by decide +kernel
example : rewritePatField ⟨cs% "x", true, .bind true true false (cs% "x") none⟩ = cs% "ref mut x" := by decide +kernel

/-! ## §2 `try!(e)` → `e?` (`convert_try_mac`, use_try_shorthand) -/

theorem try_path_exact (p : Str) : tryPath p = true ↔ (p = cs% "try" ∨ p = cs% "r#try") := by
  simp [tryPath]

theorem parseOnlyExpr_some {args : List ArgTok} {e : Operand} (h : parseOnlyExpr args = some e) :
    args = [.expr e] ∨ args = [.expr e, .comma] := by
  unfold parseOnlyExpr at h
  split at h
  · cases h; exact .inl rfl
  · cases h; exact .inr rfl
  · cases h

/-- **The conversion fires exactly when** the option is on, the path is `try` (printed `r#try` from 2018 on), and the
macro's tokens are one expression, optionally followed by one comma. -/
theorem rewrite_try_exact (opt : Bool) (path : Str) (args : List ArgTok) (o : TryOut) :
    convertTry opt path args = some o ↔
      (opt = true ∧ tryPath path = true ∧
        (args = [.expr o.operand] ∨ args = [.expr o.operand, .comma]) ∧ o.parens = needsParens o.operand) := by
  unfold convertTry
  constructor
  · intro h
    split at h
    next hc =>
      split at h
      next e hp =>
        cases Option.some.inj h
        exact ⟨(Bool.and_eq_true_iff.mp hc).1, (Bool.and_eq_true_iff.mp hc).2, parseOnlyExpr_some hp, rfl⟩
      next => cases h
    next => cases h
  · rintro ⟨rfl, hp, ha, hpar⟩
    have : parseOnlyExpr args = some o.operand := by rcases ha with rfl | rfl <;> rfl
    rw [hp, this]
    exact congrArg some (by rw [← hpar])

/-- **Sound.**  When the conversion fires, the printed form is the operand's tokens — every one of them, in
parentheses where needed — followed by `?`; what was between the macro's delimiters is that operand and at most one
trailing comma; and `?` applies to the whole operand (an operand of lower precedence than a postfix operator and one
with attributes are parenthesised). -/
theorem rewrite_try_sound (opt : Bool) (path : Str) (args : List ArgTok) (o : TryOut)
    (h : convertTry opt path args = some o) :
    o.scope = some o.operand.toks ∧
    (argToks args = o.operand.toks ∨ argToks args = o.operand.toks ++ [cs% ","]) ∧
    (o.toks = o.operand.toks ++ [cs% "?"] ∨ o.toks = [cs% "("] ++ o.operand.toks ++ [cs% ")", cs% "?"]) := by
  obtain ⟨_, _, ha, hp⟩ := (rewrite_try_exact opt path args o).mp h
  refine ⟨?_, ?_, ?_⟩
  · unfold TryOut.scope; rw [hp]; cases needsParens o.operand <;> simp
  · rcases ha with ha | ha <;> simp [ha, argToks, ArgTok.toks]
  · unfold TryOut.toks; cases o.parens <;> simp

/-- anything but one expression (and one comma) is left alone -/
theorem rewrite_try_declines (opt : Bool) (path : Str) (args : List ArgTok)
    (h : parseOnlyExpr args = none) : convertTry opt path args = none := by
  simp [convertTry, h]

/-- the operand shapes of the examples: `x`, `a + b`, `y` -/
def opX : Operand := ⟨cs% "x", [cs% "x"], false, false⟩
def opSum : Operand := ⟨cs% "a + b", [cs% "a", cs% "+", cs% "b"], true, false⟩
def opY : Operand := ⟨cs% "y", [cs% "y"], false, false⟩

example : (convertTry true (cs% "try") [.expr opX]).map TryOut.render = some (cs% "x?") := by decide +kernel
example : (convertTry true (cs% "try") [.expr opSum, .comma]).map TryOut.render = some (cs% "(a + b)?") := by decide +kernel
example : convertTry true (cs% "try") [.expr opX, .comma, .expr opY] = none := by decide +kernel
example : convertTry true (cs% "a::try") [.expr opX] = none := by decide +kernel

/-- `convertTryPinned` (`parse_expr` without the end-of-stream test) turns `try!(x, y)` into `x?`: the tokens `,` `y`
are gone. -/
theorem try_pinned_drops_argument_counterexample :
    let args := [ArgTok.expr opX, .comma, .expr opY]
    (convertTryPinned true (cs% "try") args).map TryOut.toks = some [cs% "x", cs% "?"] ∧
      argToks args = [cs% "x", cs% ",", cs% "y"] := by decide +kernel

/-- `convertTryPinned` (never parenthesises) turns `try!(a + b)` into `a + b?`, where `?` applies to `b` only. -/
theorem try_pinned_splits_operand_counterexample :
    (convertTryPinned true (cs% "try") [.expr opSum]).map (fun o => (o.render, o.scope)) =
      some (cs% "a + b?", none) := by decide +kernel

/-! ## §3 `(a, _, _, _)` → `(a, ..)` (`count_wildcard_suffix_len`, condense_wildcard_suffixes) -/

/-- **It fires exactly when** the option is on, the pattern has no `..` yet, and at least two trailing elements are
rendered `_` (counted from the end, up to and including the first one that carries a comment). -/
theorem condense_exact (opt : Bool) (items : List TItem) :
    condenseFires opt items = true ↔
      (opt = true ∧ hasDotdot items = false ∧ countWildcardSuffixLen items ≥ 2) := by
  simp [condenseFires, Bool.and_eq_true, and_assoc]

/-- only a SUFFIX is touched: what is printed is the untouched front followed by `..` -/
theorem condense_shape (opt : Bool) (items : List TItem) (h : condenseFires opt items = true) :
    condense opt items =
      (items.take (items.length - countWildcardSuffixLen items)).map TItem.text ++ [restText] ∧
    (items.drop (items.length - countWildcardSuffixLen items)).map TItem.text =
      List.replicate (countWildcardSuffixLen items) wildText := by
  exact ⟨by simp [condense, h], suffix_is_wild items⟩

/-- **Sound.**  For a tuple of any number of fields `n` that the source pattern fits, the printed pattern says the same
about every field: the `..` stands for exactly the wildcards it replaced. -/
theorem condense_sound (opt : Bool) (items : List TItem) (n : Nat) (d : List Str)
    (h : tupleDen n (items.map TItem.text) = some d) :
    tupleDen n (condense opt items) = some d := by
  by_cases hf : condenseFires opt items = true
  · rw [condense, if_pos hf]
    simp only [condenseFires, Bool.and_eq_true, Bool.not_eq_true', hasDotdot, List.any_eq_false] at hf
    -- the source has no `..`: it has `n` elements and denotes itself
    have hno : ∀ y ∈ items.map TItem.text, (y == restText) = false := by
      intro y hy
      obtain ⟨i, hi, rfl⟩ := List.mem_map.mp hy
      exact Bool.eq_false_iff.mpr (hf.1.2 i hi)
    rw [tupleDen_of_no_rest n hno] at h
    split at h
    next hlen =>
      cases Option.some.inj h
      have hle := count_le_length items
      rw [List.length_map] at hlen
      rw [List.map_take]
      rw [tupleDen_append_rest n (fun y hy => hno y (List.mem_of_mem_take hy)) (by simp [hlen]),
        List.length_take, List.length_map, Nat.min_eq_left (Nat.sub_le _ _), ← hlen, Nat.sub_sub_self hle,
        ← suffix_is_wild items, ← List.map_take, ← List.map_append, List.take_append_drop]
    next => cases h
  · rw [condense, if_neg hf]
    exact h
example : condense true [⟨cs% "a", false⟩, ⟨cs% "_", false⟩, ⟨cs% "_", false⟩, ⟨cs% "_", false⟩] = [cs% "a", cs% ".."] := by
  decide +kernel
example : tupleDen 4 [cs% "a", cs% ".."] = some [cs% "a", cs% "_", cs% "_", cs% "_"] := by decide +kernel
/-- one trailing wildcard is not condensed; a wildcard in parentheses or an or-pattern of wildcards is no wildcard -/
example : condense true [⟨cs% "a", false⟩, ⟨cs% "_", false⟩] = [cs% "a", cs% "_"] := by decide +kernel
example : condense true [⟨cs% "_", false⟩, ⟨cs% "(_)", false⟩] = [cs% "_", cs% "(_)"] := by decide +kernel
/-- a comment ends the count behind the element that carries it -/
example : condense true [⟨cs% "_", false⟩, ⟨cs% "_", true⟩, ⟨cs% "_", false⟩] = [cs% "_", cs% ".."] := by decide +kernel

/-- with a `..` already there `condense` leaves the pattern alone -/
theorem condense_never_next_to_dotdot (opt : Bool) (items : List TItem) (h : hasDotdot items = true) :
    condense opt items = items.map TItem.text := by
  simp [condense, condenseFires, h]

/-- printing is stable: a condensed pattern has its `..` and is left alone -/
theorem condense_stable (opt : Bool) (items : List TItem) (h : condenseFires opt items = true)
    (again : List TItem) (ha : again.map TItem.text = condense opt items) :
    condense opt again = condense opt items := by
  have hd : hasDotdot again = true := by
    have hshape := (condense_shape opt items h).1
    rw [hshape] at ha
    have : restText ∈ again.map TItem.text := by rw [ha]; simp
    obtain ⟨i, hi, hit⟩ := List.mem_map.mp this
    simp only [hasDotdot, List.any_eq_true]
    exact ⟨i, hi, by simp [hit]⟩
  rw [condense_never_next_to_dotdot opt again hd, ha]

/-- `condensePinned` (does not look for a `..`) turns `(a, .., _, _)` into `(a, .., ..)`, which fits no tuple at all. -/
theorem condense_pinned_counterexample :
    let items : List TItem := [⟨cs% "a", false⟩, ⟨cs% "..", false⟩, ⟨cs% "_", false⟩, ⟨cs% "_", false⟩]
    condensePinned true items = [cs% "a", cs% "..", cs% ".."] ∧
      tupleDen 5 (items.map TItem.text) = some [cs% "a", cs% "_", cs% "_", cs% "_", cs% "_"] ∧
      tupleDen 5 (condensePinned true items) = none ∧
      condense true items = items.map TItem.text := by decide +kernel

/-! ## §4 `((x))` → `(x)` (`rewrite_paren`, remove_nested_parens) -/

/-- **Sound.**  Nothing but parentheses goes: the attributes, the comments and the innermost expression of the printed
form are those of the source, in the same order. -/
theorem paren_norm_sound (opt : Bool) (e : PExpr) : (e.norm opt).hard = e.hard := by
  fun_induction PExpr.norm opt e with
  | case1 t => rfl
  | case2 a pre post t => rfl
  | case3 a pre post a' pre' post' inner hc ih =>
    simp only [Bool.and_eq_true, List.isEmpty_iff] at hc
    obtain ⟨⟨⟨_, rfl⟩, rfl⟩, rfl⟩ := hc
    rw [ih]
    cases a <;> simp [PExpr.hard]
  | case4 a pre post a' pre' post' inner hc ih =>
    rw [PExpr.hard, ih]
    rfl

/-- a parenthesised expression stays parenthesised: the outermost pair is never the one that goes -/
theorem paren_norm_keeps_outer (opt : Bool) (e : PExpr) (h : e.depth ≥ 1) : (e.norm opt).depth ≥ 1 := by
  fun_induction PExpr.norm opt e with
  | case1 t => exact h
  | case2 a pre post t => exact h
  | case3 a pre post a' pre' post' inner hc ih => exact ih (Nat.le_add_left 1 _)
  | case4 a pre post a' pre' post' inner hc ih => exact Nat.le_add_left 1 _

/-- option off: the identity -/
theorem paren_norm_off (e : PExpr) : e.norm false = e := by
  fun_induction PExpr.norm false e with
  | case1 t => rfl
  | case2 a pre post t => rfl
  | case3 a pre post a' pre' post' inner hc ih => cases hc
  | case4 a pre post a' pre' post' inner hc ih => rw [ih]

/-- printing is stable: what `rewrite_paren` printed it prints again -/
theorem paren_norm_idem (opt : Bool) (e : PExpr) : (e.norm opt).norm opt = e.norm opt := by
  fun_induction PExpr.norm opt e with
  | case1 t => rw [PExpr.norm]
  | case2 a pre post t => rw [PExpr.norm]
  | case3 a pre post a' pre' post' inner hc ih => exact ih
  | case4 a pre post a' pre' post' inner hc ih =>
    -- the inner result is a parenthesis that keeps what blocked the step
    obtain ⟨p2, q2, inner2, hq⟩ := norm_paren_attrs opt a' pre' post' inner
    rw [hq] at ih ⊢
    rw [PExpr.norm, if_neg hc, ih]

/-- **It fires exactly when**: a pair directly inside another goes iff the option is on, no comment stands between the
two and the inner pair has no attributes (one step of the loop). -/
theorem paren_norm_exact (opt : Bool) (a pre post a' pre' post' : Str) (inner : PExpr) :
    (PExpr.paren a pre post (.paren a' pre' post' inner)).norm opt =
      (if opt = true ∧ a' = [] ∧ pre = [] ∧ post = [] then (PExpr.paren a pre' post' inner).norm opt
       else .paren a pre post ((PExpr.paren a' pre' post' inner).norm opt)) := by
  rw [PExpr.norm]
  simp only [Bool.and_eq_true, List.isEmpty_iff, and_assoc]

example : ((PExpr.paren [] [] [] (.paren [] [] [] (.paren [] [] [] (.atom (cs% "a"))))).norm true).render = cs% "(a)" := by
  simp [PExpr.norm, PExpr.render]

/-- an attribute on the inner pair, or a comment between the pairs, keeps both -/
example : ((PExpr.paren [] [] [] (.paren (cs% "#[attr]") [] [] (.atom (cs% "a + b")))).norm true).render =
    cs% "(#[attr] (a + b))" := by simp [PExpr.norm, PExpr.render]
example : ((PExpr.paren [] (cs% "/* c */") [] (.paren [] [] [] (.atom (cs% "a")))).norm true).render =
    cs% "(/* c */(a))" := by simp [PExpr.norm, PExpr.render]

/-- `PExpr.normPinned` (does not look at the inner attributes) turns `(#[attr] (a + b))` into `(a + b)`. -/
theorem paren_pinned_drops_attribute_counterexample :
    let e := PExpr.paren [] [] [] (.paren (cs% "#[attr]") [] [] (.atom (cs% "a + b")))
    (e.normPinned true).render = cs% "(a + b)" ∧ (e.normPinned true).hard ≠ e.hard ∧
      (e.norm true).hard = e.hard := by
  refine ⟨by simp [PExpr.normPinned, PExpr.render], by simp [PExpr.normPinned, PExpr.hard], paren_norm_sound _ _⟩

/-! ## §5 keywords, visibility, ABI (`src/utils.rs`) -/

open RF.Gen.Keywords in
/-- **What the source says is what Rust calls these keywords.**  `kwFns` is read out of `src/utils.rs` on every run
(translate/c01_keywords.py); this is the table of the language: every variant maps to its own keyword followed by one
blank (`format_constness_right`: preceded by one), the variant that stands for "absent" to the empty text. -/
theorem keywords_exact :
    kwFns = [
      ⟨cs% "format_coro", cs% "ast::CoroutineKind",
        [(cs% "Async", cs% "async "), (cs% "Gen", cs% "gen "), (cs% "AsyncGen", cs% "async gen ")]⟩,
      ⟨cs% "format_constness", cs% "ast::Const", [(cs% "Yes", cs% "const "), (cs% "No", [])]⟩,
      ⟨cs% "format_constness_right", cs% "ast::Const", [(cs% "Yes", cs% " const"), (cs% "No", [])]⟩,
      ⟨cs% "format_defaultness", cs% "ast::Defaultness", [(cs% "Default", cs% "default "), (cs% "Final", [])]⟩,
      ⟨cs% "format_safety", cs% "ast::Safety",
        [(cs% "Unsafe", cs% "unsafe" ++ [' ']), (cs% "Safe", cs% "safe "), (cs% "Default", [])]⟩,
      ⟨cs% "format_auto", cs% "ast::IsAuto", [(cs% "Yes", cs% "auto "), (cs% "No", [])]⟩,
      ⟨cs% "format_mutability", cs% "ast::Mutability", [(cs% "Mut", cs% "mut "), (cs% "Not", [])]⟩] := by
  decide +kernel

/-- the variant of each enum that stands for the absence of the keyword (`CoroutineKind` has none) -/
def absentVariants : List (Str × Str) :=
  [(cs% "ast::Const", cs% "No"), (cs% "ast::Defaultness", cs% "Final"), (cs% "ast::Safety", cs% "Default"),
   (cs% "ast::IsAuto", cs% "No"), (cs% "ast::Mutability", cs% "Not")]

open RF.Gen.Keywords in
/-- no two variants of one enum print the same text, and only the "absent" variant prints nothing -/
theorem keywords_injective_nonempty :
    kwFns.all (fun f =>
      (f.arms.map Prod.snd).Nodup ∧ (f.arms.map Prod.fst).Nodup ∧
      f.arms.all (fun a => a.2.isEmpty == absentVariants.contains (f.enum, a.1))) = true := by
  decide +kernel

open RF.Gen.Keywords in
/-- every keyword text is lower-case words separated by one blank, with exactly one blank at one end: two of them put
side by side never run together and never leave two blanks -/
theorem keywords_spacing :
    kwFns.all (fun f => f.arms.all (fun a =>
      a.2.all (fun c => ('a' ≤ c && c ≤ 'z') || c == ' ') &&
      (a.2.isEmpty || ((a.2.head? == some ' ') != (a.2.getLast? == some ' '))))) = true := by
  decide +kernel

/-- **`format_extern` is the function its source arms spell.**  The five arms read out of `src/utils.rs`, run first-match,
are the hand-written `formatExtern` for every qualifier, ABI text and value of `force_explicit_abi`. -/
theorem extern_arms_modelled (ext : Ext) (explicitAbi : Bool) :
    externFromArms RF.Gen.Keywords.externArms ext explicitAbi = some (formatExtern ext explicitAbi) := by
  cases ext with
  | none => cases explicitAbi <;> decide +kernel
  | implicit => cases explicitAbi <;> decide +kernel
  | explicit abi =>
    -- the arms look at the ABI only through `abi == "C"`
    dsimp only [externFromArms, formatExtern]
    cases explicitAbi <;> cases (abi == cs% "C") <;> rfl

open RF.Gen.Keywords in
/-- the constants of `format_visibility` as read out of the source are the ones `formatVisibility` uses -/
theorem visibility_constants_modelled :
    visPublic = cs% "pub " ∧ visInherited = [] ∧ visKeywords = [cs% "crate", cs% "self", cs% "super"] ∧
      visSep = cs% "::" ∧ visInKeyword = [] ∧ visInOther = cs% "in " ∧ visFormat = cs% "pub({in_str}{path}) " := by
  decide +kernel

/-- **It fires exactly when**: `in` is dropped iff the whole path is one of `crate`, `self`, `super`; the segments are
printed as written, joined by `::`. -/
theorem format_visibility_exact (g : Bool) (segs : List Str) :
    formatVisibility (.restricted g segs) =
      cs% "pub(" ++ (if joinWith (cs% "::") segs = cs% "crate" ∨ joinWith (cs% "::") segs = cs% "self" ∨
          joinWith (cs% "::") segs = cs% "super" then [] else cs% "in ") ++ joinWith (cs% "::") segs ++ cs% ") " := by
  simp only [formatVisibility, isVisKeyword, Bool.or_eq_true, beq_iff_eq, or_assoc]

example : formatVisibility (.restricted false [cs% "crate"]) = cs% "pub(crate) " := by decide +kernel
example : formatVisibility (.restricted false [cs% "super", cs% "super"]) = cs% "pub(in super::super) " := by decide +kernel
example : formatVisibility (.restricted false [cs% "crate", cs% "a"]) = cs% "pub(in crate::a) " := by decide +kernel

/-- a quirk the model keeps: the leading `::` of `pub(in ::a)` is not printed (2015 edition, where `::a` and `a` name the
same module in a visibility) -/
theorem format_visibility_drops_root_counterexample :
    formatVisibility (.restricted true [cs% "a"]) = cs% "pub(in a) " := by decide +kernel

theorem readExtern_quote (abi : Str) (h : ∀ c ∈ abi, c ≠ '"' ∧ c ≠ '\\') :
    readExtern (cs% "extern \"" ++ abi ++ cs% "\" ") = some (.explicit abi) := by
  have hp : ∀ c ∈ abi, (c != '"' && c != '\\') = true := fun c hc => by simp [bne, h c hc]
  -- the text is longer than `extern `, so the first two tests fail; the third splits it at the closing quote
  have h1 : (cs% "extern \"" ++ abi ++ cs% "\" " == []) = false := rfl
  have h2 : (cs% "extern \"" ++ abi ++ cs% "\" " == cs% "extern ") = false := rfl
  unfold readExtern
  rw [h1, h2]
  show (if (abi ++ cs% "\" ").dropWhile (fun c => c != '"' && c != '\\') == cs% "\" " then
    some (Ext.explicit ((abi ++ cs% "\" ").takeWhile fun c => c != '"' && c != '\\')) else none) = _
  rw [takeWhile_append_stop abi '"' [' '] hp rfl, dropWhile_append_stop abi '"' [' '] hp rfl]
  rfl

/-- **Sound (partial).**  The printed qualifier selects the ABI the source selected (`extern` alone selects `"C"`),
whatever `force_explicit_abi` says — provided the ABI text needs no escape to stand between quotes. -/
theorem format_extern_sound_partial (ext : Ext) (explicitAbi : Bool)
    (h : ∀ abi, ext = .explicit abi → ∀ c ∈ abi, c ≠ '"' ∧ c ≠ '\\') :
    (readExtern (formatExtern ext explicitAbi)).map Ext.den = some ext.den := by
  cases ext with
  | none => cases explicitAbi <;> decide +kernel
  | implicit => cases explicitAbi <;> decide +kernel
  | explicit abi =>
    have ha := h abi rfl
    unfold formatExtern
    by_cases hc : (abi == cs% "C" && !explicitAbi) = true
    · simp only [hc, if_true]
      simp only [Bool.and_eq_true, beq_iff_eq] at hc
      rw [hc.1]; decide
    · have hc' : (abi == cs% "C" && !explicitAbi) = false := by simpa using hc
      simp only [hc', Bool.false_eq_true, if_false]
      rw [readExtern_quote abi ha]
      simp [Ext.den]

/-- **It changes exactly** the spelling of the default ABI: `extern` ↔ `extern "C"`; every other qualifier is printed
as it was read -/
theorem format_extern_exact (abi : Str) (explicitAbi : Bool) (h : abi ≠ cs% "C") :
    formatExtern (.explicit abi) explicitAbi = cs% "extern \"" ++ abi ++ cs% "\" " := by
  simp [formatExtern, h]

example : formatExtern .implicit true = cs% "extern \"C\" " := by decide +kernel
example : formatExtern (.explicit (cs% "C")) false = cs% "extern " := by decide +kernel
example : formatExtern (.explicit (cs% "Rust")) false = cs% "extern \"Rust\" " := by decide +kernel

/-- **An ABI text that needs an escape is printed raw**: `extern "a\"b"` (value `a"b`) comes out as `extern "a"b"`,
which does not read back.  (No ABI of the language contains such a character; the parser accepts any string.) -/
theorem format_extern_escape_counterexample :
    formatExtern (.explicit (cs% "a\"b")) true = cs% "extern \"a\"b\" " ∧
      readExtern (formatExtern (.explicit (cs% "a\"b")) true) = none := by decide +kernel

/-! ## §6 attributes: merge_derives, normalize_doc_attributes (`impl Rewrite for [ast::Attribute]`) -/

theorem rewriteAttrsGo_derive_seq (merge skip normDoc : Bool) :
    ∀ (fuel : Nat) (attrs : List AttrIn) (out : List AttrOut), attrs.length ≤ fuel →
      rewriteAttrsGo merge skip normDoc fuel attrs = some out → deriveSeqOut out = deriveSeqIn attrs := by
  intro fuel attrs
  fun_induction rewriteAttrsGo merge skip normDoc fuel attrs with
  | case1 attrs =>
    intro out hlen h
    cases Option.some.inj h
    rw [List.eq_nil_of_length_eq_zero (Nat.le_zero.mp hlen)]
    rfl
  | case2 =>
    intro out _ h
    cases Option.some.inj h
    rfl
  | case3 fuel a rest attrs nd hnd ih =>
    -- a run of doc comments
    intro out hlen h
    have hl (k : Nat) (hk : k > 0) : ((a :: rest).drop k).length ≤ fuel := by rw [List.length_drop]; omega
    obtain ⟨r, hr, rfl⟩ := Option.map_eq_some_iff.mp h
    have hrec := ih r (hl nd hnd) hr
    rw [deriveSeqIn_split nd (a :: rest), deriveSeqIn_docs _ (takeRun_pred Attr.isDocComment (a :: rest)), ← hrec]
    simp [deriveSeqOut, attrs, nd, Function.comp_def]
  | case4 => nofun
  | case5 fuel a rest attrs nd hnd hd n ps hc ih =>
    -- a run of derives
    intro out hlen h
    have hl (k : Nat) (hk : k > 0) : ((a :: rest).drop k).length ≤ fuel := by rw [List.length_drop]; omega
    obtain ⟨r, hr, rfl⟩ := Option.map_eq_some_iff.mp h
    have hpos : n ≥ 1 := (takeRun_pos_iff _ _ _).mpr (Bool.and_eq_true_iff.mp hd).2
    have hrec := ih r (hl n hpos) hr
    rw [deriveSeqIn_split n (a :: rest), deriveSeqIn_derives _ _ hc, ← hrec]
    rfl
  | case6 fuel a rest attrs nd hnd hd o ih =>
    -- one attribute
    intro out hlen h
    obtain ⟨r, hr, rfl⟩ := Option.map_eq_some_iff.mp h
    have hrec := ih r (Nat.le_of_succ_le_succ hlen) hr
    unfold deriveSeqIn
    cases hattr : a.attr with
    | derive ps => cases ps <;> simp [deriveSeqOut, o, hattr, hrec]
    | docAttr i v => by_cases hnorm : (normDoc && !a.lineComment) = true <;> simp [deriveSeqOut, o, hattr, hrec, hnorm]
    | _ => simp [deriveSeqOut, o, hattr, hrec]

/-- **Sound.**  Whatever the options and the gaps: the derived paths of the printed attribute list are those of the
source — same paths, same order, duplicates kept — and no derive has moved across anything that is not a derive. -/
theorem merge_derives_sound (merge skip normDoc : Bool) (attrs : List AttrIn) (out : List AttrOut)
    (h : rewriteAttrs merge skip normDoc attrs = some out) : deriveSeqOut out = deriveSeqIn attrs :=
  rewriteAttrsGo_derive_seq merge skip normDoc attrs.length attrs out (Nat.le_refl _) h

/-- **Two neighbouring derives are merged exactly when** the option is on, `derive` is not under
`#[rustfmt::skip::attributes(..)]`, and between them there is neither a blank line (two line feeds) nor a `/`
(a comment). -/
theorem merge_derives_exact (merge skip normDoc : Bool) (p q : List Str) (k : Nat) (sl lc lc' : Bool) (k' : Nat) (sl' : Bool) :
    rewriteAttrs merge skip normDoc [⟨.derive (some p), k, sl, lc⟩, ⟨.derive (some q), k', sl', lc'⟩] =
      (if merge = true ∧ skip = false ∧ k < 2 ∧ sl = false then some [.derive (p ++ q)]
       else if merge = true ∧ skip = false then some [.derive p, .derive q]
       else some [.single (.derive (some p)), .single (.derive (some q))]) := by
  -- the gap is looked at only when the derives may be merged
  cases merge
  · simp [rewriteAttrs, rewriteAttrsGo, takeRun, Attr.isDocComment, Attr.isDerive]
  · cases skip
    · by_cases hk : k < 2
      · cases sl <;>
          simp [rewriteAttrs, rewriteAttrsGo, takeRun, Attr.isDocComment, Attr.isDerive, collectPaths, hk, Nat.not_le.mpr hk]
      · cases sl <;>
          simp [rewriteAttrs, rewriteAttrsGo, takeRun, Attr.isDocComment, Attr.isDerive, collectPaths, hk, Nat.le_of_not_lt hk]
    · simp [rewriteAttrs, rewriteAttrsGo, takeRun, Attr.isDocComment, Attr.isDerive]

/-- **A run goes on across a gap exactly when** both neighbours fill the predicate and the gap between them has fewer
than two line feeds and no `/`. -/
theorem take_run_exact (pred : Attr → Bool) (a b : AttrIn) (r : List AttrIn) :
    takeRun pred (a :: b :: r) ≥ 2 ↔
      (pred a.attr = true ∧ pred b.attr = true ∧ a.gapNewlines < 2 ∧ a.gapSlash = false) := by
  rw [takeRun_cons_cons, ← takeRun_pos_iff pred b r]
  cases pred a.attr
  · simp
  · cases a.gapSlash
    · by_cases hk : a.gapNewlines ≥ 2
      · simp [hk]
      · simp [hk]
        omega
    · simp

/-- the rewrite fails only through a derive whose list does not parse: with every derive parseable it succeeds -/
theorem collectPaths_some (xs : List AttrIn) (hd : ∀ a ∈ xs, a.attr.isDerive = true)
    (hp : ∀ a ∈ xs, a.attr ≠ .derive none) : ∃ ps, collectPaths xs = some ps := by
  induction xs with
  | nil => exact ⟨[], rfl⟩
  | cons a r ih =>
    obtain ⟨q, hq⟩ := ih (fun x hx => hd x (.tail _ hx)) (fun x hx => hp x (.tail _ hx))
    have h1 := hd a (.head _)
    have h2 := hp a (.head _)
    rw [collectPaths, hq]
    cases hattr : a.attr with
    | derive o =>
      cases o with
      | none => exact absurd hattr h2
      | some p => exact ⟨p ++ q, rfl⟩
    | _ => rw [hattr] at h1; cases h1
theorem rewriteAttrsGo_total (merge skip normDoc : Bool) :
    ∀ (fuel : Nat) (attrs : List AttrIn), (∀ a ∈ attrs, a.attr ≠ .derive none) →
      ∃ out, rewriteAttrsGo merge skip normDoc fuel attrs = some out := by
  intro fuel attrs
  fun_induction rewriteAttrsGo merge skip normDoc fuel attrs with
  | case1 => exact fun _ => ⟨[], rfl⟩
  | case2 => exact fun _ => ⟨[], rfl⟩
  | case3 fuel a rest attrs nd hnd ih =>
    intro hp
    obtain ⟨r, hr⟩ := ih fun x hx => hp x (List.mem_of_mem_drop hx)
    exact ⟨_, by rw [hr]; rfl⟩
  | case4 fuel a rest attrs nd hnd hd n hc =>
    -- the run holds derives only, each with a list
    intro hp
    obtain ⟨ps, hps⟩ := collectPaths_some _ (takeRun_pred Attr.isDerive (a :: rest))
      fun x hx => hp x (List.mem_of_mem_take hx)
    cases hc.symm.trans hps
  | case5 fuel a rest attrs nd hnd hd n ps hc ih =>
    intro hp
    obtain ⟨r, hr⟩ := ih fun x hx => hp x (List.mem_of_mem_drop hx)
    exact ⟨_, by rw [hr]; rfl⟩
  | case6 fuel a rest attrs nd hnd hd o ih =>
    intro hp
    obtain ⟨r, hr⟩ := ih fun x hx => hp x (List.mem_cons_of_mem _ hx)
    exact ⟨_, by rw [hr]; rfl⟩

/-- **The edge branch is the only way to fail**: an attribute list in which every `derive` has a list is always
rewritten (and then `merge_derives_sound` applies). -/
theorem rewriteAttrs_total (merge skip normDoc : Bool) (attrs : List AttrIn)
    (hp : ∀ a ∈ attrs, a.attr ≠ .derive none) : ∃ out, rewriteAttrs merge skip normDoc attrs = some out :=
  rewriteAttrsGo_total merge skip normDoc attrs.length attrs hp

/-- what stops a run: any other attribute (`#[cfg_attr(x, derive(E))]` is one) -/
example : rewriteAttrs true false false
    [⟨.derive (some [cs% "A"]), 1, false, false⟩, ⟨.other (cs% "#[cfg_attr(x, derive(E))]"), 1, false, false⟩,
     ⟨.derive (some [cs% "B"]), 0, false, false⟩] =
    some [.derive [cs% "A"], .single (.other (cs% "#[cfg_attr(x, derive(E))]")), .derive [cs% "B"]] := by decide +kernel

/-- duplicates are kept, the order is the source's -/
example : rewriteAttrs true false false
    [⟨.derive (some [cs% "B", cs% "A"]), 1, false, false⟩, ⟨.derive (some [cs% "A"]), 0, false, false⟩] =
    some [.derive [cs% "B", cs% "A", cs% "A"]] := by decide +kernel

/-- the edge branch: a `#[derive]` without a list makes `format_derive` give up — the whole list is left as written -/
theorem merge_derives_unparseable (normDoc : Bool) (k : Nat) (sl lc : Bool) :
    rewriteAttrs true false normDoc [⟨.derive none, k, sl, lc⟩] = none := by
  simp [rewriteAttrs, rewriteAttrsGo, takeRun, Attr.isDocComment, Attr.isDerive, collectPaths]

/-- `str::lines` on a text without `\r` that does not end in a line feed is the split at line feeds -/
theorem strLines_eq_splitLF (v : Str) (hne : v ≠ []) (hcr : '\r' ∉ v) (hlast : v.getLast? ≠ some '\n') :
    strLines v = splitLF v := by
  simp only [strLines]
  have hnl := splitLF_ne_nil v
  have hlastpiece : (splitLF v).getLast? ≠ some [] := by
    intro h
    rcases (splitLF_getLast v).mp h with h | h
    · exact hne h
    · exact hlast h
  -- no piece has a `\r`
  have hpieces : ∀ l ∈ splitLF v, '\r' ∉ l := by
    intro l hl hm
    have := mem_joinWith ['\n'] (splitLF v) l hl hm
    rw [joinWith_splitLF v] at this
    exact hcr this
  have hstrip : ∀ l ∈ (splitLF v).dropLast, stripCR l = l := by
    intro l hl
    have hm := hpieces l (List.dropLast_subset _ hl)
    unfold stripCR
    split
    · rename_i hh
      exact absurd (List.mem_of_getLast? (by simpa using hh)) hm
    · rfl
  rw [List.map_congr_left hstrip, List.map_id']
  cases hg : (splitLF v).getLast? with
  | none => simp [List.getLast?_eq_none_iff] at hg; exact absurd hg hnl
  | some l =>
    have hl : l ≠ [] := by intro e; subst e; exact hlastpiece hg
    have : l.isEmpty = false := by cases l <;> simp_all
    simp only [this]
    have := dropLast_append_last _ l hg
    simpa using this

/-- **Sound (partial).**  `#[doc = "v"]` → `///…` lines stand for the same documentation string `v`, when `v` has no
`\r` and does not end in a line feed. -/
theorem normalize_doc_value_partial (inner : Bool) (v : Str) (hcr : '\r' ∉ v) (hlast : v.getLast? ≠ some '\n') :
    docValue (docCommentText inner v) = v := by
  by_cases hne : v = []
  · subst hne; cases inner <;> decide +kernel
  · have hl := strLines_eq_splitLF v hne hcr hlast
    have hnl := splitLF_ne_nil v
    unfold docCommentText docValue
    rw [hl]
    generalize hop : (if inner = true then cs% "//!" else cs% "///") = opener
    have hoplen : opener.length = 3 := by cases inner <;> simp [← hop]
    have hopnl : '\n' ∉ opener := by cases inner <;> simp [← hop]
    cases hs : splitLF v with
    | nil => exact absurd hs hnl
    | cons x r =>
      simp only
      have hno := splitLF_no_lf v
      rw [hs] at hno
      rw [splitLF_joinWith _ (by simp) (by
        intro l hl
        simp only [List.mem_map] at hl
        obtain ⟨y, hy, rfl⟩ := hl
        simp only [List.mem_append, not_or]
        exact ⟨hopnl, hno y hy⟩)]
      rw [List.map_map]
      have : ((fun x => List.drop 3 x) ∘ fun x => opener ++ x) = id := by
        funext y; simp [← hoplen]
      rw [this, List.map_id, ← hs, joinWith_splitLF]

example : docCommentText false (cs% " a\n b") = cs% "/// a\n/// b" := by decide +kernel
example : docCommentText true [] = cs% "//!" := by decide +kernel

/-- **A last line feed is lost**: `#[doc = "a\n"]` becomes `///a`, which stands for `a`. -/
theorem normalize_doc_trailing_lf_counterexample :
    docCommentText false (cs% "a\n") = cs% "///a" ∧ docValue (docCommentText false (cs% "a\n")) ≠ cs% "a\n" := by decide +kernel

/-- **`\r\n` becomes `\n`** (`str::lines` drops the `\r`). -/
theorem normalize_doc_crlf_counterexample :
    docValue (docCommentText false (cs% "a\r\nb")) = cs% "a\nb" := by decide +kernel

/-- a doc attribute with a comment behind it on its line is not turned into a line comment (the comment would
become part of the documentation text) -/
theorem normalize_doc_line_comment_guard (merge skip : Bool) (i : Bool) (v : Str) (k : Nat) (sl : Bool) :
    rewriteAttrs merge skip true [⟨.docAttr i v, k, sl, true⟩] = some [.single (.docAttr i v)] := by
  simp [rewriteAttrs, rewriteAttrsGo, takeRun, Attr.isDocComment, Attr.isDerive]

/-! ## §7 leading pipes, arm commas, semicolons -/

/-- **Exact**: a `| ` is printed in front of an arm iff the option says `Always`, or `Preserve` and the source had one -/
theorem pipe_exact (opt : LeadingPipe) (has : Bool) :
    pipeStr opt has = (if opt = .always ∨ (opt = .preserve ∧ has = true) then cs% "| " else []) := by
  cases opt <;> cases has <;> decide +kernel

/-- **Sound**: the alternatives an arm matches are the same with and without the leading `|` -/
theorem pipe_sound (opt : LeadingPipe) (has : Bool) (alts : List Tok) (h : ∀ a ∈ alts, a ≠ cs% "|") :
    readAlts (armPatToks opt has alts) = alts := by
  have hfil : (alts.intersperse (cs% "|")).filter (· != cs% "|") = alts := by
    induction alts with
    | nil => rfl
    | cons a r ih =>
      have ha : (a != cs% "|") = true := by simpa [bne] using h a (by simp)
      cases r with
      | nil => simp [ha]
      | cons b r' =>
        rw [List.intersperse_cons_cons, List.filter_cons, if_pos ha, List.filter_cons, if_neg (by simp),
          ih fun x hx => h x (List.mem_cons_of_mem _ hx)]
  rw [readAlts_eq_filter, armPatToks, List.filter_append, hfil]
  split <;> rfl
example : readAlts (armPatToks .always false [cs% "A", cs% "B"]) = [cs% "A", cs% "B"] := by decide +kernel
example : armPatToks .always false [cs% "A", cs% "B"] = [cs% "|", cs% "A", cs% "|", cs% "B"] := by decide +kernel

/-- **Sound / exact for the arm comma**: the `,` is left out only where it is optional — behind the last arm under
`trailing_comma = Never`, or behind a block body (not an `unsafe` block) when `match_block_trailing_comma` is off. -/
theorem arm_comma_exact (never mbtc : Bool) (body : BodyClass) (isLast : Bool) :
    armComma never mbtc body isLast = false ↔
      ((isLast = true ∧ never = true) ∨ (mbtc = false ∧ body = .block)) := by
  revert never mbtc isLast
  cases body <;> decide +kernel

/-- `Stmt::is_last_expr` is never true of a statement that has its `;`: the `trailing_semicolon() || !is_last_expr` arm of
`semicolon_for_stmt` always answers yes -/
theorem semi_jump_kept (ts md isLast : Bool) : outSemi ts md isLast (.semi .jump) = true := by
  revert ts md isLast
  decide +kernel

/-- **A `;` is added only** behind a `return` / `break` / `continue` that ends its block without one, under
`trailing_semicolon`, outside macro definitions (the expression has type `!`: the block's value does not change). -/
theorem semi_added_exact (ts md isLast : Bool) (k : StmtKind) :
    (k.srcSemi = false ∧ outSemi ts md isLast k = true) ↔
      (k = .expr .jump ∧ isLast = true ∧ ts = true ∧ md = false) := by
  revert ts md isLast
  cases k with
  | expr c => cases c <;> decide +kernel
  | semi c => cases c <;> decide +kernel
  | _ => decide +kernel

/-- **A `;` is dropped only** behind a `while` / `loop` / `for` statement -/
theorem semi_dropped_exact (ts md isLast : Bool) (k : StmtKind) :
    (k.srcSemi = true ∧ outSemi ts md isLast k = false) ↔ k = .semi .loop_ := by
  revert ts md isLast
  cases k with
  | expr c => cases c <;> decide +kernel
  | semi c => cases c <;> decide +kernel
  | _ => decide +kernel

/-- inside a macro definition no `;` is ever added -/
theorem semi_macro_def (ts : Bool) (c : ExprClass) : semicolonForExpr ts true c = false := by
  cases ts <;> cases c <;> decide +kernel

example : outSemi true false true (.expr .jump) = true := by decide +kernel
example : outSemi true false false (.expr .jump) = false := by decide +kernel
example : outSemi false false true (.semi .jump) = true := by decide +kernel

/-! ## §8 a printed float literal and the `.` that follows it -/

open RF.Lit RF.Lemmas.Literal

/-- **`float_lit_ends_in_dot` is exact**: for every float symbol, suffix and value of `float_literal_trailing_zero`, it
answers yes exactly when the literal AS PRINTED (`rewrite_float_lit`, or the source text where that keeps it) ends in
a dot. -/
theorem float_ends_in_dot_exact (mode : TrailingZero) (symbol suffix : Str) (p : FloatParts)
    (hp : parseFloatSymbol symbol = some p) (hsuf : '.' ∉ suffix) :
    floatLitEndsInDot mode symbol suffix = some ((printedFloat mode symbol suffix).getLast? == some '.') := by
  by_cases hm : mode = .preserve
  · subst hm
    show some _ = some ((symbol ++ suffix).getLast? == some '.')
    cases suffix with
    | nil => simp
    | cons a r =>
      rw [getLast?_append_ne _ _ (List.cons_ne_nil a r)]
      simp [not_mem_last_ne _ hsuf]
  · have wf := parse_wf hp
    -- the fractional digits that may be printed: digits, and at least one
    have hfne : (p.fractionalPart.getD ['0']).isEmpty = false := by
      cases hf : p.fractionalPart with
      | none => rfl
      | some f => simpa using (wf.fp_ok f hf).2
    have hfr : (if (floatChoice mode p suffix).2 then p.fractionalPart.getD ['0'] else []).all isDigU = true := by
      split
      · cases hf : p.fractionalPart with
        | none => decide
        | some f => exact (wf.fp_ok f hf).1
      · rfl
    rw [printedFloat, rewriteFloatLit_eq mode hm symbol suffix p hp, Option.getD_some,
      printed_last p.integerPart _ suffix _ p.exponent wf.ip_all hfr wf.ex_ok hsuf]
    cases mode with
    | preserve => exact absurd rfl hm
    | always => simp [floatLitEndsInDot, floatChoice, hfne]
    | ifNoPostfix =>
      cases hz : p.isFractionalPartZero <;> cases he : p.exponent <;> cases suffix <;>
        simp [floatLitEndsInDot, floatChoice, hfne, hz, he]
    | never =>
      cases hz : p.isFractionalPartZero <;> cases he : p.exponent <;> cases suffix <;>
        simp [floatLitEndsInDot, floatChoice, hfne, hz, he, hp]

/-- **The literal lexes back.**  A printed float literal followed by a range operator — with the blank that
`needs_space_before_range` / `rewrite_range_pat` put in front of it when the literal ends in a dot — and by anything at
all: `rustc_lexer`'s `number` takes of the whole exactly what it takes of the literal alone. -/
theorem float_range_relex (mode : TrailingZero) (symbol suffix : Str) (p : FloatParts)
    (hp : parseFloatSymbol symbol = some p) (hsuf : '.' ∉ suffix) (delimRest rest : Str) (b : Bool)
    (hb : floatLitEndsInDot mode symbol suffix = some b) :
    lexNumberRest (printedFloat mode symbol suffix ++ rangeGlue b ('.' :: '.' :: delimRest) ++ rest) =
      lexNumberRest (printedFloat mode symbol suffix) ++ rangeGlue b ('.' :: '.' :: delimRest) ++ rest := by
  have hex := (float_ends_in_dot_exact mode symbol suffix p hp hsuf).symm.trans hb
  have hne := printedFloat_ne_nil mode symbol suffix p hp
  cases b with
  | true =>
    simp only [rangeGlue, if_true, List.append_assoc, List.cons_append]
    exact lexNumberRest_append _ ' ' _ hne stop_space (fun e => absurd e (by decide)) (fun e => absurd e (by decide))
  | false =>
    simp only [rangeGlue, Bool.false_eq_true, if_false, List.append_assoc, List.cons_append]
    have hlast : (printedFloat mode symbol suffix).getLast? ≠ some '.' := by
      intro h; rw [h] at hex; simp at hex
    exact lexNumberRest_append _ '.' _ hne stop_dot (fun _ => ⟨_, rfl⟩) (fun _ => hlast)

/-- a blank always keeps the literal whole (what the parentheses of a receiver and `1. ..` rely on) -/
theorem float_then_blank_relex (s rest : Str) (hne : s ≠ []) :
    lexNumberRest (s ++ ' ' :: rest) = lexNumberRest s ++ ' ' :: rest :=
  lexNumberRest_append s ' ' rest hne stop_space (fun e => absurd e (by decide)) (fun e => absurd e (by decide))

example : printedFloat .never (cs% "1.0") [] = cs% "1." := by decide +kernel
example : floatLitEndsInDot .never (cs% "1.0") [] = some true := by decide +kernel
example : lexNumberTok (cs% "1. ..2.") = cs% "1." := by decide +kernel
example : lexNumberTok (cs% "1.5..2.") = cs% "1.5" := by decide +kernel
example : lexNumberTok (cs% "1.0f32..") = cs% "1.0f32" := by decide +kernel

/-- `rangeGluePinned` (never a blank) glues the operator of a range PATTERN onto the dot: `1.0..=2.0` under
`float_literal_trailing_zero = Never` becomes `1...=2.`, whose first token is the integer `1`. -/
theorem range_pat_pinned_counterexample :
    let printed := printedFloat .never (cs% "1.0") []
    lexNumberTok (printed ++ rangeGluePinned true (cs% "..=") ++ cs% "2.") = cs% "1" ∧
      lexNumberTok (printed ++ rangeGlue true (cs% "..=") ++ cs% "2.") = printed := by decide +kernel

end RF.Props.OptRewrites

import RF.Lemmas.Idem
import RF.Props.C08

/-!
# C02  Formatting is idempotent — the modelled stages

Idempotence of rustfmt as a whole ranges over the ~200 rewrite functions and is **not** proved here.
This file carries the theorem side of C02: every *modelled* stage, applied to its own output, returns
it unchanged — or, where the model (i.e. the code) says otherwise, a `_counterexample` with the concrete
input and a `_partial` with the hypothesis that excludes it.

The four mechanisms the property anchors:
 (i)   import normalisation / sorting / merging   (`RF.Model.Sort`, `RF.Model.Imports`);
 (ii)  blank-line clamping and final-newline handling (`RF.Model.Newline`);
 (iii) newline-style conversion and trailing-whitespace removal (`RF.Model.Newline`);
 (iv)  verbatim copy of skipped code (`RF.Model.Skip`).

Two runs are linked by `RF.Model.Idem`: the second run reads what the first wrote.  For `use` items the
only thing the rendering changes in the *shape* of a tree is that a tree with an empty path is written
as nothing (`reparseItems`); `runTwice` is the `use` arm run on its own (re-read) output.

`use a::{b::{}, c};` is normalised to `a::c` in one pass (`normalize` removes a nested tree that
imports nothing and normalises the list again; rustfmt commit a4b860a): `useNormalize_empty_nested_fixed`,
`run_idem_empty_nested`.

Findings (every one replayed on `/repo/target/debug/rustfmt`, see the `_counterexample`s):
  * `use self::self;` becomes `use self;`, which the next pass deletes: `useNormalize_self_self_counterexample`;
  * `imports_granularity = One`: `use a::{b, b::c}; use a;` gives `use a::{self, b, b::c};` and then
    `use a::{self, b::{self, c}};` — legal Rust, satisfies the C10 safety hypothesis:
    `granularity_one_idem_counterexample`;
  * `imports_granularity = Module`: `use b; use a; use a as x;` gives `use {a, a as x, b};` and then
    `use {a, b};` (the C10 alias-twin loss, F6, strikes on the second pass):
    `granularity_module_idem_counterexample`;
  * `imports_granularity = Crate`: `use b; use b::{self};` gives `use b::{self, self};` then
    `use b::self;` (duplicate import, rejected by rustc): `granularity_crate_idem_counterexample`;
  * the Unix newline converter is not idempotent on `\r\r\n` (C08, F5b): `applyNewlineStyle_idem_counterexample`.
-/
namespace RF.Props.C02
open RF.Sort RF.Imports RF.Idem RF.Lemmas.Sort RF.Lemmas.Imports RF.Lemmas.Idem

/-! ## concrete trees -/

private def n (c : Char) : List Char := [c]
private def use (p : List Seg) : Item := ⟨.mk p, some [], none, false⟩
private def i (c : Char) : Seg := .ident (n c) none
private def ia (c x : Char) : Seg := .ident (n c) (some (n x))

/-! ## (i) Sorting -/

/-- Sorting twice is sorting once, for every total preorder (the contract of `slice::sort_by`). -/
theorem stableSort_idem {α} {cmp : α → α → Ordering} (tp : TotalPreorder cmp) (l : List α) :
    stableSort cmp (stableSort cmp l) = stableSort cmp l :=
  RF.Lemmas.Idem.stableSort_idem tp l

/-- More generally an ascending list is a fixed point of the sort — for *any* `cmp`. -/
theorem stableSort_fixed {α} (cmp : α → α → Ordering) (l : List α)
    (h : l.Pairwise (fun a b => cmp a b ≠ .gt)) : stableSort cmp l = l :=
  stableSort_of_sorted cmp l h

example : [1, 2, 2, 5].Pairwise (fun a b : Nat => compare a b ≠ .gt) := by decide +kernel

/-- `Vec<UseTree>::sort()` (`reorder.rs:143`, `imports.rs:888`) is idempotent, both style-edition
families.  No hypothesis: `UseTree::cmp` is a total preorder (C11), including the identifiers with
numbers ≥ 2^64 and the `r#` prefixes that rank equal. -/
theorem useSort_idem (v2024 : Bool) (l : List Tree) :
    stableSort (treeCmp v2024) (stableSort (treeCmp v2024) l) = stableSort (treeCmp v2024) l :=
  RF.Lemmas.Idem.stableSort_idem (treeCmp_tp v2024) l

/-- The same for the items of a `use` group (sorted by their trees). -/
theorem useItemSort_idem (v2024 : Bool) (l : List Item) :
    stableSort (fun a b => treeCmp v2024 a.tree b.tree)
        (stableSort (fun a b => treeCmp v2024 a.tree b.tree) l) =
      stableSort (fun a b => treeCmp v2024 a.tree b.tree) l :=
  RF.Lemmas.Idem.stableSort_idem ((treeCmp_tp v2024).pullback (fun it : Item => it.tree)) l

/-- Sorting `mod` / `extern crate` items by `compare_items` is idempotent (`kindCmp v k` is what
`compare_items` computes on two items of kind `k`, C11 `compareItems_total_preorder`). -/
theorem itemSort_idem (v2024 : Bool) (k : RF.Reorder.ItemKind) (l : List RF.Reorder.Item) :
    stableSort (kindCmp v2024 k) (stableSort (kindCmp v2024 k) l) = stableSort (kindCmp v2024 k) l :=
  RF.Lemmas.Idem.stableSort_idem (kindCmp_tp v2024 k) l

/-! ## (i) `UseTree::normalize` -/

/-- `normalize` applied to its own result returns it unchanged: for every total preorder used for the
nested sorts and **every** item as the parser builds it (`wfPath`; `{}` may occur anywhere), provided the
result is written at all (non-empty path) and is not the bare `use self;` that the next pass deletes.
(A nested tree that imports nothing is removed by `normalize` and the list normalised again.) -/
theorem useNormalize_idem_partial {cmp : Tree → Tree → Ordering} (tp : TotalPreorder cmp)
    (it it' : Item) (h : normalizeItem cmp it = .ok it') (hwf : wfPath true it.tree.path = true)
    (hne : it'.tree.path ≠ []) (hb : bareSelf it' = false) : normalizeItem cmp it' = .ok it' :=
  normalizeItem_idem tp it it' h hwf hne hb

/-- Instance for the real order, both style-edition families. -/
theorem useNormalize_idem (v2024 : Bool) (it it' : Item)
    (h : normalizeItem (treeCmp v2024) it = .ok it') (hwf : wfPath true it.tree.path = true)
    (hne : it'.tree.path ≠ []) (hb : bareSelf it' = false) :
    normalizeItem (treeCmp v2024) it' = .ok it' :=
  useNormalize_idem_partial (treeCmp_tp v2024) it it' h hwf hne hb

/-- Non-vacuity: `use a::{c::{d}, self as x, b::self};` satisfies the hypotheses; its normal form is
`use a::{self as x, b, c::d};`. -/
example :
    let it := use [i 'a', .list [.mk [i 'c', .list [.mk [i 'd']]], .mk [.slf (some (n 'x'))],
      .mk [i 'b', .slf none]]]
    let it' := use [i 'a', .list [.mk [.slf (some (n 'x'))], .mk [i 'b'], .mk [i 'c', i 'd']]]
    normalizeItem (treeCmp false) it = .ok it' ∧ wfPath true it.tree.path = true ∧
      it'.tree.path ≠ [] ∧ bareSelf it' = false := by
  decide +kernel

/-- Non-vacuity with `{}` inside (not `leafyPath`): `use a::{b::{}, c::{d, e::{}}, self as x, f::{g::{}}};`
is normalised to `use a::{self as x, c::d};`. -/
example :
    let it := use [i 'a', .list [.mk [i 'b', .list []],
      .mk [i 'c', .list [.mk [i 'd'], .mk [i 'e', .list []]]], .mk [.slf (some (n 'x'))],
      .mk [i 'f', .list [.mk [i 'g', .list []]]]]]
    let it' := use [i 'a', .list [.mk [.slf (some (n 'x'))], .mk [i 'c', i 'd']]]
    normalizeItem (treeCmp false) it = .ok it' ∧ wfPath true it.tree.path = true ∧
      leafyPath it.tree.path = false ∧ it'.tree.path ≠ [] ∧ bareSelf it' = false := by
  decide +kernel

/-- … and the result has no nested tree with an empty path, so the second run reads back exactly the
tree the first run returned (every item as the parser builds it). -/
theorem useNormalize_read_back {cmp : Tree → Tree → Ordering} (it it' : Item)
    (h : normalizeItem cmp it = .ok it') (hwf : wfPath true it.tree.path = true) :
    reparseTree it'.tree = it'.tree := by
  rw [reparseTree, reparsePath_ne _ (normPath_ne cmp _ _ _ _ _ true (normalizeItem_normPath h).1 hwf),
    mk_path]

/-- `use a::{b::{}, c};` (well formed, not `leafyPath`) is normalised to `a::c`, read back as it is,
and a fixed point. -/
theorem useNormalize_empty_nested_fixed :
    let it := use [i 'a', .list [.mk [i 'b', .list []], .mk [i 'c']]]
    normalizeItem (treeCmp false) it = .ok (use [i 'a', i 'c']) ∧
    reparseItems [use [i 'a', i 'c']] = [use [i 'a', i 'c']] ∧
    normalizeItem (treeCmp false) (use [i 'a', i 'c']) = .ok (use [i 'a', i 'c']) ∧
    wfPath true it.tree.path = true ∧ leafyPath it.tree.path = false := by
  decide +kernel

/-- The same through the whole `use` arm: both runs write `use a::c;`. -/
theorem run_idem_empty_nested :
    runTwice (treeCmp false) .preserve .stdExternalCrate true
        [use [i 'a', .list [.mk [i 'b', .list []], .mk [i 'c']]]] =
      .ok ([[use [i 'a', i 'c']]], [[use [i 'a', i 'c']]]) := by
  decide +kernel

/-- Without the `bareSelf` hypothesis: `use self::self;` (parsed; rejected by rustc,
E0429) becomes `use self;`, and the next pass deletes that. -/
theorem useNormalize_self_self_counterexample :
    normalizeItem (treeCmp false) (use [.slf none, .slf none]) = .ok (use [.slf none]) ∧
    normalizeItem (treeCmp false) (use [.slf none]) = .ok (use []) ∧
    wfPath true [.slf none, .slf none] = true ∧ leafyPath [.slf none, .slf none] = true ∧
    bareSelf (use [.slf none]) = true := by
  decide +kernel

/-! ## (i) `flatten`, `nest_trailing_self` -/

/-- Every piece `flatten` returns, for an item as the parser builds it, is flat: it has a comment
(and was returned as it is) or its last segment is not a list other than `{self}`. -/
theorem flatten_output_flat (g : Granularity) (it : Item) (hwf : wfPath true it.tree.path = true) :
    ∀ x ∈ flattenItem g it, x.hasComment = true ∨ flatLast x.tree.path = true :=
  flattenItem_flat g it hwf

/-- Flattening an already flat tree (after `nest_trailing_self`, as `flatten_use_trees` does) is the
identity. -/
theorem flatten_flat (g : Granularity) (x : Item)
    (h : x.hasComment = true ∨ flatLast x.tree.path = true) :
    flattenItem g (nestItem x) = [nestItem x] :=
  flattenItem_nest_fixed g x h

example : flatLast (use [i 'a', i 'b', .slf none]).tree.path = true := by decide +kernel

/-- `a::self` ↦ `a::{self}` ↦ `a::{self}`. -/
theorem nest_trailing_self_idem (x : Item) : nestItem (nestItem x) = nestItem x :=
  nestItem_idem x

/-- `flatten_use_trees` (flatten every item, nest, drop an import that `is_repeated_by` an earlier
kept one) applied to its own output is the identity, for items as the parser builds them. -/
theorem flattenUseTrees_idem (g : Granularity) (its : List Item)
    (hwf : ∀ it ∈ its, wfPath true it.tree.path = true) :
    flattenUseTrees g (flattenUseTrees g its) = flattenUseTrees g its := by
  refine flattenUseTrees_fixed g _ (fun y hy => ?_) (dedupItems_pairwise _ [] List.Pairwise.nil)
  have := dedupItems_nil_sub _ y hy
  simp only [List.mem_map, List.mem_flatMap] at this
  obtain ⟨x, ⟨it, hit, hx⟩, rfl⟩ := this
  exact ⟨flattenItem_nest_fixed g x (flattenItem_flat g it (hwf it hit) x hx), nestItem_idem x⟩

/-- What makes the second application the identity: in the output of `flatten_use_trees` no import
`is_repeated_by` an earlier one (every list, no hypothesis) … -/
theorem flattenUseTrees_no_repeat (g : Granularity) (its : List Item) :
    (flattenUseTrees g its).Pairwise (fun a b => isRepeatedBy a b = false) :=
  dedupItems_pairwise _ [] List.Pairwise.nil

/-- … and the loop of `flatten_use_trees` returns such a list as it is. -/
theorem dedup_fixed (l : List Item) (h : l.Pairwise (fun a b => isRepeatedBy a b = false)) :
    dedupItems l [] = l :=
  dedupItems_of_pairwise l [] h

example : [use [i 'a'], (⟨.mk [i 'a'], some "pub".toList, none, false⟩ : Item),
    (⟨.mk [i 'a'], some [], some (n 'x'), false⟩ : Item)].Pairwise
      (fun a b => isRepeatedBy a b = false) := by decide +kernel

/-! ## (i) `normalize_use_trees_with_granularity` -/

/-- `Preserve`: the identity, so trivially idempotent (every `cmp`, every run). -/
theorem granularity_idem_preserve (cmp : Tree → Tree → Ordering) (its res : List Item)
    (_h : withGranularity cmp .preserve its = .ok res) : withGranularity cmp .preserve res = .ok res := rfl

/-- `Item`: the second application returns the list of the first, as a list (same items, same
order), for items as the parser builds them. -/
theorem granularity_idem_item (cmp : Tree → Tree → Ordering) (its res : List Item)
    (hwf : ∀ it ∈ its, wfPath true it.tree.path = true)
    (h : withGranularity cmp .item its = .ok res) : withGranularity cmp .item res = .ok res := by
  cases h
  exact congrArg Except.ok (flattenUseTrees_idem .item its hwf)

example : ∀ it ∈ [use [i 'a', .list [.mk [.slf none], .mk [i 'b', .list [.mk [i 'c'], .mk [.glob]]]]]],
    wfPath true it.tree.path = true := by decide +kernel

/-- `One`: `use a::{b, b::c}; use a;` — legal Rust, no alias, no duplicate, satisfies
the C10 hypothesis `safeFor .one` — is merged to `use a::{self, b, b::c};`; the second pass, reading
that, merges `b` and `b::c` into `use a::{self, b::{self, c}};`.  (The merge result depends on the
order in which the flattened paths arrive.) -/
theorem granularity_one_idem_counterexample :
    let its := [use [i 'a', .list [.mk [i 'b'], .mk [i 'b', i 'c']]], use [i 'a']]
    runTwice (treeCmp false) .one .stdExternalCrate true its =
      .ok ([[use [i 'a', .list [.mk [.slf none], .mk [i 'b'], .mk [i 'b', i 'c']]]]],
           [[use [i 'a', .list [.mk [.slf none], .mk [i 'b', .list [.mk [.slf none], .mk [i 'c']]]]]]]) ∧
    mapE (normalizeItem (treeCmp false)) its = .ok its ∧ safeFor .one its = true ∧
    normalizable its = true := by
  decide +kernel

/-- The second output is then stable. -/
theorem granularity_one_third_pass :
    runTwice (treeCmp false) .one .stdExternalCrate true
        [use [i 'a', .list [.mk [.slf none], .mk [i 'b'], .mk [i 'b', i 'c']]]] =
      .ok ([[use [i 'a', .list [.mk [.slf none], .mk [i 'b', .list [.mk [.slf none], .mk [i 'c']]]]]]],
           [[use [i 'a', .list [.mk [.slf none], .mk [i 'b', .list [.mk [.slf none], .mk [i 'c']]]]]]]) := by
  decide +kernel

/-- `Module`, outside the C10 hypothesis (alias twins): `use b; use a; use a as x;` is
merged to `use {a, a as x, b};`; the second pass drops `a as x`: `use {a, b};`.  (In the order
`use a; use a as x; use b;` the first pass already drops it: C10 `alias_twin_counterexample`.) -/
theorem granularity_module_idem_counterexample :
    let its := [use [i 'b'], use [i 'a'], use [ia 'a' 'x']]
    runTwice (treeCmp false) .module .stdExternalCrate true its =
      .ok ([[use [.list [.mk [i 'a'], .mk [ia 'a' 'x'], .mk [i 'b']]]]],
           [[use [.list [.mk [i 'a'], .mk [i 'b']]]]]) ∧
    safeFor .module its = false := by
  decide +kernel

/-- `Crate`, duplicate import (rejected by rustc, accepted by the parser):
`use b; use b::{self};` is merged to `use b::{self, self};`, then to `use b::self;`. -/
theorem granularity_crate_idem_counterexample :
    runTwice (treeCmp false) .crate .stdExternalCrate true
        [use [i 'b'], use [i 'b', .list [.mk [.slf none]]]] =
      .ok ([[use [i 'b', .list [.mk [.slf none], .mk [.slf none]]]]], [[use [i 'b', .slf none]]]) := by
  decide +kernel

/-! ## (i) `group_imports` -/

/-- Grouping the concatenation of a std group, an external group and a local group gives back
exactly these three groups (what the second run sees of the first run's output). -/
theorem groupImports_of_grouped (g1 g2 g3 : List Item) (h1 : ∀ t ∈ g1, classify t.tree = .std)
    (h2 : ∀ t ∈ g2, classify t.tree = .external) (h3 : ∀ t ∈ g3, classify t.tree = .localG) :
    groupImports (g1 ++ g2 ++ g3) = [g1, g2, g3] :=
  RF.Lemmas.Idem.groupImports_of_grouped g1 g2 g3 h1 h2 h3

/-- In particular regrouping the groups of any run returns the same groups. -/
theorem groupImports_idem (ts : List Item) :
    groupImports (groupImports ts).flatten = groupImports ts := by
  have := pregroup_map .stdExternalCrate id (fun _ _ h => h) ts
  rw [List.map_id] at this
  exact this

/-! ## (i) the whole `use` arm, twice -/

/-- `imports_granularity = Preserve` (the default), every `group_imports`, `reorder_imports` on or
off, both style editions (any total preorder): the `use` arm run on what it wrote writes the same
groups, the same items in the same order.  Hypotheses: every input item is as the parser builds it
(`{}` allowed anywhere); no normalised item is the bare `use self;` (see the counter-example above). -/
theorem run_idem_preserve {cmp : Tree → Tree → Ordering} (tp : TotalPreorder cmp) (gt : GroupTactic)
    (reorder : Bool) (items normalized : List Item)
    (hn : mapE (normalizeItem cmp) items = .ok normalized)
    (hwf : ∀ it ∈ items, wfPath true it.tree.path = true)
    (hb : ∀ it ∈ normalized, bareSelf it = false) :
    ∃ groups, runTwice cmp .preserve gt reorder items = .ok (groups, groups) := by
  refine runTwice_of_fixed tp .preserve gt reorder items normalized normalized hn rfl ?_ ?_
    fun _ _ _ _ => rfl
  · intro it' hit'
    obtain ⟨it, hit, h⟩ := mapE_mem _ _ _ hn it' hit'
    exact useNormalize_read_back it it' h (hwf it hit)
  · intro it' hit' hne
    obtain ⟨it, hit, h⟩ := mapE_mem _ _ _ hn it' hit'
    exact normalizeItem_idem tp it it' h (hwf it hit) hne (hb it' hit')

/-- `imports_granularity = Item`, every `group_imports`, `reorder_imports` on or off, any total preorder:
the `use` arm run on what it wrote writes the same groups.  Only the input hypothesis (as the parser
builds it); no condition on `self` (after `nest_trailing_self` no item is
the bare `use self;`).  The de-duplication is `is_repeated_by` (same path, same
visibility, no attributes, no comments). -/
theorem run_idem_item {cmp : Tree → Tree → Ordering} (tp : TotalPreorder cmp) (gt : GroupTactic)
    (reorder : Bool) (items normalized : List Item)
    (hn : mapE (normalizeItem cmp) items = .ok normalized)
    (hwf : ∀ it ∈ items, wfPath true it.tree.path = true) :
    ∃ groups, runTwice cmp .item gt reorder items = .ok (groups, groups) := by
  have hwfN : ∀ it ∈ normalized, wfPath true it.tree.path = true := by
    intro it' hit'
    obtain ⟨it, hit, h⟩ := mapE_mem _ _ _ hn it' hit'
    exact normPath_wf cmp _ _ _ _ _ true (normalizeItem_normPath h).1 (hwf it hit)
  have hfix := flattened_fixed tp .item items normalized hn hwf hwfN
  refine runTwice_of_fixed tp .item gt reorder items normalized (flattenUseTrees .item normalized) hn
    rfl (fun y hy => (hfix y hy).1) (fun y hy => (hfix y hy).2.1) fun l l' hp hsub => ?_
  -- a sublist of a permutation of the flattened run: still no item repeats another
  exact congrArg Except.ok (flattenUseTrees_fixed .item l
    (fun y hy => (hfix y (hp.subset (hsub.subset hy))).2.2)
    (((hp.pairwise_iff NoRep.symm).2 (dedupItems_pairwise _ [] List.Pairwise.nil)).sublist hsub))

/-- Non-vacuity: `use a::{self, b::{c, *}}; use a::b::c as x;` -/
example :
    let items := [use [i 'a', .list [.mk [.slf none], .mk [i 'b', .list [.mk [i 'c'], .mk [.glob]]]]],
      use [i 'a', i 'b', ia 'c' 'x']]
    mapE (normalizeItem (treeCmp false)) items = .ok items ∧
      (∀ it ∈ items, wfPath true it.tree.path = true) ∧
      runTwice (treeCmp false) .item .stdExternalCrate true items =
        .ok ([[use [i 'a', i 'b', i 'c'], use [i 'a', i 'b', ia 'c' 'x'], use [i 'a', i 'b', .glob],
               use [i 'a', .list [.mk [.slf none]]]]],
             [[use [i 'a', i 'b', i 'c'], use [i 'a', i 'b', ia 'c' 'x'], use [i 'a', i 'b', .glob],
               use [i 'a', .list [.mk [.slf none]]]]]) := by
  decide +kernel

/-- Non-vacuity with `{}` and with a repeated import:
`use a::{b::{}, c}; pub use a::c; use a::{c, d::{e::{}}};` under `Item` is written
`use a::c; pub use a::c;` by both runs (the third declaration repeats the first: same path, same
visibility; the `pub` one does not and is kept). -/
example :
    let items := [use [i 'a', .list [.mk [i 'b', .list []], .mk [i 'c']]],
      (⟨.mk [i 'a', i 'c'], some "pub".toList, none, false⟩ : Item),
      use [i 'a', .list [.mk [i 'c'], .mk [i 'd', .list [.mk [i 'e', .list []]]]]]]
    (∀ it ∈ items, wfPath true it.tree.path = true) ∧
      runTwice (treeCmp false) .item .stdExternalCrate true items =
        .ok ([[use [i 'a', i 'c'], ⟨.mk [i 'a', i 'c'], some "pub".toList, none, false⟩]],
             [[use [i 'a', i 'c'], ⟨.mk [i 'a', i 'c'], some "pub".toList, none, false⟩]]) := by
  decide +kernel

/-- `normalize` keeps the input hypothesis `wfPath` (so it holds of what the second run reads), and
the result has no `{}` left when the input had none or the declaration has no attributes
(`#[a] use b::{};` is kept as it is). -/
theorem useNormalize_keeps_wf {cmp : Tree → Tree → Ordering} (it it' : Item)
    (h : normalizeItem cmp it = .ok it') (hwf : wfPath true it.tree.path = true) :
    wfPath true it'.tree.path = true ∧
      (leafyPath it.tree.path = true ∨ it.attrs = none → leafyPath it'.tree.path = true) := by
  obtain ⟨hp, -⟩ := normalizeItem_normPath h
  refine ⟨normPath_wf _ _ _ _ _ _ true hp hwf, ?_⟩
  rintro (hleafy | hattrs)
  · exact (Bool.and_eq_true_iff.1
      (norm_ok_ne (normPath_norm _ _ _ _ _ _ hp) true (Bool.and_eq_true_iff.2 ⟨hwf, hleafy⟩)).1).2
  · exact normPath_leafy _ _ _ _ _ _ true (by rw [hattrs]; rfl) hp hwf

/-- Without either: `#[x] use a::{b::{}, c::{}};` keeps an empty list (`#[x] use a::{};`), which is a
fixed point all the same. -/
theorem useNormalize_attrs_keeps_empty_list :
    let it : Item := ⟨.mk [i 'a', .list [.mk [i 'b', .list []], .mk [i 'c', .list []]]], some [], some (n 'x'), false⟩
    let it' : Item := ⟨.mk [i 'a', .list []], some [], some (n 'x'), false⟩
    normalizeItem (treeCmp false) it = .ok it' ∧ leafyPath it'.tree.path = false ∧
      normalizeItem (treeCmp false) it' = .ok it' := by
  decide +kernel

/-- Non-vacuity: `use std::{b, a::self, c::{}}; use a::{self}; use crate::x as y;` -/
example :
    let items := [use [.ident "std".toList none, .list [.mk [i 'b'], .mk [i 'a', .slf none], .mk [i 'c', .list []]]],
      use [i 'a', .list [.mk [.slf none]]], use [.crate none, ia 'x' 'y']]
    ∃ normalized, mapE (normalizeItem (treeCmp true)) items = .ok normalized ∧
      (∀ it ∈ items, wfPath true it.tree.path = true) ∧
      (∀ it ∈ normalized, bareSelf it = false) :=
  ⟨[use [.ident "std".toList none, .list [.mk [i 'a'], .mk [i 'b']]],
    use [i 'a', .list [.mk [.slf none]]], use [.crate none, ia 'x' 'y']],
   by decide +kernel, by decide +kernel, by decide +kernel⟩

/-! ## (iii) Newline style -/
section Newline
open RF.Newline

/-- `apply_newline_style` applied to its own output — which is also the raw input of the second run,
so `Auto` detects from it — is the identity: for `Windows` always; for `Unix`, `Native` and an `Auto`
that detected Unix, when the text handed to the converter contains no `\r\r\n`. -/
theorem applyNewlineStyle_idem (style : Style) (formatted raw : List Char)
    (h : effective style raw = .unix → hasCrCrLf formatted = false) :
    applyNewlineStyle style (applyNewlineStyle style formatted raw)
        (applyNewlineStyle style formatted raw) = applyNewlineStyle style formatted raw :=
  RF.Lemmas.Idem.applyNewlineStyle_idem style formatted raw h

example : effective .auto ['a', '\r', '\n'] = .windows := by decide +kernel
example : effective .auto ['a', '\n'] = .unix ∧ hasCrCrLf ['x', '\r', '\n', 'y', '\n'] = false := by
  decide +kernel

/-- What `Auto` detects on the second run: a converted-to-Windows text is detected as Windows (or has
no line terminator at all), a text without `\r\n` as Unix. -/
theorem auto_redetects (t : List Char) :
    (autoDetect (convertToWindows t) = .windows ∨ '\n' ∉ convertToWindows t) ∧
    (hasCrLf t = false → autoDetect t = .unix) :=
  ⟨autoDetect_of_everyLfAfterCr _ (RF.Lemmas.Newline.everyLfAfterCr_windows t none),
   autoDetect_of_noCrLf t⟩

/-- Without the hypothesis (C08 F5b): under `Unix` the text `a\r\r\n` becomes `a\r\n`, then `a\n`;
under `Auto` with a Unix raw input, `a\r\r\nb\n` becomes `a\r\nb\n`, is then detected as *Windows*
and becomes `a\r\nb\r\n`. -/
theorem applyNewlineStyle_idem_counterexample :
    applyNewlineStyle .unix ['a', '\r', '\r', '\n'] [] = ['a', '\r', '\n'] ∧
    applyNewlineStyle .unix ['a', '\r', '\n'] ['a', '\r', '\n'] = ['a', '\n'] ∧
    applyNewlineStyle .auto ['a', '\r', '\r', '\n', 'b', '\n'] ['\n'] = ['a', '\r', '\n', 'b', '\n'] ∧
    applyNewlineStyle .auto ['a', '\r', '\n', 'b', '\n'] ['a', '\r', '\n', 'b', '\n'] =
      ['a', '\r', '\n', 'b', '\r', '\n'] := by
  decide +kernel

/-- Re-exports of C08: the two converters. -/
theorem windows_idempotent (t : List Char) :
    convertToWindows (convertToWindows t) = convertToWindows t :=
  RF.Props.C08.windows_idempotent t

theorem unix_idempotent_partial (t : List Char) (h : hasCrCrLf t = false) :
    convertToUnix (convertToUnix t) = convertToUnix t :=
  RF.Props.C08.unix_idempotent_partial t h

/-! ## (ii) Final newline -/

/-- A text `p ++ "\n"` whose body `p` ends in ordinary text (not `\n`, not `\r`) is what
`append_newline` + the truncation of `format_lines` return for **every** buffer `p ++ "\n"^k`: the next
run's visitor re-emits `p` followed by however many newlines, `append_newline` adds one, the truncation
keeps exactly one. -/
theorem finalize_fixed (p : List Char) (k : Nat)
    (hp : ∀ x, p.getLast? = some x → x ≠ '\n' ∧ x ≠ '\r') :
    finalize (p ++ List.replicate k '\n') = some (p ++ ['\n']) := by
  simpa using RF.Lemmas.Newline.finalize_cr_lf p 0 k hp

example : ∀ x, ['f', 'n', ' ', 'f', '(', ')', ' ', '{', '}'].getLast? = some x → x ≠ '\n' ∧ x ≠ '\r' := by
  simp

/-- The first run's output has that form (C08 `exactly_one_final_newline`), hence: first run, then
second run on any buffer that re-emits the body, give the same text; and the truncation alone leaves
the first output as it is. -/
theorem truncate_append_fixed (b : List Char) (hcr : '\r' ∉ b) (hne : ∃ x ∈ b, x ≠ '\n') :
    ∃ p, finalize b = some (p ++ ['\n']) ∧ p ≠ [] ∧
      (∀ k, finalize (p ++ List.replicate k '\n') = some (p ++ ['\n'])) ∧
      formatLinesTruncate (p ++ ['\n']) = some (p ++ ['\n']) := by
  obtain ⟨p, k, rfl, hpne, hp, hfin⟩ := RF.Lemmas.Newline.finalize_no_cr b hcr hne
  have hpt : RF.Lemmas.Newline.EndsInText p := fun x hx =>
    ⟨fun e => hp (e ▸ hx), fun e => hcr (List.mem_append_left _ (e ▸ List.mem_of_getLast? hx))⟩
  refine ⟨p, hfin, hpne, fun k => finalize_fixed p k hpt, ?_⟩
  simpa using RF.Lemmas.Newline.formatLinesTruncate_decomp p ['\n'] hpt
    (by simp [RF.Lemmas.Newline.CrLfOnly])

example : '\r' ∉ ['a', '\n', '\n', '\n'] ∧ ∃ x ∈ ['a', '\n', '\n', '\n'], x ≠ '\n' := by decide +kernel

/-- The truncation is the identity on every text whose trailing run holds at most one `\n`. -/
theorem truncate_fixed (t : List Char) (h : newlineCount 0 t ≤ 1) : formatLinesTruncate t = some t := by
  simp only [formatLinesTruncate, if_neg (Nat.not_lt.2 h)]

example : newlineCount 0 ['a', '\n', 'b', '\n'] ≤ 1 := by decide +kernel

/-! ## (ii) Blank lines -/

/-- Re-export of C08: clamping is idempotent for `lower ≤ upper` … -/
theorem clampBlank_idem (off req lower upper : Nat) (h : lower ≤ upper) :
    clampBlank (clampBlank off req lower upper) 0 lower upper = clampBlank off req lower upper :=
  RF.Props.C08.clampBlank_idem off req lower upper h

/-- … and a gap produced by the clamp is reproduced when it is the request of the second pass. -/
theorem clampBlank_reformat (req lower upper : Nat) (h : lower ≤ upper) :
    clampBlank 0 (clampBlank 0 req lower upper) lower upper = clampBlank 0 req lower upper :=
  RF.Props.C08.clampBlank_reformat req lower upper h

/-- With `blank_lines_lower_bound > blank_lines_upper_bound` (F17) it is not. -/
theorem clampBlank_idem_counterexample :
    clampBlank (clampBlank 0 3 2 1) 0 2 1 ≠ clampBlank 0 3 2 1 :=
  RF.Props.C08.clampBlank_idem_counterexample

/-- A gap already within the bounds is left as it is: with `off` newlines at the end of the buffer
and `lower + 1 ≤ off + req ≤ upper + 1`, `push_vertical_spaces` pushes exactly the `req` newlines
asked for.  (No hypothesis relating `lower` and `upper`.) -/
theorem pushVerticalSpaces_fixed (off req lower upper : Nat) (h1 : lower + 1 ≤ req + off)
    (h2 : req + off ≤ upper + 1) : pushVerticalSpaces off req lower upper = req := by
  simp only [pushVerticalSpaces, gt_iff_lt, if_neg (Nat.not_lt.2 h2), if_neg (Nat.not_lt.2 h1)]

example : (0 : Nat) + 1 ≤ 2 + 0 ∧ 2 + 0 ≤ 1 + 1 := by decide +kernel

/-! ## (iii) Trailing whitespace -/

/-- Re-exports of C08, with their honest hypotheses: the loop of `remove_trailing_white_spaces` is
idempotent on a fixed classification of the characters … -/
theorem removeTrailingWhitespace_idem (ks : List (CC.Kind × Char)) :
    rtwTagged [] (rtwTagged [] ks) = rtwTagged [] ks :=
  RF.Props.C08.removeTrailingWhitespace_idem ks

/-- … the whole function (which re-runs `CharClasses`) on every text whose classification survives
the removal (`rtwStable`, decidable, `nl.oracle.rtwstable`) … -/
theorem removeTrailingWhitespace_idem_partial (t out : List Char) (hs : rtwStable t = true)
    (h : removeTrailingWhiteSpaces t = some out) : removeTrailingWhiteSpaces out = some out :=
  RF.Props.C08.removeTrailingWhitespace_idem_partial t out hs h

/-- … in particular on every text without `'`. -/
theorem removeTrailingWhitespace_idem_no_quote_partial (t out : List Char) (hq : '\'' ∉ t)
    (h : removeTrailingWhiteSpaces t = some out) : removeTrailingWhiteSpaces out = some out :=
  RF.Props.C08.removeTrailingWhitespace_idem_no_quote_partial t out hq h

/-- Not in general (C08; the input is not lexable Rust). -/
theorem removeTrailingWhitespace_idem_counterexample :
    removeTrailingWhiteSpaces ['\'', ' ', '\n', '\'', '"', '\'', '"', ' ', '\n'] =
      some ['\'', '\n', '\'', '"', '\'', '"', ' ', '\n'] ∧
    removeTrailingWhiteSpaces ['\'', '\n', '\'', '"', '\'', '"', ' ', '\n'] =
      some ['\'', '\n', '\'', '"', '\'', '"', '\n'] :=
  RF.Props.C08.removeTrailingWhitespace_idem_counterexample

end Newline

/-! ## (iv) Skipped code -/
section Skip
open RF.Skip

theorem trim_idem (s : List Char) : trim (trim s) = trim s := RF.Lemmas.Idem.trim_idem s

/-- The `trim` of `process_missing_code` (`RF.Model.Newline`, the same `str::trim`) likewise. -/
theorem processMissingCode_trim_idem (s : List Char) :
    RF.Newline.trim (RF.Newline.trim s) = RF.Newline.trim s :=
  trimGen_idem RF.Newline.isWhitespace s

/-- Formatting a text that contains an already verbatim-copied skipped node: when the span
`lo2..hi2` of the second run's source holds what the first run pushed for the node (`trim sn`),
`push_skipped_with_span` pushes the same characters again. -/
theorem pushSkipped_roundtrip {src2 : List Char} {st st' : State} {attrHis : List Nat}
    {lo2 hi2 mainLo : Nat} {w sn : List Char}
    (hsn : snippet src2 lo2 hi2 = some (trim sn))
    (h : pushSkipped src2 st attrHis lo2 hi2 mainLo w = some st') :
    st'.buffer = st.buffer ++ w ++ trim sn := by
  obtain ⟨sn', hsn', -, hb, -⟩ := RF.Skip.pushSkipped_spec h
  rw [hsn] at hsn'
  cases hsn'
  rw [hb, RF.Lemmas.Idem.trim_idem]

/-- Non-vacuity: first run pushes `#[s] fn  f( ) {}` for the span ` #[s] fn  f( ) {} `-with-blanks;
the second run, on a source holding exactly that, pushes it again. -/
example :
    let sn := " #[s] fn  f( ) {}\n".toList
    let src2 := "a;\n#[s] fn  f( ) {}\n".toList
    snippet src2 3 19 = some (trim sn) ∧
      ∃ st', pushSkipped src2 ⟨"a;".toList, 2, 0, []⟩ [7] 3 19 3 "\n".toList = some st' ∧
        st'.buffer = "a;\n#[s] fn  f( ) {}".toList := by
  decide +kernel

end Skip

end RF.Props.C02

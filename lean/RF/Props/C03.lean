import RF.Model.Comment
import RF.Lemmas.Comment
import RF.Model.LexSpec
import RF.Lemmas.LexSpec
/-!
# C03 — Comments are never silently dropped

What is proved here, for **all** inputs, about the model `RF.Comment` of `/repo/src/comment.rs`
(tied to the code on every run by `rfverif c03`):

* the two slice iterators return a partition of their input and never panic
  (`slices_partition`, `ungrouped_partition`);
* `CommentReducer` (the *payload* the safety net compares) is characterised: it depends only on
  the stripped lines of a comment (`payload_reindent_invariant`: this is why re-indentation and
  trimming of trailing blanks never trip the net), it is the non-blank characters for line comments
  and for block comments without `*` (`payload_line_spec`, `payload_block_spec_partial`), so dropping
  any non-blank character is detected there (`payload_detects_removal_partial`) — and it is blind
  to most `*` of a multi-line block comment (`payload_detects_removal_counterexample`);
* the safety net `recover_comment_removed` returns the source text, or a rewrite with the same
  payload (`safety_net_sound`), and it fires exactly when the payloads differ
  (`safety_net_fires_iff`);
* the oracles that judge the real formatter's output (`commentsPreserved`, `wordsPreserved`) are
  reflexive, invariant under re-indentation / trailing-blank trimming of comment lines, reject a
  dropped or duplicated comment, and imply equal payloads.

What is **not** proved: that every rewriter of rustfmt routes the text between its pieces through
the list machinery, the missed-span writer or the safety net.  That is searched by `rfverif c03`
on the real formatter, with the oracles below as judges.
-/
namespace RF.Props.C03
open RF.CharClasses RF.Comment RF.Lemmas.Comment

/-- `CommentCodeSlices::new(s)`: for every text, no panic, the slices concatenated give back the
text (nothing lost, nothing duplicated), kinds alternate starting with a (possibly empty)
`Normal` slice, and every slice starts at the byte where the previous one ended. -/
theorem slices_partition (s : List Char) :
    ∃ items, commentCodeSlices? s = some items ∧ items.flatMap (·.text) = s ∧
      Alternates .normal items ∧ Contiguous 0 items :=
  slices_spec s

example : commentCodeSlices? "x /* a */ y".toList =
    some [⟨.normal, 0, "x ".toList⟩, ⟨.comment, 2, "/* a */".toList⟩, ⟨.normal, 9, " y".toList⟩] := by
  -- here and below: one `String.toList_ofList` per distinct literal turns `"…".toList`, which the kernel
  -- evaluates slowly, into the list of its characters by a theorem
  rw [String.toList_ofList, String.toList_ofList, String.toList_ofList, String.toList_ofList]
  decide +kernel

/-- `UngroupedCommentCodeSlices::new(s)`: for every text the `_ => panic!()` arm is not reached,
the slices concatenated give back the text, and the start offsets are contiguous. -/
theorem ungrouped_partition (s : List Char) :
    ∃ items, ungrouped? s = some items ∧ items.flatMap (·.text) = s ∧ Contiguous 0 items :=
  ungrouped_spec s

example : ungrouped? "// a\n  // b\nx".toList =
    some [⟨.comment, 0, "// a\n".toList⟩, ⟨.normal, 5, "  ".toList⟩,
      ⟨.comment, 7, "// b\n".toList⟩, ⟨.normal, 12, "x".toList⟩] := by
  rw [String.toList_ofList, String.toList_ofList, String.toList_ofList, String.toList_ofList, String.toList_ofList]
  decide +kernel

/-- The `//`-connector rule: line comments separated only by blanks form one `Comment` slice … -/
example : commentCodeSlices? "// a\n  // b\nx".toList =
    some [⟨.normal, 0, []⟩, ⟨.comment, 0, "// a\n  // b\n".toList⟩, ⟨.normal, 12, "x".toList⟩] := by
  rw [String.toList_ofList, String.toList_ofList, String.toList_ofList]
  decide +kernel

/-- … and a quirk of that rule: the trailing blanks of a line comment that ends the text are cut
off the `Comment` slice and returned as a `Normal` one (the partition still holds). -/
theorem slices_connector_counterexample :
    commentCodeSlices? "// a  ".toList =
      some [⟨.normal, 0, []⟩, ⟨.comment, 0, "// a".toList⟩, ⟨.normal, 4, "  ".toList⟩] := by
  rw [String.toList_ofList, String.toList_ofList, String.toList_ofList]
  decide +kernel

/-- Re-indentation and trailing blanks are invisible to `CommentReducer`: two comment bodies whose
lines agree after stripping leading and trailing blanks have the same payload (line comments:
`blk = false`, block comments: `blk = true`). -/
theorem payload_reindent_invariant (blk : Bool) (a b : List Char)
    (h : (splitNl a).map stripLine = (splitNl b).map stripLine) :
    reduce blk .firstLine a = reduce blk .firstLine b := by
  rw [← joinNl_splitNl a, ← joinNl_splitNl b, reduce_joinNl_strip blk _ _ (by decide) (splitNl_no_nl a),
    reduce_joinNl_strip blk _ _ (by decide) (splitNl_no_nl b), h]

example : (splitNl " a\n * b  \n".toList).map stripLine =
    (splitNl " a   \n        * b\n".toList).map stripLine := by
  rw [String.toList_ofList, String.toList_ofList]
  decide +kernel

/-- The same for whole terminated block comments `/*body*/`. -/
theorem payload_block_reindent (a b : List Char)
    (ha1 : startsWith a ['*'] = false) (ha2 : startsWith a ['!'] = false)
    (hb1 : startsWith b ['*'] = false) (hb2 : startsWith b ['!'] = false)
    (h : (splitNl a).map stripLine = (splitNl b).map stripLine) :
    payload? ('/' :: '*' :: (a ++ ['*', '/'])) = payload? ('/' :: '*' :: (b ++ ['*', '/'])) := by
  simp only [payload?, removeCommentHeader_block a ha1 ha2, removeCommentHeader_block b hb1 hb2,
    Option.map_some]
  simp [startsWith, payload_reindent_invariant true a b h]

example : payload? "/* a\n     * b */".toList = payload? "/* a  \n * b */".toList := by
  rw [String.toList_ofList, String.toList_ofList]
  decide +kernel

/-- A non-doc line comment: the payload is the body without white space. -/
theorem payload_line_spec (body : List Char)
    (h1 : startsWith body ['/'] = false) (h2 : startsWith body ['!'] = false) :
    payload? ('/' :: '/' :: body) = some (body.filter fun c => !isWs c) := by
  simp [payload?, removeCommentHeader_line_eq, h1, h2, startsWith, reduce_line_comment]

example : payload? "// a  b\t".toList = some "ab".toList := by
  rw [String.toList_ofList, String.toList_ofList]
  decide +kernel

/-- A terminated block comment without `*` in its body: the payload is the body without white
space. -/
theorem payload_block_spec_partial (body : List Char) (hstar : ∀ c ∈ body, c ≠ '*')
    (h2 : startsWith body ['!'] = false) :
    payload? ('/' :: '*' :: (body ++ ['*', '/'])) = some (body.filter fun c => !isWs c) := by
  have h1 : startsWith body ['*'] = false := by
    cases body with
    | nil => rfl
    | cons c cs => simpa [startsWith] using hstar c (by simp)
  simp [payload?, removeCommentHeader_block body h1 h2, startsWith,
    reduce_no_star true body .firstLine hstar]

/-- The full-strength statement (without the hypothesis on `*`) is false: `at_start_line` is never
cleared, so after the first line every `*` that does not follow another `*` is skipped. -/
theorem payload_block_spec_counterexample :
    payload? "/*\n a * b */".toList = some "ab".toList := by
  rw [String.toList_ofList, String.toList_ofList]
  decide +kernel

/-- Where the payload is the non-blank characters, dropping any non-blank character of a comment
changes it — the safety net notices. -/
theorem payload_detects_removal_partial (blk : Bool) (x y : List Char) (c : Char)
    (hc : isWs c = false) (hstar : ∀ d ∈ x ++ c :: y, d ≠ '*') :
    reduce blk .firstLine (x ++ c :: y) ≠ reduce blk .firstLine (x ++ y) := by
  rw [reduce_no_star blk _ _ hstar,
    reduce_no_star blk _ _ (fun d hd => hstar d (by
      rcases List.mem_append.mp hd with h | h
      · exact List.mem_append.mpr (Or.inl h)
      · exact List.mem_append.mpr (Or.inr (List.mem_cons_of_mem _ h))))]
  exact filter_erase_ne x y c hc

example : reduce true .firstLine "\n a b".toList ≠ reduce true .firstLine "\n a ".toList := by
  rw [String.toList_ofList, String.toList_ofList]
  decide +kernel

/-- In general it does not: a `*` inside a later line of a block comment can be dropped unnoticed. -/
theorem payload_detects_removal_counterexample :
    reduce true .firstLine "\n a * b".toList = reduce true .firstLine "\n a  b".toList := by
  rw [String.toList_ofList, String.toList_ofList]
  decide +kernel

/-- Line comments have no such blind spot. -/
theorem payload_line_detects_removal (x y : List Char) (c : Char) (hc : isWs c = false) :
    reduce false .firstLine (x ++ c :: y) ≠ reduce false .firstLine (x ++ y) := by
  rw [reduce_line_comment, reduce_line_comment]
  exact filter_erase_ne x y c hc

/-- The payload of a comment that says something is never empty — whatever its opener looks like
(`/*`, `/**`, `/***…`, `/*!`): a terminated block comment whose body has a character that is
neither white space nor `/ * !` yields at least that character.  So the safety net cannot take
"the comment is gone" for "nothing changed".  (rustc_lexer calls `/***…` and `/**/` ordinary
comments although they begin like doc comments; `rfverif c03` checks the real
`changed_comment_content(comment, "")` on every such comment through the oracle `dropIsNoticed`.) -/
theorem payload_nonempty_of_text_block (body : List Char) (c : Char) (hc : c ∈ body)
    (ht : isText c = true) :
    ∃ p, payload? ('/' :: '*' :: (body ++ ['*', '/'])) = some p ∧ p ≠ [] := by
  obtain ⟨b', hb, hkeep⟩ := removeCommentHeader_block_text body
  simp only [payload?, hb, Option.map_some]
  exact ⟨_, rfl, reduce_yields_text _ ht b' _ (hkeep c hc ht)⟩

/-- The same for line comments (`//`, `///`, `////…`, `//!`). -/
theorem payload_nonempty_of_text_line (body : List Char) (c : Char) (hc : c ∈ body)
    (ht : isText c = true) :
    ∃ p, payload? ('/' :: '/' :: body) = some p ∧ p ≠ [] := by
  obtain ⟨b', hb, hkeep⟩ := removeCommentHeader_line_text body
  simp only [payload?, hb, Option.map_some]
  exact ⟨_, rfl, reduce_yields_text _ ht b' _ (hkeep c hc ht)⟩

example : payload? "/*** c03 banner ***/".toList = some "*c03banner**".toList := by
  rw [String.toList_ofList, String.toList_ofList]
  decide +kernel
example : payload? "/****\n * boxed *\n ****/".toList = some "**boxed*".toList := by
  rw [String.toList_ofList, String.toList_ofList]
  decide +kernel

/-- Without text the payload can be empty: such comments (`/**/`, `/***/`, a bare gutter) are
invisible to the safety net, which is why they can vanish at the positions it guards (finding
C03-E1). -/
theorem payload_empty_counterexample :
    payload? "/**/".toList = some [] ∧ payload? "/***/".toList = some [] ∧
    payload? "/*\n *\n */".toList = some [] ∧ payload? "//".toList = some [] := by
  rw [String.toList_ofList, String.toList_ofList, String.toList_ofList, String.toList_ofList]
  decide +kernel

/-- The oracle on the real `changed_comment_content(comment, "")`: accepted exactly when a comment
with text is reported as a change. -/
theorem dropIsNoticed_iff (comment : List Char) (changed : Bool) :
    dropIsNoticed comment changed = true ↔ (hasText comment = true → changed = true) := by
  cases h : hasText comment <;> cases changed <;> simp [dropIsNoticed, h]

example : dropIsNoticed "/*** c ***/".toList false = false := by
  rw [String.toList_ofList]
  decide +kernel
example : dropIsNoticed "/**/".toList false = true := by
  rw [String.toList_ofList]
  decide +kernel

/-- `changed_comment_content` answers "unchanged" exactly when both comment payloads can be
computed and are equal. -/
theorem changed_content_iff (orig new : List Char) :
    changedCommentContent? orig new = some false ↔
      (commentPayload? orig).isSome ∧ commentPayload? orig = commentPayload? new := by
  constructor
  · intro h
    obtain ⟨a, ea⟩ := Option.isSome_iff_exists.mp (ungrouped_isSome orig)
    obtain ⟨b, eb⟩ := Option.isSome_iff_exists.mp (ungrouped_isSome new)
    simp only [changedCommentContent?, ea, eb, Option.map_eq_some_iff, Bool.not_eq_false'] at h
    obtain ⟨_, hr, rfl⟩ := h
    obtain ⟨h1, h2⟩ := streamsEq_true _ _ hr
    simp only [commentPayload?, ea, eb, ← h1, h2, and_self]
  · rintro ⟨h1, h2⟩
    obtain ⟨l, hl⟩ := Option.isSome_iff_exists.mp h1
    simp [changed_of_payloads hl (h2 ▸ hl)]

/-- `recover_comment_removed(new, span)` returns the source text of the span, or `new` with the
same comment payload as the source; a `LostComment` error is reported only together with the
source text and only under `error_on_unformatted`. -/
theorem safety_net_sound (new orig r : List Char) (eou lost : Bool)
    (h : recoverCommentRemoved? new orig eou = some (r, lost)) :
    (r = orig ∧ (lost = true → eou = true)) ∨
    (r = new ∧ lost = false ∧ (commentPayload? orig).isSome ∧
      commentPayload? orig = commentPayload? new) := by
  unfold recoverCommentRemoved? at h
  split at h
  · rename_i heq
    simp only [Option.some.injEq, Prod.mk.injEq] at h
    exact Or.inl ⟨by rw [← h.1, heq], by simp [← h.2]⟩
  · split at h
    · simp at h
    · simp only [Option.some.injEq, Prod.mk.injEq] at h
      exact Or.inl ⟨h.1.symm, by intro hl; rw [h.2]; exact hl⟩
    · rename_i hch
      simp only [Option.some.injEq, Prod.mk.injEq] at h
      obtain ⟨h1, h2⟩ := (changed_content_iff orig new).mp hch
      exact Or.inr ⟨h.1.symm, h.2.symm, h1, h2⟩

example : recoverCommentRemoved? "x".toList "x /* a */".toList true = some ("x /* a */".toList, true) := by
  rw [String.toList_ofList, String.toList_ofList]
  decide +kernel
example : recoverCommentRemoved? "x  /*a*/".toList "x /* a */".toList true = some ("x  /*a*/".toList, false) := by
  rw [String.toList_ofList, String.toList_ofList]
  decide +kernel

/-- The net fires (source kept) exactly when the texts differ and the payloads differ or cannot be
computed; here for the case where both can. -/
theorem safety_net_fires_iff (new orig : List Char) (eou : Bool)
    (ho : (commentPayload? orig).isSome) (hn : (commentPayload? new).isSome) :
    recoverCommentRemoved? new orig eou =
      if orig ≠ new ∧ commentPayload? orig ≠ commentPayload? new then some (orig, eou)
      else some (new, false) := by
  obtain ⟨la, hla⟩ := Option.isSome_iff_exists.mp ho
  obtain ⟨lb, hlb⟩ := Option.isSome_iff_exists.mp hn
  rw [recoverCommentRemoved?, changed_of_payloads hla hlb, hla, hlb]
  by_cases heq : orig = new
  · simp [heq]
  · by_cases hp : la = lb <;> simp [heq, hp]

/-- The full-strength reading "if the net lets the rewrite through, every comment character of the
source is in the rewrite" is false of the code: the payload is blind to `*`
(`payload_detects_removal_counterexample`). -/
theorem safety_net_text_counterexample :
    recoverCommentRemoved? "/*\n a  b */".toList "/*\n a * b */".toList true =
      some ("/*\n a  b */".toList, false) := by
  rw [String.toList_ofList, String.toList_ofList]
  decide +kernel

theorem commentsPreserved_iff (ins outs : List (List Char)) :
    commentsPreserved ins outs = true ↔ ins.map normComment = outs.map normComment := by
  simp [commentsPreserved]

theorem commentsPreserved_refl (ins : List (List Char)) : commentsPreserved ins ins = true := by
  simp [commentsPreserved]

theorem commentsPreserved_trans (a b c : List (List Char))
    (h1 : commentsPreserved a b = true) (h2 : commentsPreserved b c = true) :
    commentsPreserved a c = true := by
  rw [commentsPreserved_iff] at *
  exact h1.trans h2

/-- Re-indenting the lines of a comment, or changing their trailing blanks, is accepted: putting
blanks `p` before and `q` after every line (or removing them) leaves the normal form unchanged. -/
theorem normComment_reindent (ls : List (List Char)) (p q : List Char) (hne : ls ≠ [])
    (hnl : ∀ l ∈ ls, ∀ c ∈ l, c ≠ '\n')
    (hp : ∀ c ∈ p, isPad c = true) (hq : ∀ c ∈ q, isPad c = true) :
    normComment (joinNl (ls.map fun l => p ++ l ++ q)) = normComment (joinNl ls) := by
  have hnl' : ∀ l ∈ ls.map (fun l => p ++ l ++ q), ∀ c ∈ l, c ≠ '\n' := by
    intro l hl c hc
    obtain ⟨l0, hl0, rfl⟩ := List.mem_map.mp hl
    rcases List.mem_append.mp hc with h | h
    · rcases List.mem_append.mp h with h | h
      · exact (isPad_iff.mp (hp c h)).2
      · exact hnl l0 hl0 c h
    · exact (isPad_iff.mp (hq c h)).2
  simp only [normComment]
  rw [splitNl_joinNl _ (by simpa using hne) hnl', splitNl_joinNl _ hne hnl, List.map_map]
  apply List.map_congr_left
  intro l _
  exact stripLine_pads p l q hp hq

theorem commentsPreserved_reindent (ls : List (List Char)) (p q : List Char) (hne : ls ≠ [])
    (hnl : ∀ l ∈ ls, ∀ c ∈ l, c ≠ '\n')
    (hp : ∀ c ∈ p, isPad c = true) (hq : ∀ c ∈ q, isPad c = true) :
    commentsPreserved [joinNl ls] [joinNl (ls.map fun l => p ++ l ++ q)] = true := by
  rw [commentsPreserved_iff]
  simp only [List.map_cons, List.map_nil]
  rw [normComment_reindent ls p q hne hnl hp hq]

example : commentsPreserved ["/* a\n * b\n */".toList] ["/* a  \n         * b\n         */".toList] = true := by
  rw [String.toList_ofList, String.toList_ofList]
  decide +kernel

/-- The oracle and the payload agree: comments (bodies) the oracle identifies have the same
`CommentReducer` payload. -/
theorem normComment_payload (blk : Bool) (a b : List Char) (h : normComment a = normComment b) :
    reduce blk .firstLine a = reduce blk .firstLine b :=
  payload_reindent_invariant blk a b h

theorem commentsPreserved_length (ins outs : List (List Char))
    (h : commentsPreserved ins outs = true) : ins.length = outs.length := by
  rw [commentsPreserved_iff] at h
  simpa using congrArg List.length h

/-- A dropped comment is rejected, whichever it is … -/
theorem commentsPreserved_rejects_drop (ins : List (List Char)) (i : Nat) (hi : i < ins.length) :
    commentsPreserved ins (ins.eraseIdx i) = false := by
  cases h : commentsPreserved ins (ins.eraseIdx i)
  · rfl
  · have := commentsPreserved_length _ _ h
    rw [List.length_eraseIdx_of_lt hi] at this
    omega

/-- … and so is a duplicated one ("exactly once"). -/
theorem commentsPreserved_rejects_dup (ins : List (List Char)) (c : List Char) :
    commentsPreserved ins (c :: ins) = false := by
  cases h : commentsPreserved ins (c :: ins)
  · rfl
  · have := commentsPreserved_length _ _ h
    simp at this

/-- A changed non-blank character of a one-line comment is rejected too. -/
example : commentsPreserved ["// abc".toList] ["// abd".toList] = false := by
  rw [String.toList_ofList, String.toList_ofList]
  decide +kernel
/-- … and so is a swap of two comments (order matters). -/
example : commentsPreserved ["// a".toList, "// b".toList] ["// b".toList, "// a".toList] = false := by
  rw [String.toList_ofList, String.toList_ofList]
  decide +kernel

theorem commentsPreservedUnordered_refl (ins : List (List Char)) :
    commentsPreservedUnordered ins ins = true := by
  simp [commentsPreservedUnordered]

example : commentsPreservedUnordered ["// a".toList, "// b".toList] ["// b".toList, "// a ".toList] = true := by
  rw [String.toList_ofList, String.toList_ofList, String.toList_ofList]
  decide +kernel
example : commentsPreservedUnordered ["// a".toList, "// b".toList] ["// b".toList] = false := by
  rw [String.toList_ofList, String.toList_ofList]
  decide +kernel

theorem wordsPreserved_iff (ins outs : List (List Char)) :
    wordsPreserved ins outs = true ↔
      (ins.flatMap commentWords).Sublist (outs.flatMap commentWords) := by
  simp [wordsPreserved, List.isSublist_iff_sublist]

theorem wordsPreserved_refl (ins : List (List Char)) : wordsPreserved ins ins = true := by
  rw [wordsPreserved_iff]; exact List.Sublist.refl _

theorem wordsPreserved_trans (a b c : List (List Char))
    (h1 : wordsPreserved a b = true) (h2 : wordsPreserved b c = true) :
    wordsPreserved a c = true := by
  rw [wordsPreserved_iff] at *
  exact h1.trans h2

/-- A word of an input comment that occurs in no output comment is reported. -/
theorem wordsPreserved_rejects_missing (ins outs : List (List Char)) (w : List Char)
    (hin : w ∈ ins.flatMap commentWords) (hout : w ∉ outs.flatMap commentWords) :
    wordsPreserved ins outs = false := by
  cases h : wordsPreserved ins outs
  · rfl
  · rw [wordsPreserved_iff] at h
    exact absurd (h.subset hin) hout

/-- Wrapping and normalising keep the words: `/* a b c */` → `// a b` / `// c`. -/
example : wordsPreserved ["/* c03m1 alpha beta */".toList] ["// c03m1 alpha".toList, "// beta".toList] = true := by
  rw [String.toList_ofList, String.toList_ofList, String.toList_ofList]
  decide +kernel
example : wordsPreserved ["/* c03m1 alpha beta */".toList] ["// c03m1 alpha".toList] = false := by
  rw [String.toList_ofList, String.toList_ofList]
  decide +kernel
/-- The pinned tree's defect W2 as the oracle sees it (the last words end up outside comments). -/
example : wordsPreserved ["/* a b */".toList, "// d e f".toList] ["/* a\n * b */".toList, "// d e".toList] = false := by
  rw [String.toList_ofList, String.toList_ofList, String.toList_ofList, String.toList_ofList]
  decide +kernel

/-! `find_uncommented` is what the list machinery finds separators and terminators with. -/

/-- A separator inside a comment is not found; the one outside is. -/
example : findUncommented "a /* , */ , b".toList [','] = some 10 := by
  rw [String.toList_ofList]
  decide +kernel
example : findUncommented "a // , \n".toList [','] = none := by
  rw [String.toList_ofList]
  decide +kernel

/-- Quirk: after a partial match the needle restarts at the *next* character, so an occurrence
that overlaps a failed attempt is missed (only multi-character patterns, e.g. `=>` or `..`). -/
theorem findUncommented_overlap_counterexample :
    findUncommented "==>".toList "=>".toList = none := by
  rw [String.toList_ofList, String.toList_ofList]
  decide +kernel

/-- `find_uncommented` returns a position at which the whole pattern fits into the text. -/
theorem find_uncommented_in_bounds (s pat : List Char) (r : Nat)
    (h : findUncommented s pat = some r) : r + utf8Len pat ≤ utf8Len s :=
  findUncommented_bound s pat r h

/-- `get_comment_end` (the byte at which the post-comment zone of a list item ends and the
pre-comment zone of the next item begins) never points past the end of the gap between the two
items, whatever the gap contains: the two zones cover the gap. -/
theorem get_comment_end_in_bounds (post sep term : List Char) (isLast : Bool) (n : Nat)
    (hsep : sep ≠ []) (h : getCommentEnd? post sep term isLast = some n) : n ≤ utf8Len post := by
  have hsl : 1 ≤ utf8Len sep := by
    cases sep with
    | nil => exact absurd rfl hsep
    | cons c cs => rw [utf8Len]; exact Nat.le_trans (Char.utf8Size_pos c) (Nat.le_add_right _ _)
  have hnl := findChar_lt (· == '\n') post
  cases isLast with
  | true =>
    -- last item: up to the terminator, or the whole gap
    cases (show some ((findUncommented post term).getD (utf8Len post)) = some n from h)
    cases hf : findUncommented post term with
    | none => exact Nat.le_refl _
    | some r => exact Nat.le_trans (Nat.le_add_right _ _) (findUncommented_bound post term r hf)
  | false =>
    rw [getCommentEnd?, if_neg Bool.false_ne_true] at h
    dsimp only at h
    generalize findChar (· == '\n') post = nl at h hnl
    split at h
    · -- a separator outside comments at `sepIndex`
      rename_i sepIndex hs
      have hs1 : sepIndex + 1 ≤ utf8Len post :=
        Nat.le_trans (Nat.add_le_add_left hsl _) (findUncommented_bound post sep sepIndex hs)
      -- a block comment opening at `i`: its end (`find_comment_end` of the rest), at least behind the separator
      have blockEnd_le : ∀ i m, (match dropBytes? i post with
          | some t => (findCommentEnd t).map fun e => Nat.max (e + i) (sepIndex + 1)
          | none => none) = some m → m ≤ utf8Len post := by
        intro i m hm
        split at hm
        · rename_i t ht
          obtain ⟨e, he, rfl⟩ := Option.map_eq_some_iff.mp hm
          have h1 := findCommentEnd_le t e he
          rw [← dropBytes_len i post t ht]
          exact Nat.max_le.mpr ⟨Nat.add_le_add_right h1 i, Nat.le_trans hs1 (Nat.le_of_eq (dropBytes_len i post t ht).symm)⟩
        · cases hm
      split at h
      · -- a block comment, no newline: behind the separator if the comment opens later, else the comment's end
        split at h
        · cases h; exact hs1
        · exact blockEnd_le _ _ h
      · -- a block comment and a newline: the comment's end if it opens first, …
        split at h
        · exact blockEnd_le _ _ h
        · -- … else behind the newline if that follows the separator, else the whole gap
          split at h <;> cases h
          · exact hnl _ rfl
          · exact Nat.le_refl _
      · -- no block comment, a newline: the same choice
        split at h <;> cases h
        · exact hnl _ rfl
        · exact Nat.le_refl _
      · -- neither: the whole gap
        cases h; exact Nat.le_refl _
    · -- no separator: behind the first newline, or nothing
      split at h <;> cases h
      · exact hnl _ rfl
      · exact Nat.zero_le _

example : getCommentEnd? ", // c\n    ".toList [','] [')'] false = some 7 := by
  rw [String.toList_ofList]
  decide +kernel
example : getCommentEnd? " /* c */, ".toList [','] [')'] false = some 9 := by
  rw [String.toList_ofList]
  decide +kernel
/-- It can panic (`find_comment_end(..).unwrap()`): a separator, then a block comment that is not
terminated inside the gap, then a newline — not reachable from parsed source, where the gap ends
before the next item and comments are terminated. -/
theorem get_comment_end_panic_counterexample :
    getCommentEnd? ", /* c \n".toList [','] [')'] false = none := by
  rw [String.toList_ofList]
  decide +kernel

/-! ## `CharClasses` against a declarative lexer specification

`RF.LexSpec` describes a text generatively, from the Rust reference: a list of tokens (code
characters, line and nested block comments, string / raw string / character literals) and the
characters they render to, with the side conditions (`WF`) under which that list is the lexer's
reading of the text.  `rfverif c03` feeds it the tokens `rustc_lexer` finds in fixture files and
random texts and compares `commentFlags` with the lexer's comment spans. -/

open RF.LexSpec in
/-- On every well-formed token list `CharClasses` tags as comment exactly the characters of the
comment tokens (plus the newline that ends a line comment, which the specification counts as
part of it).  "Partial": `WF` excludes a `"` inside a block comment, raw identifiers and an
identifier ending in `r` right before a quote or `#` — the shapes of the counterexamples below. -/
theorem charClasses_agrees_lexSpec_partial (ts : List Token) (h : WF ts = true) :
    (classes (render ts)).map (·.1.isComment) = commentFlags ts := by
  induction ts with
  | nil => rfl
  | cons t ts ih =>
    simp only [WF, Bool.and_eq_true] at h
    have := RF.Lemmas.LexSpec.tok_flags t (render ts) h.1
    simp only [RF.Lemmas.LexSpec.Seg, RF.Lemmas.LexSpec.flags, classes, render, commentFlags,
      List.flatMap_cons] at ih this ⊢
    rw [this, ih h.2]

open RF.LexSpec in
/-- In particular no comment character is hidden from the comment machinery (taken for code or
for a string literal), and no code character is taken for a comment. -/
theorem charClasses_never_hides_comment_partial (ts : List Token) (h : WF ts = true) (i : Nat)
    (hi : i < (commentFlags ts).length) :
    ((classes (render ts)).map (·.1.isComment))[i]? = some ((commentFlags ts)[i]) := by
  rw [charClasses_agrees_lexSpec_partial ts h]
  exact List.getElem?_eq_getElem hi

open RF.LexSpec in
example : WF [.code 'x', .code ' ', .blockComment (scanEvents "a /* n */ * b */".toList), .code ' ',
    .str (scanItems "s\\\"//".toList), .code ' ', .rawStr 1 "a\"b".toList, .code ' ', .chrEsc '\'' [],
    .code '<', .code '\'', .code 'a', .code '>', .lineComment " c".toList true] = true := by
  rw [String.toList_ofList, String.toList_ofList, String.toList_ofList, String.toList_ofList]
  decide +kernel

open RF.LexSpec in
/-- Without the hypothesis the statement is false.  A `"` inside a block comment makes
`CharClasses` ignore a nested `/*`: it closes the comment one `*/` early, takes the next `"` for
the start of a string literal, and the line comment that follows is hidden inside that "string". -/
theorem charClasses_hides_comment_counterexample :
    let ts : List Token := [.blockComment (scanEvents " \"/* */\" */".toList), .code ' ',
      .lineComment " c".toList false]
    render ts = "/* \"/* */\" */ // c".toList ∧
    (commentFlags ts).drop 14 = [true, true, true, true] ∧
    ((classes (render ts)).map (·.1.isComment)).drop 14 = [false, false, false, false] := by
  rw [String.toList_ofList, String.toList_ofList, String.toList_ofList]
  decide +kernel

/-- A raw identifier is taken for the start of a raw string (no comment is affected, but the line
counts as "contains a string literal": C07's finding F19). -/
theorem charClasses_raw_identifier_counterexample :
    (classes "r#type".toList).map (·.1) = [.inString, .inString, .inString, .normal, .normal, .normal] := by
  rw [String.toList_ofList]
  decide +kernel

end RF.Props.C03

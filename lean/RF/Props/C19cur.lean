import RF.Props.C19
import RF.Gen.DiffPatterns

/-!
# C19 for the pattern the current tree actually uses

`RF.Gen.DiffPatterns.hunkIsLazy` is regenerated from `src/format-diff/main.rs` on every run (the
translator refuses any pattern literal other than the two the matchers implement).
-/
namespace RF.Props.C19
open RF.FormatDiff RF.Gen.DiffPatterns

private def L (s : String) : List Char := s.toList

/-- With the hunk pattern of the current tree: on every diff that meets the decidable hypotheses
`specHyp` the scanner returns exactly the ranges of the unified-diff specification. -/
theorem current_scan_eq_spec (skip : Nat) (accepts : List Char → Bool) (lines : List (List Char))
    (h : specHyp hunkIsLazy skip lines = true) :
    ∃ out, spec skip accepts lines = some out ∧
      scanDiff ⟨hunkIsLazy, checked, skip, accepts⟩ lines = .ok out :=
  scan_eq_spec_partial ⟨hunkIsLazy, checked, skip, accepts⟩ lines h

/-- Whether the current tree needs the "no `+digit` in the section text" hypothesis: the diff of F10
meets `specHyp` exactly when the pattern is the lazy one. -/
theorem f10_input_in_scope_iff_lazy :
    specHyp hunkIsLazy 1
      [L "+++ b/x.rs", L "@@ -1,3 +1,4 @@ fn f() { x +7 }", L " a", L "+b", L " c", L " d"] = hunkIsLazy := by
  simp (disch := rfl) only [L, RF.Lemmas.FormatDiff.toList_lit]
  decide +kernel

end RF.Props.C19

import RF.Lemmas.Session
import RF.Lemmas.Project
import RF.Lemmas.ParseErrors

/-!
# C05  A failing run never damages source files

Theorems about `RF.Model.Project` (the interpreter `runProject` of a phase list over an abstract crate)
instantiated with the lists **generated from the current source**: `RF.Gen.Phases.formatProject` (order of the
phases of `format_project`), `RF.Gen.Phases.formatFile` (steps of `format_file`),
`RF.Gen.Phases.formatInputInner` (steps of `format_input_inner`) and `RF.Gen.Emitters.fsOps` (the
file-system calls of each emitter).  The multi-root statements use the command-line loop of
`RF.Model.Session` with the formatter parameter instantiated by `projectF`.

Quantification: every tree of files (`Tree`), every fault kind at every position, every `Cfg` (all
seven emitters, `skip_children`), every pair of text passes `FileOps`, every command line.

First half, files given by their parse *status*: `phasesSafe formatProject = true` (by `decide`, on the generated
list) combined with `fault_implies_no_write_of_safe` gives `fault_implies_no_write_status`; `order_matters` shows
that the statement fails for the list with the format loop moved before module resolution.

Second half, files given by their *diagnostics* (`RF.Model.ParseErrors`): the tables `genEmit`, `genParse`, `genMods`
generated from src/parse/session.rs, src/parse/parser.rs and src/modules.rs meet the specifications `emitProgOk`,
`NeverAccepts`, `ExistingIsParseError`, `modProgOk` (defined at the head of `RF.Lemmas.ParseErrors`, collected in
`Safe`); `annotateRoot` threads the session through the crate and `runProjectE` runs the phases on the result.  The
statement of C05 over diagnostics, ignore lists and recoverable errors is `fault_implies_no_write`.

Finding: `other_roots_unaffected` is **false** of the code: a root whose local `rustfmt.toml` is malformed
makes `format` return (`load_config(..)?`, main.rs:358-359) and the roots after it on the command line are
not formatted (`other_roots_unaffected_counterexample`; on the binary:
`rustfmt a/x.rs b/y.rs c/z.rs`, `b/rustfmt.toml` = `max_width = [`: `a/x.rs` rewritten, `c/z.rs` untouched,
exit 1).  A `required_version` mismatch, a missing path, a syntax error do *not* stop the loop.
-/
namespace RF.Props.C05
open RF.Session RF.Project RF.Gen.Phases RF.Gen.Emitters RF.Lemmas.Project RF.Lemmas.Session
open RF.ParseErrors RF.Gen.ParseErrs RF.Gen.ModArms RF.Lemmas.ParseErrors

/-- The formatter proper, as the generated lists describe it. -/
abbrev genF (ops : FileOps) (kind : EmitterKind) : Config Cfg → Tree → List Effect × Option Flags :=
  projectF formatProject formatFile ops kind

def idOps : FileOps := ⟨fun t => t, fun t _ => t⟩

/-! ## The order of the phases -/

/-- **The generated phase list is safe**: `ParseSess::new`, `parse_crate` and `visit_crate` all come
before the one format loop, each value is produced before it is used, and the filter sits between
resolution and the loop. -/
theorem phases_safe : phasesSafe formatProject = true := by decide

/-- The generated step list of `format_file` ends in its only emission. -/
theorem file_steps_safe : fileStepsSafe formatFile = true := by decide

/-- For *any* phase list that passes the static check: if the root cannot be processed
(fault in the root file, or — unless `skip_children` — in any file module resolution reaches, or a `mod`
with no file or two) the effect log is empty, and the failure is recorded (`Err`, or `Ok` with
`has_parsing_errors`) unless the root is not even looked at (ignored root under `skip_children`). -/
theorem fault_implies_no_write_of_safe (ps : List Phase) (hs : phasesSafe ps = true)
    (steps : List FileStep) (ops : FileOps) (kind : EmitterKind) (cfg : Cfg) (root : Tree) (hf : faulty cfg root = true) :
    (runProject ps steps ops kind cfg root).log = [] ∧
    ((cfg.skipChildren && root.file.ignored) = false → (runProject ps steps ops kind cfg root).flagged = true) := by
  simp only [phasesSafe, Bool.and_eq_true] at hs
  exact exec_fault ⟨steps, ops, kind, cfg, root⟩ hf ps {} false false false hs.1 (by simp) (by simp)

/-- **A failing root writes nothing** (the generated order; files given by their parse *status* — the statement
over diagnostics, ignore lists and recoverable errors is `fault_implies_no_write` below): any fault in the root or in any file that
module resolution reaches ⇒ no file-system call at all for that root, in every emit mode, and the
failure is recorded. -/
theorem fault_implies_no_write_status (ops : FileOps) (kind : EmitterKind) (cfg : Cfg) (root : Tree) (hf : faulty cfg root = true) :
    (runProject formatProject formatFile ops kind cfg root).log = [] ∧
    ((cfg.skipChildren && root.file.ignored) = false →
      (runProject formatProject formatFile ops kind cfg root).flagged = true) :=
  fault_implies_no_write_of_safe formatProject phases_safe formatFile ops kind cfg root hf

/-- Which flag: a fault in the root file gives `Ok(report)` with `has_parsing_errors`; a fault below it
gives `Err(ModuleResolutionError)`, which `format_and_emit_report` turns into `has_operational_errors`. -/
theorem fault_flag (ops : FileOps) (kind : EmitterKind) (cfg : Cfg) (root : Tree)
    (hg : cfg.ignoreGlobOk = true) (hi : (cfg.skipChildren && root.file.ignored) = false) :
    (root.file.parse ≠ .ok →
      (runProject formatProject formatFile ops kind cfg root) = ⟨.ok { parsing := true }, []⟩) ∧
    (root.file.parse = .ok → (!cfg.skipChildren && faultM root.mods) = true →
      (runProject formatProject formatFile ops kind cfg root) = ⟨.err, []⟩) := by
  rw [runProject_formatProject, if_neg (ne_false_of_eq_true hg), if_neg (ne_true_of_eq_false hi)]
  constructor
  · intro hp
    rw [if_pos hp]
  · intro hp hm
    rw [if_neg (not_not_intro hp), (visitCrate_none_iff _ _).2 hm]

/-- **… and the process exits with 1**, on any command line the failing root is part of.  `c` is the
configuration in effect for the root (`--config-path`'s, or the one found next to the file). -/
theorem fault_implies_exit_one (ops : FileOps) (kind : EmitterKind) (g : Config Cfg) (usePath check : Bool)
    (args : List (Arg Cfg Tree)) (lc : Option (Config Cfg)) (root : Tree) (c : Config Cfg)
    (ha : Arg.file lc root ∈ args) (hc : (if usePath then some g else lc) = some c)
    (hd : c.disableAll = false) (hi : (c.opts.skipChildren && root.file.ignored) = false)
    (hf : faulty c.opts root = true) :
    (runCli (genF ops kind) g usePath args).exit check = 1 := by
  rw [exit_eq_pure]
  apply pureExit_one_of_mem _ _ _ _ _ _ ha
  have hout : argOut (genF ops kind) g usePath (Arg.file lc root) = some (.formatted (outOf (genF ops kind) c root)) := by
    cases usePath with
    | true => simp at hc; subst hc; simp [argOut]
    | false => simp at hc; subst hc; simp [argOut]
  rw [pureLoop_single, hout]
  simp only [pureExit, sumFlags, List.foldr_cons, List.foldr_nil, add_none, Bool.false_eq_true, if_false]
  unfold outOf
  cases hv : c.versionOk with
  | false => simp [Entry.flags, exitFormat]
  | true =>
    simp only [hd, Bool.not_true, Bool.false_eq_true, if_false]
    exact exitFormat_of_flagged _ check ((fault_implies_no_write_status ops kind c.opts root hf).2 hi)

/-- **Sensitivity.**  The theorem depends on the order: with the format loop moved before module
resolution (everything else as generated) there is a crate — a healthy, unformatted root declaring a module
whose file does not parse — in which the root is rewritten although the run fails. -/
theorem order_matters :
    let bad : List Phase := [.newParseSess, .ignoreRootCheck, .parseCrate, .formatLoop, .resolveModules, .filterFiles]
    phasesSafe bad = false ∧
    ∃ (ops : FileOps) (kind : EmitterKind) (cfg : Cfg) (root : Tree), faulty cfg root = true ∧
      (runProject bad formatFile ops kind cfg root).log ≠ [] ∧
      (runProject bad formatFile ops kind cfg root).outcome = .err := by
  refine ⟨by decide +kernel, idOps, .files, {},
    .node { path := 0, parse := .ok, orig := ['a'], visited := ['b'] }
      (.found (.node { path := 1, parse := .unclosed, orig := ['c'], visited := ['c'] } .nil) .nil),
    by decide +kernel, by decide +kernel, by decide +kernel⟩

/-- A well-scoped phase list (in particular the generated one) never uses a value before it exists. -/
theorem never_stuck (ops : FileOps) (kind : EmitterKind) (cfg : Cfg) (root : Tree) :
    (runProject formatProject formatFile ops kind cfg root).outcome ≠ .stuck := by
  have hs := phases_safe
  simp only [phasesSafe, Bool.and_eq_true] at hs
  exact exec_not_stuck ⟨formatFile, ops, kind, cfg, root⟩ formatProject {} false false false false hs.1 (by simp) (by simp)

/-- **Only the format loop touches the file system**: every other phase of `format_project` leaves the effect
log exactly as it found it, whether it goes on or leaves the function. -/
theorem only_the_loop_writes (e : Env) (p : Phase) (s : St) (hp : p ≠ .formatLoop) :
    match step e p s with
    | .next s' => s'.log = s.log
    | .done r => r.log = s.log := by
  cases p with
  | formatLoop => exact absurd rfl hp
  | newParseSess => by_cases h : e.cfg.ignoreGlobOk = true <;> simp [step, h]
  | ignoreRootCheck =>
    cases h1 : s.psess <;> cases h2 : (e.cfg.skipChildren && e.root.file.ignored) <;> simp [step, h1, h2]
  | parseCrate =>
    cases h1 : s.psess
    · simp [step, h1]
    · by_cases h2 : e.root.file.parse = .ok <;> simp [step, h1, h2]
  | resolveModules =>
    cases h1 : s.krate with
    | none => simp [step, h1]
    | some k => cases h2 : visitCrate (!e.cfg.skipChildren) k <;> simp [step, h1, h2]
  | filterFiles => simp [step]

/-- **No write precedes the last parse** (the generated order): the two phases that parse source files —
`parse_crate` (the root) and `visit_crate` (every out-of-line module) — both come before the one format loop, and
nothing that parses comes after it.  With `only_the_loop_writes`: when the first file is written, every file of
the crate has been parsed and module resolution has succeeded. -/
theorem all_parsing_precedes_the_loop :
    (formatProject.takeWhile (· ≠ .formatLoop)).count .parseCrate = 1 ∧
    (formatProject.takeWhile (· ≠ .formatLoop)).count .resolveModules = 1 ∧
    ((formatProject.dropWhile (· ≠ .formatLoop)).all fun p => p != .parseCrate && p != .resolveModules) = true := by
  decide +kernel

/-- what one test of `should_skip_module` asks of a file (a path input is never standard input) -/
def skipCondHolds (cfg : Cfg) (mainPath : Nat) (f : File) : SkipCond → Bool
  | .skipAttr => f.skipAttr
  | .skipChildrenNotMain => cfg.skipChildren && f.path != mainPath
  | .ignored => f.ignored
  | .generated => f.generated

/-- The filter of the model is the filter of the source: `shouldSkip` is the disjunction of the tests the
translator finds in `should_skip_module` (inner `#![rustfmt::skip]`; `skip_children` and not the main file; on
the `ignore` list; a generated file under `format_generated_files = false`). -/
theorem should_skip_matches_source (cfg : Cfg) (mainPath : Nat) (f : File) :
    shouldSkip cfg mainPath f = shouldSkipConds.any (skipCondHolds cfg mainPath f) := by
  simp [shouldSkip, shouldSkipConds, skipCondHolds, Bool.or_assoc]

/-- **A file that is filtered out is never written** (the generated order): every file-system call of a run is
on the path of a file of the tree that passes the filter — not on the `ignore` list, no `#![rustfmt::skip]`, not
a child under `skip_children`, not a generated file. -/
theorem skipped_file_never_written (ops : FileOps) (kind : EmitterKind) (cfg : Cfg) (root : Tree) :
    ∀ x ∈ (runProject formatProject formatFile ops kind cfg root).log,
      ∃ f ∈ allFilesT root, x.path = f.path ∧ shouldSkip cfg root.file.path f = false := by
  intro x hx
  rw [runProject_formatProject] at hx
  split at hx
  · cases hx
  · split at hx
    · cases hx
    · split at hx
      · cases hx
      · split at hx
        · cases hx
        · next files hv =>
          rcases formatLoop_log formatFile ops kind file_steps_safe _ {} [] x hx with h1 | ⟨f, hf, hw⟩
          · cases h1
          · obtain ⟨hf1, hf2⟩ := List.mem_filter.1 hf
            exact ⟨f, visitCrate_mem _ _ _ hv f hf1, hw.1, by simpa using hf2⟩

/-! ## Configuration faults -/

/-- The generated order of `format_input_inner` is the one `RF.Session.formatInput` hard-wires: running the
generated step list gives exactly the output of the session model with `format_project` as formatter. -/
theorem input_steps_match_session (ops : FileOps) (kind : EmitterKind) (c : Config Cfg) (root : Tree) :
    let r := runInput formatInputInner formatProject formatFile ops kind c root
    let o := (formatInput (genF ops kind) (Session.new c) root).2
    o.emitted.getD [] = r.log ∧
    o.report = r.outcome.toReport := by
  simp only [formatInput_snd, Session.new, outOf, formatInputInner, runInput]
  cases c.versionOk <;> cases c.disableAll <;> simp [genF, projectF, Outcome.toReport, Flags.none]

/-- **Configuration faults come before any parsing.**
(1) a `required_version` mismatch returns `Err(VersionMismatch)` before `format_project` is entered —
whatever the crate looks like, nothing is parsed, nothing is written;
(2) an `ignore` list that does not compile fails `ParseSess::new`, the first phase: `Err`, nothing written;
(3) a malformed local `rustfmt.toml` (`load_config` returns `Err`) never reaches the session: nothing is
recorded for that path, and the process exits with 1. -/
theorem config_fault_before_parse (ops : FileOps) (kind : EmitterKind) :
    (∀ (c : Config Cfg) (root : Tree), c.versionOk = false →
      runInput formatInputInner formatProject formatFile ops kind c root = ⟨.err, []⟩) ∧
    (∀ (cfg : Cfg) (root : Tree), cfg.ignoreGlobOk = false →
      runProject formatProject formatFile ops kind cfg root = ⟨.err, []⟩) ∧
    (∀ (g : Config Cfg) (check : Bool) (args : List (Arg Cfg Tree)) (i : Nat) (root : Tree),
      args[i]? = some (.file none root) →
      (runCli (genF ops kind) g false args).entries.length ≤ i ∧
      (runCli (genF ops kind) g false args).aborted = true ∧
      (runCli (genF ops kind) g false args).exit check = 1) := by
  refine ⟨?_, ?_, ?_⟩
  · intro c root hv
    simp [formatInputInner, runInput, hv]
  · intro cfg root hg
    rw [runProject_formatProject, if_pos hg]
  · intro g check args i root ha
    obtain ⟨h3, h4⟩ := pureLoop_abort (genF ops kind) g false args i _ ha (by simp [argOut])
    rw [exit_eq_pure, runCli_entries, runCli_aborted, pureExit, h4]
    exact ⟨h3, rfl, rfl⟩

/-- The version check is what protects: with it moved behind `format_project` a healthy unformatted file
under a mismatching `required_version` is rewritten. -/
theorem version_check_order_matters :
    ∃ (ops : FileOps) (kind : EmitterKind) (c : Config Cfg) (root : Tree), c.versionOk = false ∧
      (runInput [.disableAllCheck, .formatProject, .versionCheck] formatProject formatFile ops kind c root).log ≠ [] :=
  ⟨idOps, .files, ⟨false, false, {}⟩,
    .node { path := 0, parse := .ok, orig := ['a'], visited := ['b'] } .nil, rfl, by decide +kernel⟩

/-! ## Other roots -/

/-- **Other roots are unaffected (partial).**  If no path *before* position `i` fails to load its
configuration, what is recorded for path `i` — its effect log, its report — is what a run on that path
alone records, whatever the other roots are and do (syntax errors, missing paths, version mismatches,
emitter failures, before or after it). -/
theorem other_roots_unaffected_partial (ops : FileOps) (kind : EmitterKind) (g : Config Cfg) (usePath : Bool)
    (args : List (Arg Cfg Tree)) (i : Nat) (a : Arg Cfg Tree) (ha : args[i]? = some a)
    (hpre : (runCli (genF ops kind) g usePath (args.take i)).aborted = false) :
    (runCli (genF ops kind) g usePath args).entries[i]? = (runCli (genF ops kind) g usePath [a]).entries[0]? := by
  rw [runCli_aborted] at hpre
  rw [runCli_entries, runCli_entries]
  exact pureLoop_frame _ _ _ args i a ha hpre

/-- With `--config-path` no per-file configuration is loaded, and the statement holds without hypothesis. -/
theorem other_roots_unaffected_config_path (ops : FileOps) (kind : EmitterKind) (g : Config Cfg)
    (args : List (Arg Cfg Tree)) (i : Nat) (a : Arg Cfg Tree) (ha : args[i]? = some a) :
    (runCli (genF ops kind) g true args).entries[i]? = (runCli (genF ops kind) g true [a]).entries[0]? := by
  apply other_roots_unaffected_partial ops kind g true args i a ha
  rw [runCli_aborted]
  have : noAbort (genF ops kind) g true (args.take i) := by
    intro b _
    cases b <;> simp [argOut]
  exact (pureLoop_noAbort _ _ _ _ this).2

/-- The unrestricted statement is **false** of the code: a healthy, unformatted root that comes after a
root whose local configuration is malformed is rewritten when run alone, and not touched in the joint run. -/
theorem other_roots_unaffected_counterexample :
    ¬ (∀ (ops : FileOps) (kind : EmitterKind) (g : Config Cfg) (usePath : Bool) (args : List (Arg Cfg Tree)) (i : Nat)
        (a : Arg Cfg Tree), args[i]? = some a →
        (runCli (genF ops kind) g usePath args).entries[i]? = (runCli (genF ops kind) g usePath [a]).entries[0]?) := by
  intro h
  let c : Config Cfg := ⟨true, false, {}⟩
  let healthy : Tree := .node { path := 0, parse := .ok, orig := ['a'], visited := ['b'] } .nil
  have := h idOps .files c false [.file none healthy, .file (some c) healthy] 1
    (.file (some c) healthy) rfl
  revert this
  decide +kernel

/-! ## What is written -/

/-- The complete result of the per-file pipeline, in the generated order: visitor output, one newline
appended, `format_lines`' truncation, newline style. -/
theorem complete_def (ops : FileOps) (f : File) :
    complete formatFile ops f = ops.newlineStyle (ops.formatLines (f.visited ++ ['\n'])) f.orig := rfl

/-- `writes_are_complete` for every step list that ends in its only emission. -/
theorem writes_are_complete_of_safe (ps : List Phase) (steps : List FileStep) (hs : fileStepsSafe steps = true)
    (ops : FileOps) (kind : EmitterKind) (cfg : Cfg) (root : Tree) :
    ∀ x ∈ (runProject ps steps ops kind cfg root).log,
      ∃ f ∈ allFilesT root, x.path = f.path ∧ x.text = complete steps ops f ∧
        complete steps ops f ≠ f.orig ∧ x.op ∈ fsOps kind := by
  intro x hx
  rcases exec_log_complete ⟨steps, ops, kind, cfg, root⟩ hs ps {} (by simp) (by simp) x hx with h | h
  · cases h
  · exact h

/-- **Writes are complete.**  Every file-system call in the log of a root — under *any* phase order — is
one of `RF.Gen.Emitters.fsOps` of the configured emitter, on the path of a file of the tree, carries the
complete result of the per-file pipeline for that file, and that result differs from the file's bytes. -/
theorem writes_are_complete (ps : List Phase) (ops : FileOps) (kind : EmitterKind) (cfg : Cfg) (root : Tree) :
    ∀ x ∈ (runProject ps formatFile ops kind cfg root).log,
      ∃ f ∈ allFilesT root, x.path = f.path ∧ x.text = complete formatFile ops f ∧
        complete formatFile ops f ≠ f.orig ∧ x.op ∈ fsOps kind :=
  writes_are_complete_of_safe ps formatFile file_steps_safe ops kind cfg root

/-- The guard of `fsOps`: a file whose formatted text equals its bytes causes no file-system call, and
the emitters other than `files` / `filesWithBackup` never cause one. -/
theorem no_write_when_equal_or_not_files (kind : EmitterKind) (f : File) (text : Text) :
    emitFile kind f f.orig = some [] ∧
    (kind ≠ .files → kind ≠ .filesWithBackup → ∀ effs, emitFile kind f text = some effs → effs = []) := by
  constructor
  · simp [emitFile]
  · intro h1 h2 effs h
    have hk : fsOps kind = [] := by cases kind <;> first | rfl | exact absurd rfl h1 | exact absurd rfl h2
    unfold emitFile at h
    rw [hk] at h
    split at h
    · split at h
      · cases h
      · cases h; rfl
    · cases h; rfl

/-- Sensitivity of the step list: with the emission moved before `apply_newline_style` what is written
is not the complete text. -/
theorem file_step_order_matters :
    let bad : List FileStep := [.visit, .appendNewline, .formatLines, .emit, .applyNewlineStyle]
    fileStepsSafe bad = false ∧
    ∃ (ops : FileOps) (f : File) (fs : FileSt), runFile bad ops .files f = some fs ∧
      ∃ e ∈ fs.effects, e.text ≠ complete bad ops f :=
  ⟨by decide +kernel, ⟨fun t => t, fun t _ => t ++ ['\r']⟩, { path := 0, parse := .ok, orig := ['a'], visited := ['b'] },
    ⟨['b', '\n', '\r'], {}, [⟨0, .write .file, ['b', '\n']⟩]⟩, by decide +kernel, _, List.mem_singleton.2 rfl, by decide +kernel⟩

/-! ## Non-vacuity -/

/-- root `0` (unformatted) with modules `1` (formatted) and `2` (unformatted); `2` declares `3` -/
def demoTree (p3 : Parse) : Tree :=
  .node { path := 0, parse := .ok, orig := ['a'], visited := ['A'] }
    (.found (.node { path := 2, parse := .ok, orig := ['c'], visited := ['C'] }
        (.found (.node { path := 3, parse := p3, orig := ['d', '\n'], visited := ['d'] } .nil) .nil))
      (.found (.node { path := 1, parse := .ok, orig := ['b', '\n'], visited := ['b'] } .nil) .nil))

/-- the healthy tree is written: files 0 and 2, in path order, complete texts; files 1 and 3 are equal
to their formatted text and are not touched — so "the log is empty" is not a property of every run -/
example : (runProject formatProject formatFile idOps .files {} (demoTree .ok)) =
    ⟨.ok {}, [⟨0, .write .file, ['A', '\n']⟩, ⟨2, .write .file, ['C', '\n']⟩]⟩ := by decide +kernel

/-- the same tree with an unclosed delimiter in the deepest module: hypothesis of
`fault_implies_no_write_status` holds, nothing is written -/
example : faulty {} (demoTree .unclosed) = true ∧
    (runProject formatProject formatFile idOps .files {} (demoTree .unclosed)) = ⟨.err, []⟩ := by decide +kernel

/-- … with the backup emitter the healthy tree yields three calls per file -/
example : ((runProject formatProject formatFile idOps .filesWithBackup {} (demoTree .ok)).log.map (·.op)) =
    [.write .tmp, .rename .file .bk, .rename .tmp .file, .write .tmp, .rename .file .bk, .rename .tmp .file] := by
  decide +kernel

/-- a failing root followed by a healthy one on one command line: exit 1, the healthy root is written
exactly as alone (`fault_implies_exit_one`, `other_roots_unaffected_partial` are not vacuous) -/
example :
    let c : Config Cfg := ⟨true, false, {}⟩
    let r := runCli (genF idOps .files) c false [.file (some c) (demoTree .panic), .missing, .file (some c) (demoTree .ok)]
    r.exit false = 1 ∧ r.entries.map entryLog =
      [[], [], [⟨0, .write .file, ['A', '\n']⟩, ⟨2, .write .file, ['C', '\n']⟩]] := by decide +kernel

def demoCfg : Config Cfg := ⟨true, false, {}⟩
def demoArgs : List (Arg Cfg Tree) :=
  [.file (some demoCfg) (demoTree .panic), .missing, .file (some demoCfg) (demoTree .ok)]

/-- the hypotheses of `fault_flag` (second half), `fault_implies_exit_one` and
`other_roots_unaffected_partial` hold together on that command line: the ignore list compiles, the root is
not ignored, the root parses and a module below it does not; the effective configuration is the local
one; nothing before position 2 aborts -/
example :
    demoCfg.opts.ignoreGlobOk = true ∧ (demoCfg.opts.skipChildren && (demoTree .panic).file.ignored) = false ∧
    (demoTree .panic).file.parse = .ok ∧ (!demoCfg.opts.skipChildren && faultM (demoTree .panic).mods) = true ∧
    Arg.file (some demoCfg) (demoTree .panic) ∈ demoArgs ∧
    (if false then some demoCfg else some demoCfg) = some demoCfg ∧
    demoCfg.disableAll = false ∧ faulty demoCfg.opts (demoTree .panic) = true ∧
    demoArgs[2]? = some (.file (some demoCfg) (demoTree .ok)) ∧
    (runCli (genF idOps .files) demoCfg false (demoArgs.take 2)).aborted = false :=
  ⟨by decide +kernel, by decide +kernel, by decide +kernel, by decide +kernel, List.mem_cons_self, rfl, rfl, by decide +kernel, rfl, by decide +kernel⟩

/-- `config_fault_before_parse` (3): a command line whose second path has a malformed local configuration —
one entry (the first path, written), aborted, exit 1 -/
example :
    let args : List (Arg Cfg Tree) :=
      [.file (some demoCfg) (demoTree .ok), .file none (demoTree .ok), .file (some demoCfg) (demoTree .ok)]
    args[1]? = some (.file none (demoTree .ok)) ∧
    ((runCli (genF idOps .files) demoCfg false args).entries.map entryLog).length = 1 ∧
    (runCli (genF idOps .files) demoCfg false args).exit false = 1 :=
  ⟨rfl, by decide +kernel, by decide +kernel⟩

/-- The flag half of `fault_implies_no_write_status` needs its hypothesis: a root on the `ignore` list under
`skip_children` is not parsed at all, so its unclosed delimiter goes unnoticed — empty report, exit 0
(and nothing is written either).  The same holds under `disable_all_formatting`. -/
theorem fault_flag_counterexample :
    ∃ (cfg : Cfg) (root : Tree), faulty cfg root = true ∧
      runProject formatProject formatFile idOps .files cfg root = ⟨.ok {}, []⟩ ∧
      (runCli (genF idOps .files) ⟨true, false, cfg⟩ true [.file none root]).exit true = 0 :=
  ⟨{ skipChildren := true },
    .node { path := 0, parse := .unclosed, orig := ['a'], visited := ['b'], ignored := true } .nil,
    by decide +kernel, by decide +kernel, by decide +kernel⟩

/-! ## The parse-error bookkeeping (`SilentOnIgnoredFilesEmitter`, `can_reset`, `reset_errors`)

Everything below is about the tables of `RF.Gen.ParseErrs`, which `translate/c05_errors.py` regenerates from
src/parse/session.rs and src/parse/parser.rs on every run: `genEmit` (the two blocks of the emitter) and
`genParse` (the arms of `parse_file_as_module` / `parse_crate`).  Quantification: every state the session can
be in (in particular every history of earlier files), every sequence of diagnostics (level × location of the
primary span), every way the rustc parser's call can end. -/

/-- **The generated emitter blocks meet their specification** (finite check over the two flags): the block
for a diagnostic that cannot be ignored raises `has_non_ignorable_parser_errors`, *clears `can_reset`* and
hands the diagnostic on; the block for an ignored file touches nothing but `can_reset`, and raises it only
while no non-ignorable diagnostic has been seen. -/
theorem emit_prog_ok : emitProgOk genEmit = true := by decide

/-- **`ParseSess::has_errors` emits the parser's stashed diagnostics before it looks** (generated from the
source).  Without it a stashed error counts without ever reaching the emitter: `stash_flush_matters`. -/
theorem stash_is_flushed : hasErrorsEmitsStashed = true := by decide

/-- Closed form of the session after any sequence of *emitted* diagnostics, from any state. -/
theorem emit_closed_form (ds : List Diag) (s : Sess) :
    (emitNowAll genEmit s ds).hasNonIgn = (s.hasNonIgn || ds.any (fun d => !d.ignorable)) ∧
    (emitNowAll genEmit s ds).canReset =
      (if ds.any (fun d => !d.ignorable) then false else (s.canReset || (!s.hasNonIgn && !ds.isEmpty))) ∧
    (emitNowAll genEmit s ds).errCount = s.errCount + ds.countP Diag.isError ∧
    (emitNowAll genEmit s ds).shown = s.shown + ds.countP (fun d => !d.ignorable) ∧
    (emitNowAll genEmit s ds).stash = s.stash :=
  emitNowAll_of_ok genEmit emit_prog_ok ds s

/-- … and of a sequence leaving the parser, where some diagnostics are stashed instead of emitted. -/
theorem emit_stash_closed_form (ds : List Diag) (s : Sess) :
    emitAll genEmit s ds =
      { emitNowAll genEmit s (ds.filter fun d => !d.stashed) with stash := s.stash ++ ds.filter fun d => d.stashed } :=
  emitAll_split genEmit emit_prog_ok ds s

/-- **`can_reset` ⇒ only ignored files have complained.**  If the shared flag is up after a sequence of
diagnostics in a fresh session, every diagnostic that went through the emitter was non-fatal and had its
primary span in a local file on the ignore list. -/
theorem can_reset_implies_only_ignored (ds : List Diag)
    (h : (emitAll genEmit Sess.init ds).canReset = true) :
    ∀ d ∈ ds, d.stashed = false → d.level ≠ .fatal ∧ d.loc = .localFile true := by
  rw [emit_stash_closed_form, emitNowAll_eq genEmit emit_prog_ok] at h
  simp only [Bool.and_eq_true, Bool.not_eq_true'] at h
  intro d hd hs
  simpa [Diag.ignorable] using List.any_eq_false.1 h.1 d (List.mem_filter.2 ⟨hd, by simp [hs]⟩)

/-- The invariant behind it, from any state (`reset_errors()` touches neither flag, and emitting the stash is
emitting, so it holds along every run of a session): `can_reset` is never up together with
`has_non_ignorable_parser_errors`, and if it is up after a sequence, the whole sequence was ignorable. -/
theorem can_reset_invariant (ds : List Diag) (s : Sess) (hs : s.canReset = true → s.hasNonIgn = false) :
    ((emitNowAll genEmit s ds).canReset = true → (emitNowAll genEmit s ds).hasNonIgn = false) ∧
    ((emitNowAll genEmit s ds).canReset = true → ∀ d ∈ ds, d.ignorable = true) := by
  rw [emitNowAll_eq genEmit emit_prog_ok]
  cases ha : ds.any (fun d => !d.ignorable) with
  | true => simp
  | false =>
    refine ⟨fun hc => ?_, fun _ d hd => by simpa using List.any_eq_false.1 ha d hd⟩
    cases hn : s.hasNonIgn with
    | false => simp
    | true =>
      simp only [hn, Bool.not_false, Bool.not_true, Bool.false_and, Bool.or_false, Bool.true_and] at hc
      exact absurd (hs hc) (by simp [hn])

/-- The emitter is idempotent on a repeated diagnostic (so rustc's optional de-duplication of identical
diagnostics, which skips the emitter call, cannot change either flag). -/
theorem emitter_step_idempotent (s : Sess) (d : Diag) :
    (emitterStep genEmit (emitterStep genEmit s d) d).hasNonIgn = (emitterStep genEmit s d).hasNonIgn ∧
    (emitterStep genEmit (emitterStep genEmit s d) d).canReset = (emitterStep genEmit s d).canReset := by
  rw [emitterStep_of_ok genEmit emit_prog_ok, emitterStep_of_ok genEmit emit_prog_ok s d]
  by_cases hi : d.ignorable = true <;> by_cases hn : s.hasNonIgn = true <;> simp [hi, hn]

/-- **A hard error is never lost on the way to the decision.**  An error that is fatal or lies outside the
ignored files — emitted by the parser or only stashed — has, once `has_errors()` has emitted the stash,
raised `has_non_ignorable_parser_errors`, taken `can_reset` down and left a non-zero error count, whatever
came before it and whatever else the same call produced. -/
theorem hard_error_poisons (s : Sess) (ds : List Diag) (h : ds.any Diag.hardError = true) :
    (flushStash genEmit (emitAll genEmit s ds)).hasNonIgn = true ∧
    (flushStash genEmit (emitAll genEmit s ds)).canReset = false ∧
    (flushStash genEmit (emitAll genEmit s ds)).errCount ≠ 0 :=
  flush_poisoned genEmit emit_prog_ok ds s h

/-- emitting the stash empties it -/
theorem flush_empties_stash (s : Sess) : (flushStash genEmit s).stash = [] :=
  flushStash_stash genEmit emit_prog_ok s

/-- **The decisions of `parse_file_as_module`, as the generated arms have them**: the diagnostics leave the
parser; on `Ok`, `has_errors()` emits the stash and the file is accepted when no error is counted, accepted
after `reset_errors()` when `can_reset` is up, and a `ParseError` otherwise; an `Err(e)` from the parser emits
`e`, resets if `can_reset`, and is a `ParseError`; an unwinding call is a `ParseError` if the path exists and
a `ParsePanicError` if not. -/
theorem parse_file_decisions (s : Sess) (fp : FileParse) :
    parseFile genParse s fp =
      (let s1 := emitAll genEmit s fp.diags
       match fp.raw with
       | .ok =>
         let s2 := flushStash genEmit s1
         if s2.errCount = 0 then (s2, some .ok)
         else if s2.canReset = true then (s2.reset, some .ok) else (s2, some .parseError)
       | .err e =>
         let s2 := dcxEmit genEmit s1 e
         ((if s2.canReset = true then s2.reset else s2), some .parseError)
       | .unwound => (s1, some (if fp.pathExists = true then .parseError else .parsePanicError))) := by
  unfold parseFile
  cases fp.raw with
  | ok => exact selectArm_accept genParse rfl emit_prog_ok .okSome .okSome .okAny .okSome rfl rfl rfl _ _ _
  | err e => rfl
  | unwound => cases fp.pathExists <;> rfl

/-- … and of `parse_crate` (the root): the same two ways of being accepted; every failing arm of
`ParserBuilder::build` / `parse_crate_mod` is an `Err`. -/
theorem parse_crate_decisions (s : Sess) (fp : FileParse) :
    parseCrate genParse s fp =
      (let s1 := emitAll genEmit s fp.diags
       match fp.raw with
       | .ok =>
         let s2 := flushStash genEmit s1
         if s2.errCount = 0 then (s2, some .ok)
         else if s2.canReset = true then (s2.reset, some .ok) else (s2, some .parseError)
       | .err e =>
         (dcxEmit genEmit s1 e,
          some (match fp.stage with | .build => .parserCreationError | .crateMod => .parsePanicError))
       | .unwound => (s1, some .parsePanicError)) := by
  unfold parseCrate
  cases fp.raw with
  | ok => exact selectArm_accept genParse rfl emit_prog_ok .okAny .okAny .okAny .okSome rfl rfl rfl _ _ _
  | err e => cases fp.stage <;> rfl
  | unwound => cases fp.stage <;> rfl

/-- The generated matches are exhaustive: a call always has a result. -/
theorem parse_never_stuck (s : Sess) (fp : FileParse) :
    (parseFile genParse s fp).2 ≠ none ∧ (parseCrate genParse s fp).2 ≠ none := by
  rw [parse_file_decisions, parse_crate_decisions]
  constructor
  · cases fp.raw <;> simp only [] <;> (repeat' split) <;> simp
  · cases fp.raw <;> simp only [] <;> (repeat' split) <;> simp

/-- **A fault is never reset.**  A file whose parse does not end in `Ok`, or that reports an error which is
fatal or lies outside the ignored files (emitted or stashed), is *not accepted* — by `parse_file_as_module`
and by `parse_crate`, in every state of the session (whatever ignored or non-ignored files were parsed
before, whether or not `can_reset` is up when the call starts, whatever is still stashed) and whatever other
diagnostics the same call produces before or after. -/
theorem non_ignored_error_never_reset : NeverAccepts genParse := by
  have key : ∀ (s : Sess) (fp : FileParse), fp.fault = true → fp.raw = .ok →
      (flushStash genEmit (emitAll genEmit s fp.diags)).errCount ≠ 0 ∧
      (flushStash genEmit (emitAll genEmit s fp.diags)).canReset = false := by
    intro s fp hf hr
    simp only [FileParse.fault, FileParse.allDiags, hr, bne_self_eq_false, Bool.false_or] at hf
    obtain ⟨_, h1, h2⟩ := hard_error_poisons s fp.diags hf
    exact ⟨h2, h1⟩
  constructor
  · intro s fp hf
    rw [parse_file_decisions]
    cases hr : fp.raw with
    | ok =>
      obtain ⟨h1, h2⟩ := key s fp hf hr
      simp [h1, h2]
    | err e => simp
    | unwound => by_cases hp : fp.pathExists = true <;> simp [hp]
  · intro s fp hf
    rw [parse_crate_decisions]
    cases hr : fp.raw with
    | ok =>
      obtain ⟨h1, h2⟩ := key s fp hf hr
      simp [h1, h2]
    | err e => cases fp.stage <;> simp
    | unwound => simp

/-- when nothing is stashed, the session after the call's diagnostics and the `has_errors()` call is the
session after emitting them -/
theorem no_stash_flush (s : Sess) (ds : List Diag) (hs : s.stash = []) (hd : ∀ d ∈ ds, d.stashed = false) :
    flushStash genEmit (emitAll genEmit s ds) = emitNowAll genEmit s ds :=
  flushStash_emitAll_of_no_stash genEmit emit_prog_ok s ds hs hd

/-- Exactly when a module file is accepted (nothing stashed): the parser returned `Ok`, and either nothing is
counted (before *and* during the call) or nothing that is not ignorable has ever been seen by this session
while at least one ignorable diagnostic has. -/
theorem accepted_iff (s : Sess) (fp : FileParse) (hs : s.stash = []) (hd : ∀ d ∈ fp.diags, d.stashed = false) :
    (parseFile genParse s fp).2 = some .ok ↔
      fp.raw = .ok ∧
      ((s.errCount = 0 ∧ fp.diags.countP Diag.isError = 0) ∨
       (fp.diags.any (fun d => !d.ignorable) = false ∧ (s.canReset = true ∨ (s.hasNonIgn = false ∧ fp.diags ≠ [])))) := by
  rw [parse_file_decisions]
  cases hr : fp.raw with
  | err e => simp
  | unwound => cases fp.pathExists <;> simp
  | ok =>
    simp only [true_and, no_stash_flush s fp.diags hs hd, emitNowAll_eq genEmit emit_prog_ok, accept_iff]
    simp [Nat.add_eq_zero_iff]

/-- An accepted file leaves neither a counted error nor a stashed diagnostic behind (so the next file starts
from a clean count). -/
theorem accepted_leaves_no_errors (s : Sess) (fp : FileParse) (h : (parseFile genParse s fp).2 = some .ok) :
    (parseFile genParse s fp).1.errCount = 0 ∧ (parseFile genParse s fp).1.stash = [] := by
  rw [parse_file_decisions] at h ⊢
  cases hr : fp.raw with
  | err e => simp [hr] at h
  | unwound => by_cases hp : fp.pathExists = true <;> simp [hr, hp] at h
  | ok =>
    simp only [hr] at h ⊢
    by_cases h0 : (flushStash genEmit (emitAll genEmit s fp.diags)).errCount = 0
    · simp [h0, flush_empties_stash]
    · by_cases hc : (flushStash genEmit (emitAll genEmit s fp.diags)).canReset = true
      · simp [h0, hc, Sess.reset]
      · simp [h0, hc] at h

/-- What `ignore` is for: while this session has seen nothing that is not ignorable, a file whose diagnostics
are all non-fatal and lie in ignored files is accepted (its errors are reset), however many they are. -/
theorem ignored_errors_are_reset (s : Sess) (fp : FileParse) (hs : s.hasNonIgn = false) (hst : s.stash = [])
    (hr : fp.raw = .ok) (hd : ∀ d ∈ fp.diags, d.ignorable = true ∧ d.stashed = false) (hne : fp.diags ≠ []) :
    (parseFile genParse s fp).2 = some .ok := by
  rw [accepted_iff s fp hst (fun d hm => (hd d hm).2)]
  refine ⟨hr, Or.inr ⟨?_, Or.inr ⟨hs, hne⟩⟩⟩
  cases ha : fp.diags.any (fun d => !d.ignorable) with
  | false => rfl
  | true =>
    obtain ⟨d, hm, hh⟩ := List.any_eq_true.1 ha
    simp [(hd d hm).1] at hh

/-- A call on a path that exists ends in `Ok` or in `ParseError` — never in `ParsePanicError`, which is what the
arms of `find_external_module` treat as "the file is not there" (an unwinding parser on an existing file is a
lexer error: `Err(..) if path.exists() => Err(ParseError)`). -/
theorem existing_file_is_parse_error : ExistingIsParseError genParse := by
  intro s fp he
  rw [parse_file_decisions]
  cases fp.raw with
  | ok => simp only []; (repeat' split) <;> simp
  | err e => simp
  | unwound => simp [he]

/-- **The generated arms of `find_external_module` / `find_mods_outside_of_ast` never go on past a file that
does not parse** (finite check): a `ParseError` on a nested-path candidate or on the default file is an error of
module resolution, with or without other candidates; an accepted file is left out exactly when it has
`#![rustfmt::skip]`. -/
theorem mod_prog_ok : modProgOk genMods = true := by decide

theorem tables_safe : Safe genParse genMods :=
  ⟨non_ignored_error_never_reset, existing_file_is_parse_error, mod_prog_ok⟩

/-- The arms for a plain `mod m;` (no candidate: `outside_mods_empty`) and for `#[path = ".."] mod m;` agree with
what `RF.Project.visitTree` hard-wires for `Mods.found`: `Ok` with `#![rustfmt::skip]` → left out, `Ok` → taken,
every `Err` → module resolution fails. -/
theorem plain_mod_arms_agree (ret : Option Ret) (sk : Bool) :
    selectM pathArms ret sk true = (if ret = some .ok then (if sk then .skip else .use) else .fail) ∧
    selectM dfltArms ret sk true = (if ret = some .ok then (if sk then .skip else .use) else .fail) := by
  cases ret with
  | none => cases sk <;> decide
  | some r => cases r <;> cases sk <;> decide

/-! ### lifted into the project model -/

/-- **A failing root writes nothing** — files given by their diagnostics.  `pi` says, for every path, what
the rustc parser does on that file (any sequence of diagnostics of any level located anywhere, emitted or
stashed, then `Ok`, `Err` or an unwinding); each file carries whether it is on the `ignore` list; the session
state is threaded through the files in the order `format_project` parses them, so that what an earlier (ignored
or healthy) file did to `can_reset` and to the error count is what a later file meets; what
`find_external_module` does with each parse result is read off the generated arms.  If the root file or any file
that module resolution reaches — the default file of a `mod`, a `#[path]` target, a candidate of a nested
`#[cfg_attr(.., path = "..")]`, anything below one that is taken — has a fault (the parser does not return
`Ok`, or it reports an error that is fatal or has its primary span outside the ignored files; in particular a
*recoverable* or a *stashed* syntax error in a file that is not ignored), or a `mod` has no file or two, then
no file-system call is made for that root in any emit mode, and the failure is recorded. -/
theorem fault_implies_no_write (pi : Nat → FileParse) (ops : FileOps) (kind : EmitterKind) (cfg : Cfg) (root : Tree)
    (hf : faultyE pi cfg root = true) :
    (runProjectE genParse genMods pi formatProject formatFile ops kind cfg root).log = [] ∧
    ((cfg.skipChildren && root.file.ignored) = false →
      (runProjectE genParse genMods pi formatProject formatFile ops kind cfg root).flagged = true) := by
  have h := fault_implies_no_write_status ops kind cfg (annotateRoot genParse genMods pi cfg root)
    (annotateRoot_faulty genParse genMods tables_safe pi cfg root hf)
  rw [(annotateRoot_file genParse genMods pi cfg root).1] at h
  exact h

/-- **An ignored file is never written**, whatever its diagnostics did to the session: every file-system call of
a run is on the path of a file that is not on the `ignore` list, has no `#![rustfmt::skip]` and is not a
generated file. -/
theorem ignored_file_never_written (pi : Nat → FileParse) (ops : FileOps) (kind : EmitterKind) (cfg : Cfg) (root : Tree) :
    ∀ x ∈ (runProjectE genParse genMods pi formatProject formatFile ops kind cfg root).log,
      ∃ f ∈ allFilesT (annotateRoot genParse genMods pi cfg root),
        x.path = f.path ∧ f.ignored = false ∧ f.skipAttr = false ∧ f.generated = false := by
  intro x hx
  obtain ⟨f, hf, hp, hs⟩ := skipped_file_never_written ops kind cfg (annotateRoot genParse genMods pi cfg root) x hx
  refine ⟨f, hf, hp, ?_⟩
  simp only [shouldSkip, Bool.or_eq_false_iff] at hs
  exact ⟨hs.1.2, hs.1.1.1, hs.2⟩

/-- … and the process exits with 1 on any command line that contains that root. -/
theorem fault_implies_exit_one_diags (pi : Nat → FileParse) (ops : FileOps) (kind : EmitterKind) (g : Config Cfg)
    (usePath check : Bool) (args : List (Arg Cfg Tree)) (lc : Option (Config Cfg)) (root : Tree) (c : Config Cfg)
    (ha : Arg.file lc (annotateRoot genParse genMods pi c.opts root) ∈ args) (hc : (if usePath then some g else lc) = some c)
    (hd : c.disableAll = false) (hi : (c.opts.skipChildren && root.file.ignored) = false)
    (hf : faultyE pi c.opts root = true) :
    (runCli (genF ops kind) g usePath args).exit check = 1 :=
  fault_implies_exit_one ops kind g usePath check args lc _ c ha hc hd
    (by rw [(annotateRoot_file genParse genMods pi c.opts root).1]; exact hi)
    (annotateRoot_faulty genParse genMods tables_safe pi c.opts root hf)

/-! ### sensitivity and non-vacuity -/

/-- a non-fatal error whose primary span lies in the file itself -/
def ownErr (ignored : Bool) : Diag := { level := .error, loc := .localFile ignored }
/-- a recoverable syntax error: the parser reports it and returns `Ok` -/
def recoverable (ignored : Bool) : FileParse := { diags := [ownErr ignored] }
def clean : FileParse := {}

/-- root `0` (healthy, unformatted) declares `mod a;` (file 1, **on the ignore list**) and then `mod b;` (file 2,
not ignored); both are unformatted -/
def ignTree : Tree :=
  .node { path := 0, parse := .ok, orig := ['r'], visited := ['R'] }
    (.found (.node { path := 1, parse := .ok, orig := ['a'], visited := ['A'], ignored := true } .nil)
      (.found (.node { path := 2, parse := .ok, orig := ['b'], visited := ['B'] } .nil) .nil))

/-- the ignored file has a recoverable error; the file after it may have one too -/
def ignPi (b : FileParse) : Nat → FileParse
  | 1 => recoverable true
  | 2 => b
  | _ => clean

/-- the emitter with `self.can_reset.store(false, …)` removed from `handle_non_ignoreable_error` -/
def emitWithoutClear : EmitProg := ⟨[.setHasNonIgn true, .forward], ignoredFileBranch⟩

/-- **Sensitivity: clearing `can_reset` matters.**  Without that one store the check `emitProgOk` fails, and
there is a crate — an ignored module with a recoverable error, then a module that is *not* ignored with a
recoverable error of its own — on which the run resets the second module's error, reports success and rewrites
the root and the faulty module.  With the generated blocks the same crate fails with nothing written. -/
theorem can_reset_clear_matters :
    emitProgOk emitWithoutClear = false ∧
    faultyE (ignPi (recoverable false)) {} ignTree = true ∧
    runProjectE { genParse with emit := emitWithoutClear } genMods (ignPi (recoverable false)) formatProject formatFile idOps .files {} ignTree =
      ⟨.ok {}, [⟨0, .write .file, ['R', '\n']⟩, ⟨2, .write .file, ['B', '\n']⟩]⟩ ∧
    runProjectE genParse genMods (ignPi (recoverable false)) formatProject formatFile idOps .files {} ignTree = ⟨.err, []⟩ := by
  decide +kernel

/-- **Sensitivity: emitting the stash matters** (the defect D4 of the pinned tree, repaired in `has_errors`).
If `has_errors()` only looks, a stashed error (`static X = 1;`) in a file that is *not* ignored never reaches the
emitter; after an ignored file with a recoverable error `can_reset` is still up, the count is reset, the file
is accepted and the root and the faulty file are rewritten.  With the generated value the crate fails. -/
theorem stash_flush_matters :
    let stashedErr : FileParse := { diags := [{ level := .error, loc := .localFile false, stashed := true }] }
    faultyE (ignPi stashedErr) {} ignTree = true ∧
    runProjectE { genParse with flush := false } genMods (ignPi stashedErr) formatProject formatFile idOps .files {} ignTree =
      ⟨.ok {}, [⟨0, .write .file, ['R', '\n']⟩, ⟨2, .write .file, ['B', '\n']⟩]⟩ ∧
    runProjectE genParse genMods (ignPi stashedErr) formatProject formatFile idOps .files {} ignTree = ⟨.err, []⟩ := by
  decide +kernel

/-- root `0` declares `#[cfg_attr(pred, path = "alt.rs")] mod m;` as its LAST module: candidate `alt.rs` (file 1,
healthy), default file `m.rs` (file 2); `3` is what the file map holds for the path of `m.rs` when it is
registered with the declaring item's module: the bytes of `m.rs`, the text of the *root* -/
def cfgTree : Tree :=
  .node { path := 0, parse := .ok, orig := ['r'], visited := ['R'] }
    (.cfgAttr (.cons .use (.node { path := 1, parse := .ok, orig := ['a'], visited := ['A'] } .nil) .nil) .found .file
      (.node { path := 2, parse := .ok, orig := ['m'], visited := ['M'] } .nil)
      { path := 2, parse := .ok, orig := ['m'], visited := ['R'] } .nil)

/-- a lexer-fatal error: one `Fatal` diagnostic in the file, the call unwinds -/
def lexFatal : FileParse := { diags := [{ level := .fatal, loc := .localFile false }], raw := .unwound }

/-- **Sensitivity: how an unwinding parser is classified matters.**  If `parse_file_as_module` reports every
caught unwind as `ParsePanicError` (instead of `ParseError` when the path exists), the arm of
`find_external_module` meant for "the default file is not there, but a candidate is" takes a default file with a
lexer error: resolution goes on, the root and the candidate are rewritten, and the broken file is overwritten
with the text of its parent.  With the generated arms the crate fails with nothing written. -/
theorem unwind_classification_matters :
    let pi : Nat → FileParse := fun | 2 => lexFatal | _ => clean
    let arms' : List Arm := [⟨.okSome, .noErrors, [], .ok⟩, ⟨.okSome, .canReset, [.resetErrors], .ok⟩,
      ⟨.okAny, .always, [], .parseError⟩, ⟨.unwound, .always, [], .parsePanicError⟩]
    faultyE pi {} cfgTree = true ∧
    runProjectE { genParse with fileArms := arms' } genMods pi formatProject formatFile idOps .files {} cfgTree =
      ⟨.ok {}, [⟨0, .write .file, ['R', '\n']⟩, ⟨1, .write .file, ['A', '\n']⟩, ⟨2, .write .file, ['R', '\n']⟩]⟩ ∧
    runProjectE genParse genMods pi formatProject formatFile idOps .files {} cfgTree = ⟨.err, []⟩ := by
  decide +kernel

/-- **Sensitivity: a candidate that does not parse must fail the run** (the defect D5 of the pinned tree,
repaired in `find_mods_outside_of_ast`).  With the arm `Err(..) => continue` instead, a crate whose last module is
`#[cfg_attr(a, path = "good.rs")] #[cfg_attr(b, path = "bad.rs")] mod m;` (no `m.rs`), `bad.rs` with a syntax
error, is formatted and written. -/
theorem candidate_failure_matters :
    let pi : Nat → FileParse := fun | 2 => recoverable false | _ => clean
    let t : Tree := .node { path := 0, parse := .ok, orig := ['r'], visited := ['R'] }
      (.cfgAttr (.cons .use (.node { path := 1, parse := .ok, orig := ['a'], visited := ['A'] } .nil)
          (.cons .use (.node { path := 2, parse := .ok, orig := ['b'], visited := ['B'] } .nil) .nil)) .notFound .candidates
        (.node { path := 9, parse := .ok, orig := [], visited := [] } .nil) { path := 9, parse := .ok, orig := [], visited := [] } .nil)
    let old : ModProg := { genMods with alt := [⟨.okSkip, .always, .skip⟩, ⟨.ok, .always, .use⟩, ⟨.errAny, .always, .skip⟩] }
    modProgOk old = false ∧ faultyE pi {} t = true ∧
    runProjectE genParse old pi formatProject formatFile idOps .files {} t =
      ⟨.ok {}, [⟨0, .write .file, ['R', '\n']⟩, ⟨1, .write .file, ['A', '\n']⟩]⟩ ∧
    runProjectE genParse genMods pi formatProject formatFile idOps .files {} t = ⟨.err, []⟩ := by
  decide +kernel

/-- the cfg_attr crate with healthy files: the candidate and the default file are both formatted; with a default
file that carries `#![rustfmt::skip]` nothing below the declaration is (the candidates are dropped as well) -/
example :
    runProjectE genParse genMods (fun _ => clean) formatProject formatFile idOps .files {} cfgTree =
      ⟨.ok {}, [⟨0, .write .file, ['R', '\n']⟩, ⟨1, .write .file, ['A', '\n']⟩, ⟨2, .write .file, ['M', '\n']⟩]⟩ ∧
    runProjectE genParse genMods (fun _ => clean) formatProject formatFile idOps .files {}
      (.node { path := 0, parse := .ok, orig := ['r'], visited := ['R'] }
        (.cfgAttr (.cons .use (.node { path := 1, parse := .ok, orig := ['a'], visited := ['A'] } .nil) .nil) .found .file
          (.node { path := 2, parse := .ok, orig := ['m'], visited := ['M'], skipAttr := true } .nil)
          { path := 2, parse := .ok, orig := ['m'], visited := ['R'] } .nil)) =
      ⟨.ok {}, [⟨0, .write .file, ['R', '\n']⟩]⟩ := by decide +kernel

/-- the hypothesis of `fault_implies_no_write` is not always true, and the conclusion is not always true either:
with the second module healthy the ignored module's error is reset and the run writes the two files that are
not ignored (never the ignored one) -/
example : faultyE (ignPi clean) {} ignTree = false ∧
    runProjectE genParse genMods (ignPi clean) formatProject formatFile idOps .files {} ignTree =
      ⟨.ok {}, [⟨0, .write .file, ['R', '\n']⟩, ⟨2, .write .file, ['B', '\n']⟩]⟩ := by decide +kernel

/-- order does not help the faulty module: visited *before* the ignored one it fails as well; an ignored module
alone is skipped and the root written; and an ignored module whose parse ends in `Err` (an unrecoverable error)
fails the run although all its diagnostics are dropped -/
example :
    let swapped : Nat → FileParse := fun | 1 => recoverable false | 2 => recoverable true | _ => clean
    let t : Tree := .node { path := 0, parse := .ok, orig := ['r'], visited := ['R'] }
      (.found (.node { path := 1, parse := .ok, orig := ['a'], visited := ['A'] } .nil)
        (.found (.node { path := 2, parse := .ok, orig := ['b'], visited := ['B'], ignored := true } .nil) .nil))
    runProjectE genParse genMods swapped formatProject formatFile idOps .files {} t = ⟨.err, []⟩ ∧
    runProjectE genParse genMods (ignPi clean) formatProject formatFile idOps .files {}
      (.node { path := 0, parse := .ok, orig := ['r'], visited := ['R'] }
        (.found (.node { path := 1, parse := .ok, orig := ['a'], visited := ['A'], ignored := true } .nil) .nil)) =
      ⟨.ok {}, [⟨0, .write .file, ['R', '\n']⟩]⟩ ∧
    runProjectE genParse genMods (fun | 1 => { diags := [], raw := .err (ownErr true) } | _ => clean) formatProject formatFile idOps .files {}
      ignTree = ⟨.err, []⟩ := by decide +kernel

/-- the hypotheses of `can_reset_implies_only_ignored`, `can_reset_invariant`, `hard_error_poisons`,
`ignored_errors_are_reset` and `accepted_leaves_no_errors` are satisfiable by non-trivial values; the last
line is a quirk of the bookkeeping: after a mere *warning* in a file that is not
ignored, the recoverable error of an ignored file is no longer reset and the run fails -/
example :
    (emitAll genEmit Sess.init [ownErr true, { level := .warning, loc := .localFile true }]).canReset = true ∧
    (emitAll genEmit Sess.init [ownErr true, ownErr false, ownErr true]).canReset = false ∧
    [ownErr true, { level := .fatal, loc := .localFile true }].any Diag.hardError = true ∧
    (parseFile genParse Sess.init (recoverable true)) = (⟨false, true, 0, 0, []⟩, some .ok) ∧
    (parseFile genParse ⟨false, true, 0, 0, []⟩ (recoverable false)) = (⟨true, false, 1, 1, []⟩, some .parseError) ∧
    (parseFile genParse ⟨true, false, 0, 1, []⟩ (recoverable true)) = (⟨true, false, 1, 1, []⟩, some .parseError) := by decide +kernel

end RF.Props.C05

import RF.Lemmas.Braces
import RF.Props.OptRewrites
/-!
The brace decisions of `src/matches.rs` and `src/closures.rs` (model `RF/Model/Braces.lean`): part of C01 ("block-versus-
expression bodies of match arms and closures; redundant semicolons") and of C02 (the decision on the output is the
decision on the input).  Every theorem holds for ALL trees, option values and answers of the oracles.
-/
namespace RF.Braces
open RF.Opt

/-! ### what is removed is a plain single-expression block -/

/-- one layer `flatten_arm_body` peels is a plain block around one expression -/
theorem canBeFlattened_plain (im : Bool) (h : Hdr) (e : Expr) (rest : List NStmt)
    (hc : canBeFlattened im (.blockE h e rest) = true) :
    h.plain = true ∧ rest = [] ∧ im = false := by
  simp only [canBeFlattened, Expr.hdr?, Expr.isSimpleBlock, Hdr.attrs, Hdr.plain, Bool.and_eq_true, Bool.not_eq_true',
    List.isEmpty_iff, beq_iff_eq, Option.isNone_iff_eq_none] at hc ⊢
  obtain ⟨⟨⟨⟨hl, hu⟩, him⟩, ⟨⟨hr, hcm⟩, ha⟩⟩, _⟩ := hc
  have : h.outer = 0 ∧ h.inner = 0 := by omega
  simp [hl, hu, him, hr, hcm, this.1, this.2]

/-- `flatten_arm_body` changes nothing but redundant braces -/
theorem flatten_strip (fmb im cond : Bool) (body : Expr) :
    strip (flattenArmBody fmb im cond body).2 = strip body := by
  fun_induction flattenArmBody fmb im cond body with
  | case1 cond h e rest hc hb ha ih =>
    obtain ⟨hp, hr, _⟩ := canBeFlattened_plain im h e rest hc
    rw [ih]; simp [strip, hp, hr]
  | case2 => rfl
  | case3 => rfl
  | case4 cond h e rest hc hb hcond =>
    obtain ⟨hp, hr, _⟩ := canBeFlattened_plain im h e rest hc
    simp [strip, hp, hr]
  | case5 => rfl
  | case6 => rfl

/-- the block `combine_next_line_body` adds stands for the body it is put around -/
theorem strip_wrapArm (c : ArmCfg) (e : Expr) (he : e.isBlock = false) : strip (wrapArm c e) = strip e := by
  unfold wrapArm
  split
  · rename_i hs
    have hj : e.isJump = true := by
      simp only [Bool.and_eq_true] at hs
      have := hs.2
      simp only [Expr.isJump]
      cases hcl : e.cls <;> simp_all [semicolonForExpr]
    cases e <;> simp_all [strip, plainHdr, Hdr.plain, Expr.isBlock]
  · simp [strip, plainHdr, Hdr.plain]

/-- Whatever `rewrite_match_body` prints denotes the body it was given: braces are
removed only from plain single-expression blocks (no attribute on the block, no comment in it, not `unsafe`, no label;
a `const` block is not a block expression) and added only as a plain block around the whole body. -/
theorem arm_body_unwrap_sound (wc : ArmCfg → Bool → Bool) (c : ArmCfg) (x : ArmCtx) (o : ArmOrc) (body : Expr)
    (out : ArmOut) (h : rewriteMatchBodyWith wc c x o body = some out) :
    strip out.tree = strip body := by
  have hf := flatten_strip c.forceMultilineBlocks c.insideMacro (o.shapeOk && o.condMulti body) body
  obtain rfl | ⟨_, rfl⟩ | ⟨hb, _, _, rfl⟩ | ⟨_, _, rfl⟩ := rewriteMatchBodyWith_cases wc c x o body out h
  · exact hf
  · exact hf
  · exact (strip_wrapArm c _ hb).trans hf
  · exact hf

example : strip (.blockE plainHdr (.blockE plainHdr (.leaf .other 0) []) []) = .leaf .other 0 := by decide +kernel
example : rewriteMatchBody ⟨true, false, false, true, false, false, false, false⟩ ⟨false, false, false⟩
    ⟨fun _ => false, true, fun _ => .ok false true true, fun _ => true, fun _ => false⟩
    (.blockE plainHdr (.leaf .other 0) []) = some ⟨.sameLine, .leaf .other 0, true, false⟩ := by decide +kernel

/-- Braces are added only by `combine_next_line_body`, only under `match_arm_blocks` outside
macros, only around a body that is not a block, and they wrap exactly the (flattened) old body: one plain block whose
only statement is that body - with a `;` behind a `return` / `break` / `continue` under the 2024 style edition. -/
theorem arm_body_wrap_sound (wc : ArmCfg → Bool → Bool) (c : ArmCfg) (x : ArmCtx) (o : ArmOrc) (body : Expr)
    (out : ArmOut) (h : rewriteMatchBodyWith wc c x o body = some out) :
    (out.branch = .nextLineBlock →
        out.tree = wrapArm c (flattenArmBody c.forceMultilineBlocks c.insideMacro (o.shapeOk && o.condMulti body) body).2 ∧
        (flattenArmBody c.forceMultilineBlocks c.insideMacro (o.shapeOk && o.condMulti body) body).2.isBlock = false ∧
        c.matchArmBlocks = true ∧ c.insideMacro = false) ∧
    (out.branch ≠ .nextLineBlock →
        out.tree = (flattenArmBody c.forceMultilineBlocks c.insideMacro (o.shapeOk && o.condMulti body) body).2) := by
  obtain rfl | ⟨_, rfl⟩ | ⟨hb, hm, him, rfl⟩ | ⟨_, _, rfl⟩ := rewriteMatchBodyWith_cases wc c x o body out h
  · exact ⟨nofun, fun _ => rfl⟩
  · exact ⟨nofun, fun _ => rfl⟩
  · exact ⟨fun _ => ⟨rfl, hb, hm, him⟩, fun hne => absurd rfl hne⟩
  · exact ⟨nofun, fun _ => rfl⟩

example : (rewriteMatchBody ⟨true, false, true, true, false, false, false, false⟩ ⟨false, false, false⟩
    ⟨fun _ => false, true, fun _ => .ok true false false, fun _ => true, fun _ => false⟩
    (.leaf .ret 0)).map (·.tree) = some (.blockS plainHdr (.leaf .ret 0) []) := by decide +kernel

/-! ### the comma behind the body -/

/-- The `,` printed behind the body is the one `arm_comma` (OptRewrites §7, `arm_comma_exact`)
gives the body AS PRINTED - so the next pass decides the same - except when the body goes on a line of its own without
braces (`match_arm_blocks = false` or inside a macro): there a `,` is printed always. -/
theorem arm_comma_consistent (c : ArmCfg) (x : ArmCtx) (o : ArmOrc) (body : Expr) (out : ArmOut)
    (h : rewriteMatchBody c x o body = some out) :
    out.comma = armCommaOf c out.tree x.isLast ∨
      (out.branch = .nextLine ∧ out.tree.isBlock = false ∧ out.comma = true) := by
  obtain rfl | ⟨_, rfl⟩ | ⟨_, _, _, rfl⟩ | ⟨hb, _, rfl⟩ := rewriteMatchBodyWith_cases wrapComma c x o body out h
  · exact .inl rfl
  · exact .inl rfl
  · exact .inl (armCommaOf_wrapArm c _ x.isLast).symm
  · exact .inr ⟨rfl, hb, rfl⟩

/-- the exception is real: the last arm under `trailing_comma = Never`, its body moved to the next line without braces,
gets a `,` that `arm_comma` would not give (an optional trailing separator: C01 allows it; the next pass takes the same
path and prints it again) -/
theorem arm_comma_nextline_counterexample :
    ∃ out, rewriteMatchBody ⟨false, false, false, true, false, false, true, false⟩ ⟨false, false, true⟩
      ⟨fun _ => false, true, fun _ => .ok true false false, fun _ => true, fun _ => false⟩ (.leaf .other 0) = some out ∧
      out.comma = true ∧ armCommaOf ⟨false, false, false, true, false, false, true, false⟩ out.tree true = false := by
  exact ⟨_, rfl, by decide, by decide⟩

/-- with `match_arm_blocks` outside macros there is no exception -/
theorem arm_comma_consistent_partial (c : ArmCfg) (x : ArmCtx) (o : ArmOrc) (body : Expr) (out : ArmOut)
    (hc : (c.matchArmBlocks && !c.insideMacro) = true)
    (h : rewriteMatchBody c x o body = some out) :
    out.comma = armCommaOf c out.tree x.isLast := by
  obtain rfl | ⟨_, rfl⟩ | ⟨_, _, _, rfl⟩ | ⟨_, hm, _⟩ := rewriteMatchBodyWith_cases wrapComma c x o body out h
  · rfl
  · rfl
  · exact (armCommaOf_wrapArm c _ x.isLast).symm
  · exact absurd hc (by simp [hm])

/-- the hypothesis of `arm_comma_consistent_partial` is satisfiable -/
example : (true && !false) = true := by decide +kernel

/-- `rewriteMatchBodyPinned` (`wrapCommaPinned`; before `fix: the block added around a match arm body gets the comma
arm_comma gives a block`): the last arm under `trailing_comma = Never` with `match_block_trailing_comma` got `},`
behind an added block, and the next pass, seeing a block, printed `}` -/
theorem arm_comma_pinned_counterexample :
    ∃ out, rewriteMatchBodyPinned ⟨true, false, false, true, false, false, true, true⟩ ⟨false, false, true⟩
      ⟨fun _ => false, true, fun _ => .ok true false false, fun _ => true, fun _ => false⟩ (.leaf .if_ 0) = some out ∧
      out.comma = true ∧ armCommaOf ⟨true, false, false, true, false, false, true, true⟩ out.tree true = false := by
  exact ⟨_, rfl, by decide, by decide⟩

/-! ### the width kept behind the pattern (the budget of pattern and guard) does not depend on how the body is written -/

/-- `patShapeOverhead` of the body as written (before `fix: the pattern of a match arm is laid out for the body as it is
printed`): the budget was taken from the body as written; `=> { 'a: { .. } }` is printed as `=> 'a: {` and the next
pass took 4 columns more off the pattern's shape -/
theorem guard_budget_pinned_counterexample :
    let body := Expr.blockE plainHdr (.blockO ⟨false, some 2, false, 0, 0⟩ [.opaque, .opaque]) []
    (flattenArmBody false false false body).2 = .blockO ⟨false, some 2, false, 0, 0⟩ [.opaque, .opaque] ∧
    patShapeOverhead body = 5 ∧ patShapeOverhead (flattenArmBody false false false body).2 = 9 := by
  decide +kernel

/-- C02 mechanism, arms: the block `combine_next_line_body` adds is, at the next pass, either removed again (and the
same body is decided on as before) or kept as it is: no second layer, no other block. -/
theorem rewrap_stable (c : ArmCfg) (fmb im cond : Bool) (e : Expr) (he : e.isBlock = false) :
    (flattenArmBody fmb im cond (wrapArm c e)).2 = e ∨ (flattenArmBody fmb im cond (wrapArm c e)).2 = wrapArm c e := by
  unfold wrapArm
  split
  · right; simp [flattenArmBody]
  · rw [flattenArmBody]
    split
    · simp only [he, Bool.false_eq_true, if_false]
      split
      · right; rfl
      · left; rfl
    · right; rfl

/-- what `flatten_arm_body` returns is not flattened further at the next pass unless the condition oracle changes its
answer: a body that is not a block stays as it is -/
theorem flatten_nonblock_fixed (fmb im cond : Bool) (e : Expr) (he : e.isBlock = false) :
    flattenArmBody fmb im cond e = (canExtend fmb e, e) := by
  cases e <;> simp_all [flattenArmBody, Expr.isBlock]

theorem flatten_fst_nonblock (fmb im cond : Bool) (body : Expr)
    (hnb : (flattenArmBody fmb im cond body).2.isBlock = false) :
    (flattenArmBody fmb im cond body).1 = canExtend fmb (flattenArmBody fmb im cond body).2 := by
  fun_induction flattenArmBody fmb im cond body with
  | case1 cond h e rest hc hb ha ih => exact ih hnb
  | case2 => simp [Expr.isBlock] at hnb
  | case3 => simp [Expr.isBlock] at hnb
  | case4 => rfl
  | case5 => simp [Expr.isBlock] at hnb
  | case6 => rfl

/-- C02 mechanism: when what is printed is not a block (the braces were removed, or there
were none and none were added), the next pass - the same oracles asked about the same expression - takes the same
decision and prints the same thing: same branch, same body, same comma, same line.  (For a printed BLOCK the tree is
stable by `rewrap_stable`, the position of an added `{` is not: `braces_layout_counterexample`.) -/
theorem braces_decision_stable (c : ArmCfg) (x : ArmCtx) (o : ArmOrc) (body : Expr) (out : ArmOut)
    (h : rewriteMatchBody c x o body = some out) (hnb : out.tree.isBlock = false) :
    rewriteMatchBody c x o out.tree = some out := by
  have hw := arm_body_wrap_sound wrapComma c x o body out h
  have hbr : out.branch ≠ .nextLineBlock := by
    intro hb
    have := (hw.1 hb).1
    rw [this] at hnb
    unfold wrapArm at hnb
    split at hnb <;> simp [Expr.isBlock] at hnb
  have ht := hw.2 hbr
  have hfst := flatten_fst_nonblock c.forceMultilineBlocks c.insideMacro (o.shapeOk && o.condMulti body) body (ht ▸ hnb)
  have hfix := flatten_nonblock_fixed c.forceMultilineBlocks c.insideMacro (o.shapeOk && o.condMulti out.tree) out.tree hnb
  have key : flattenArmBody c.forceMultilineBlocks c.insideMacro (o.shapeOk && o.condMulti out.tree) out.tree =
      flattenArmBody c.forceMultilineBlocks c.insideMacro (o.shapeOk && o.condMulti body) body := by
    rw [hfix]
    apply Prod.ext
    · simp only; rw [hfst, ← ht]
    · simp only; exact ht
  simp only [rewriteMatchBody, rewriteMatchBodyWith] at h ⊢
  rw [key]
  exact h

example : rewriteMatchBody ⟨true, false, false, true, false, false, false, false⟩ ⟨false, false, false⟩
    ⟨fun _ => false, true, fun _ => .ok false true true, fun _ => true, fun _ => false⟩ (.leaf .other 0) =
    some ⟨.sameLine, .leaf .other 0, true, false⟩ := by decide +kernel

/-- The layout part of `braces_decision_stable` fails: `A => #[a] continue` under the 2024 style edition is wrapped as
`=>` newline `{ #[a] continue; }` (the attribute forbids the same line, so the added `{` goes on its own line); the
next pass sees a block body without attributes on the block and puts `{` behind `=>`.  Same tree, other layout
(known finding BRACES-ATTR-BODY-BRACE-LINE; the fixture tests/target/attrib.rs blesses the first form). -/
theorem braces_layout_counterexample :
    let c : ArmCfg := ⟨true, false, true, true, false, false, false, false⟩
    let o : ArmOrc := ⟨fun _ => false, true, fun _ => .ok false true true, fun _ => true, fun _ => false⟩
    ∃ out1 out2, rewriteMatchBody c ⟨false, false, false⟩ o (.leaf .continue_ 1) = some out1 ∧
      rewriteMatchBody c ⟨false, false, false⟩ o out1.tree = some out2 ∧
      out2.tree = out1.tree ∧ out1.ownLine = true ∧ out2.ownLine = false := by
  exact ⟨_, _, rfl, rfl, by decide, by decide, by decide⟩

/-! ### closures -/

/-- what `get_inner_expr` peels is a plain single-expression block -/
theorem getInnerExpr_strip (pml : Bool) (e : Expr) : strip (getInnerExpr pml e) = strip e := by
  fun_induction getInnerExpr pml e with
  | case1 h e rest hc ih =>
    simp only [needsBlock, Hdr.attrs, Bool.and_eq_true, beq_iff_eq, Bool.not_eq_true', Bool.or_eq_false_iff,
      decide_eq_false_iff_not, bne_eq_false_iff_eq, Option.isSome_eq_false_iff, Option.isNone_iff_eq_none] at hc
    obtain ⟨ha, ⟨⟨⟨⟨⟨hu, hl⟩, _⟩, hcm⟩, _⟩, hlab⟩⟩ := hc
    have hr : rest = [] := by
      cases rest with
      | nil => rfl
      | cons _ _ => simp at hl
    have : h.outer = 0 ∧ h.inner = 0 := by omega
    rw [ih]; simp [strip, Hdr.plain, hu, hcm, hlab, hr, this.1, this.2]
  | case2 => rfl
  | case3 => rfl

theorem getInnerExpr_idem (pml : Bool) (e : Expr) : getInnerExpr pml (getInnerExpr pml e) = getInnerExpr pml e := by
  fun_induction getInnerExpr pml e with
  | case1 h e rest hc ih => exact ih
  | case2 h e rest hc => rw [getInnerExpr]; simp [hc]
  | case3 x hx => cases x <;> first | rfl | simp_all [getInnerExpr]

/-- Whatever `rewrite_closure` prints as the body denotes the body it was given:
braces are removed only from plain single-expression blocks (one expression statement without attributes, no
attribute on the block, no comment, not `unsafe`, no label, a prefix on one line) and added only as a plain block around
the whole expression. -/
theorem closure_block_sound (c : CloCfg) (o : CloOrc) (ret : Bool) (body : Expr) (out : CloOut)
    (h : rewriteClosure c o ret body = some out) : strip out.tree = strip body := by
  have hi := getInnerExpr_strip o.prefixMl body
  have hw (e : Expr) : strip (wrapClosure e) = strip e := by simp [wrapClosure, strip, plainHdr, Hdr.plain]
  obtain ⟨_, rfl | rfl⟩ | ⟨_, _, _, rfl | rfl⟩ | ⟨_, rfl | rfl⟩ := rewriteClosureWith_cases getInnerExpr c o ret body out h
  · rfl
  · rfl
  · exact hi
  · exact (hw _).trans hi
  · rfl
  · exact hw body

/-- a closure with an explicit return type keeps its block exactly as written (the code tries nothing else) -/
theorem closure_ret_keeps_block (inner : Bool → Expr → Expr) (c : CloCfg) (o : CloOrc) (body : Expr) (out : CloOut)
    (hb : body.isBlock = true) (h : rewriteClosureWith inner c o true body = some out) : out.tree = body := by
  obtain ⟨_, rfl | rfl⟩ | ⟨_, hr, _⟩ | ⟨hnb, _⟩ := rewriteClosureWith_cases inner c o true body out h
  · rfl
  · rfl
  · cases hr
  · cases hb.symm.trans hnb

/-- the same inside a macro call -/
theorem closure_macro_keeps_block (inner : Bool → Expr → Expr) (c : CloCfg) (o : CloOrc) (ret : Bool) (body : Expr)
    (out : CloOut) (hm : c.insideMacro = true) (hb : body.isBlock = true)
    (h : rewriteClosureWith inner c o ret body = some out) : out.tree = body := by
  obtain ⟨_, rfl | rfl⟩ | ⟨_, _, hnm, _⟩ | ⟨hnb, _⟩ := rewriteClosureWith_cases inner c o ret body out h
  · rfl
  · rfl
  · cases hm.symm.trans hnm
  · cases hb.symm.trans hnb

example : (rewriteClosure ⟨false, false, false⟩ ⟨false, fun _ => .oneLine, fun _ => true, fun _ => true, fun _ => true⟩ false
    (.blockE plainHdr (.leaf .other 0) [])).map (·.tree) = some (.leaf .other 0) := by decide +kernel
example : (rewriteClosure ⟨false, false, false⟩ ⟨false, fun _ => .oneLine, fun _ => true, fun _ => true, fun _ => true⟩ true
    (.blockE plainHdr (.leaf .other 0) [])).map (·.tree) = some (.blockE plainHdr (.leaf .other 0) []) := by decide +kernel

/-- `rewriteClosurePinned` (`getInnerExprPinned`: the attributes on the block are not looked at; before `fix: a closure
body block with attributes keeps its braces`) peeled `|| #[a] { e }` and `|| { #![a] e }` like `|| { e }`: the
attribute went with the braces (`|| #[allow(unused)] { foo() }` became `|| foo()`), which is not a change the property allows. -/
theorem closure_block_pinned_counterexample :
    let o : CloOrc := ⟨false, fun _ => .oneLine, fun _ => true, fun _ => true, fun _ => true⟩
    let outer := Expr.blockE ⟨false, none, false, 1, 0⟩ (.leaf .other 0) []
    let inner := Expr.blockE ⟨false, none, false, 0, 1⟩ (.leaf .other 0) []
    (rewriteClosurePinned ⟨false, false, false⟩ o false outer).map (·.tree) = some (.leaf .other 0) ∧
    (rewriteClosurePinned ⟨false, false, false⟩ o false inner).map (·.tree) = some (.leaf .other 0) ∧
    strip outer ≠ .leaf .other 0 ∧ strip inner ≠ .leaf .other 0 ∧
    (rewriteClosure ⟨false, false, false⟩ o false outer).map (·.tree) = some outer := by
  decide +kernel

/-- C02 mechanism, closures: what was peeled is not peeled further, and the block `rewrite_closure_with_block` adds is
peeled to exactly the expression it was put around (or kept when that expression carries attributes / the prefix takes
more than one line) -/
theorem closure_rewrap_stable (pml : Bool) (e : Expr) (he : e.isBlock = false) :
    getInnerExpr pml (wrapClosure e) = e ∨ getInnerExpr pml (wrapClosure e) = wrapClosure e := by
  unfold wrapClosure
  rw [getInnerExpr]
  split
  · left; cases e <;> simp_all [getInnerExpr, Expr.isBlock]
  · right; rfl

end RF.Braces

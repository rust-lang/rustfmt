import RF.Lemmas.Vertical
import RF.Props.Lists
/-!
# The alignment machinery (`src/vertical.rs`) under `struct_field_align_threshold`

Mechanism behind C01 (every field is written once, in order), C03 (the comments `itemize_list` attached to
the fields are written back — also by the ONE-LINE pass) and C02 (the alignment groups of the result are the
groups of the source).  The theorems are about `RF.Vertical.groups`, `groupGo` (the loop of
`group_aligned_items`), `fieldPrefixMaxWidth` and `rewriteAlignedItemsInner`; `rewriteWithAlignment` and
`groupAlignedItems` occur in the examples (`RF/Model/Vertical.lean`, tied to the code by the
correspondences `vert.groups`, `vert.rewrite`, `vert.blank`, `vert.gaps`), for ALL field lists, on top of the
theorems about the list machinery (`RF/Props/Lists.lean`).
-/
namespace RF.Props.Vertical
open RF.Lists RF.Shape RF.Vertical RF.Lemmas.Lists RF.Lemmas.Vertical RF.Props.Lists

private def fA : Field :=
  { skip := false, measW := some 2, head := "a:".toList, spacing := " ".toList, alignW := 2,
    value := "u8".toList, ok := true, post := ",\n    ".toList }
private def fB : Field :=
  { skip := false, measW := some 7, head := "bbbbbb:".toList, spacing := " ".toList, alignW := 7,
    value := "u16".toList, ok := true, post := ",\n\n    ".toList }
private def fC : Field :=
  { skip := false, measW := some 3, head := "cc:".toList, spacing := " ".toList, alignW := 3,
    value := "u32".toList, ok := true, post := ", // k\n}".toList }
private def cfg20 : VConfig := ⟨20, .vertical, ⟨false, 4, 100, 80⟩⟩

theorem groupsGo_concat (c : VConfig) : ∀ (fuel : Nat) (fields : List Field), fields.length ≤ fuel →
    (groupsGo c fuel fields).flatMap (·.1) = fields := by
  intro fuel
  induction fuel with
  | zero => intro fields h; cases fields <;> simp_all [groupsGo]
  | succ n ih =>
    intro fields h
    cases fields with
    | nil => simp [groupsGo]
    | cons f fs =>
      simp only [groupsGo, List.flatMap_cons]
      rw [ih]
      · exact List.take_append_drop _ _
      · simp only [List.length_drop, List.length_cons] at h ⊢; omega

/-- **The groups partition the fields.**  Concatenating the groups `rewrite_with_alignment` visits gives back
the fields, in order: every field is in exactly one group (the groups are consecutive `take`/`drop` slices),
no group is empty. -/
theorem groups_partition (c : VConfig) (fields : List Field) :
    (groups c fields).flatMap (·.1) = fields ∧ ∀ g ∈ groups c fields, g.1 ≠ [] := by
  exact ⟨groupsGo_concat c _ _ (Nat.le_refl _), groupsGo_ne_nil c _ _⟩

example : (groups cfg20 [fA, fB, fC]).map (·.1.length) = [2, 1] ∧
    (groups cfg20 [fA, fB, fC]).map (·.2) = [true, false] := by decide +kernel

/-- **Where a group ends** (`group_aligned_items`, the loop from index `idx`).  The fields in front of the
returned index are not skipped and have no blank line behind them; if the returned index is not the last
field, that field is skipped (separator `""`) or has a blank line behind it (separator `"\n"`); a group that
reaches the last field has the separator `""`.  A comment between two fields does not end a group. -/
theorem groupGo_spec : ∀ (fields : List Field) (idx : Nat),
    idx ≤ (groupGo idx fields).2 ∧
    (∀ k, k < (groupGo idx fields).2 - idx →
      ∃ f, fields[k]? = some f ∧ f.skip = false ∧ hasBlankLine f.post = false) ∧
    ((groupGo idx fields).2 - idx + 1 < fields.length →
      ∃ f, fields[(groupGo idx fields).2 - idx]? = some f ∧
        ((f.skip = true ∧ (groupGo idx fields).1 = false) ∨
         (f.skip = false ∧ hasBlankLine f.post = true ∧ (groupGo idx fields).1 = true))) ∧
    (fields.length ≤ (groupGo idx fields).2 - idx + 1 → (groupGo idx fields).1 = false) := by
  -- the statement is `GroupEnd fields idx (groupGo idx fields)`
  intro fields
  induction fields with
  | nil => exact fun idx => groupEnd_stop idx (by simp) fun _ => rfl
  | cons f rest ih =>
    intro idx
    cases rest with
    | nil => exact groupEnd_stop idx (by simp) fun _ => rfl
    | cons g rest =>
      cases hs : f.skip with
      | true =>
        rw [groupGo_skip idx g rest hs]
        exact groupEnd_stop idx (fun _ => ⟨f, rfl, .inl ⟨hs, rfl⟩⟩) (by simp)
      | false =>
        cases hb : hasBlankLine f.post with
        | true =>
          rw [groupGo_blank idx g rest hs hb]
          exact groupEnd_stop idx (fun _ => ⟨f, rfl, .inr ⟨hs, hb, rfl⟩⟩) (by simp)
        | false =>
          rw [groupGo_next idx (List.cons_ne_nil g rest) hs hb]
          exact groupEnd_next hs hb (ih (idx + 1))

example : groupAlignedItems [fA, fB, fC] = (true, 1) := by decide +kernel

/-- A comment line between two fields does not cut the group; a blank line behind it does. -/
example : hasBlankLine ",\n    // c\n    ".toList = false ∧ hasBlankLine ",\n    // c\n\n    ".toList = true := by
  decide +kernel

/-- Before the repair `f2802f1` the blank line in front of a field at column 0 was not seen (the groups of the
first pass were not the groups of the second: C02); now it is. -/
theorem hasBlankLine_before_repair_counterexample :
    hasBlankLineBefore ",\n\n".toList = false ∧ hasBlankLine ",\n\n".toList = true := by decide +kernel

/-- `field_prefix_max_width` is the largest prefix width of the group, or 0 when the largest and the smallest
differ by more than the threshold, or when some `rewrite_prefix` failed. -/
theorem fieldPrefixMaxWidth_spec (c : VConfig) (fields : List Field) :
    fieldPrefixMaxWidth c fields =
      if (prefixMaxMinWidth fields).1 - (prefixMaxMinWidth fields).2 > c.threshold then 0
      else (prefixMaxMinWidth fields).1 := by
  unfold fieldPrefixMaxWidth
  rfl

/-- **Alignment, exactly as coded.**  For a group none of whose `rewrite_prefix` failed (`hmm`: the fold of
`struct_field_prefix_max_min_width` from its initial `(0, usize::MAX)` succeeds), with
`W = field_prefix_max_width`:
 * every prefix width lies between the group's minimum and maximum;
 * if `max - min > struct_field_align_threshold` then `W = 0` and NO field of the group is padded (the
   threshold is a property of the group, not of one long field);
 * otherwise `W = max` and a field that is not skipped and whose padding base is its prefix width (every
   `FieldDef`; an `ExprField` without attributes) gets `W - width` blanks: prefix and padding together are `W`
   wide for every such field — all values of the group start in the same column;
 * a skipped field is never padded. -/
theorem alignment_exact (c : VConfig) (fields : List Field) (mx mn : Nat)
    (hmm : maxMinGo fields (0, 18446744073709551615) = some (mx, mn)) :
    (∀ f ∈ fields, ∃ w, f.measW = some w ∧ mn ≤ w ∧ w ≤ mx) ∧
    (mx - mn > c.threshold → fieldPrefixMaxWidth c fields = 0 ∧ ∀ f ∈ fields, padOf f (fieldPrefixMaxWidth c fields) = 0) ∧
    (mx - mn ≤ c.threshold → fieldPrefixMaxWidth c fields = mx ∧
      ∀ f ∈ fields, f.skip = false → f.measW = some f.alignW →
        f.alignW + padOf f (fieldPrefixMaxWidth c fields) = mx) ∧
    (∀ f ∈ fields, f.skip = true → padOf f (fieldPrefixMaxWidth c fields) = 0) := by
  have hb := (maxMinGo_bounds fields _ _ hmm).2.2
  have hpm : prefixMaxMinWidth fields = (mx, mn) := by simp [prefixMaxMinWidth, hmm]
  refine ⟨hb, ?_, ?_, ?_⟩
  · intro hgt
    have hw : fieldPrefixMaxWidth c fields = 0 := by
      rw [fieldPrefixMaxWidth_spec, hpm]; simp [hgt]
    refine ⟨hw, ?_⟩
    intro f _
    rw [hw]; unfold padOf; split <;> simp
  · intro hle
    have hw : fieldPrefixMaxWidth c fields = mx := by
      rw [fieldPrefixMaxWidth_spec, hpm]
      have : ¬ (mx - mn > c.threshold) := by omega
      simp [this]
    refine ⟨hw, ?_⟩
    intro f hf hs hm
    obtain ⟨w, hw1, _, hw3⟩ := hb f hf
    rw [hm] at hw1
    have : f.alignW = w := by simpa using hw1
    rw [hw]; unfold padOf; simp only [hs, Bool.false_eq_true, ↓reduceIte]; omega
  · intro f _ hs
    unfold padOf; simp [hs]

example : maxMinGo [fA, fB] (0, 18446744073709551615) = some (7, 2) ∧ fieldPrefixMaxWidth cfg20 [fA, fB] = 7 ∧
    alignedItem fA 7 = some "a:      u8".toList ∧ alignedItem fB 7 = some "bbbbbb: u16".toList := by decide +kernel
example : fieldPrefixMaxWidth { cfg20 with threshold := 4 } [fA, fB] = 0 := by decide +kernel

/-- "All values of a group start at `max + 1`" is FALSE of the code for a struct literal's field with a short
attribute (known finding VERT-LIT-ATTR-OVERPAD, probe in `harness/src/vertical_corr.rs`): `rewrite_prefix`
measures `#[a] x` (6 wide) while `rewrite_field` pads from the name alone, so both values start 2 columns
further right than the longest name asks for. -/
theorem alignment_overpadded_counterexample :
    let x : Field := ⟨false, some 6, "#[a]\n        x".toList, ": ".toList, 1, "1".toList, true, ",\n        ".toList⟩
    let y : Field := ⟨false, some 4, "yyyy".toList, ": ".toList, 4, "2".toList, true, ",\n    }".toList⟩
    fieldPrefixMaxWidth cfg20 [x, y] = 6 ∧ alignedItem y 6 = some "yyyy:   2".toList ∧
      alignedItem x 6 = some "#[a]\n        x:      1".toList := by decide +kernel

/-! ## C01 / C03: one group (`rewrite_aligned_items_inner`) -/

theorem expectedItems_sourceItems (w : Nat) : ∀ fields : List Field,
    expectedItems false (sourceItems fields w) = fields.map (alignedItem · w) := by
  intro fields
  induction fields with
  | nil => rfl
  | cons f fs ih =>
    have := ih
    simp only [sourceItems] at this
    simp [sourceItems, expectedItems, this]

/-- What `rewrite_aligned_items_inner` hands to `write_list`: the formatting, the items `itemize_list`
made, and the items actually written (after the one-line pass, if the tactic is Horizontal). -/
theorem rewriteAlignedItemsInner_some {c : VConfig} {rc : Rc} {offset : Indent} {firstPre : List Char} {fields : List Field}
    {olw : Nat} {force : Bool} {out : List Char}
    (h : rewriteAlignedItemsInner c rc offset firstPre fields olw force = some out) :
    ∃ (fmt : ListFormatting) (items written : List ListItem) (w : Nat),
      itemize [','] ['}'] false firstPre (sourceItems fields (fieldPrefixMaxWidth c fields)) = some items ∧
      (w = fieldPrefixMaxWidth c fields ∨ w = 0) ∧
      written.map (·.item) = fields.map (alignedItem · w) ∧
      Forall2 SameButItem written items ∧
      fmt.preserveNewline = true ∧
      fmt.tactic = definitiveTactic items .horizontalVertical .comma olw ∧
      writeList fmt rc written = some out := by
  unfold rewriteAlignedItemsInner at h
  split at h
  · simp at h
  · rename_i itemShape _
    simp only at h
    split at h
    · simp at h
    · rename_i items hitems
      have hmap : items.map (·.item) = fields.map (alignedItem · (fieldPrefixMaxWidth c fields)) := by
        rw [itemize_items_in_order _ _ _ _ _ _ hitems, expectedItems_sourceItems]
      by_cases ht : definitiveTactic items .horizontalVertical .comma olw = .horizontal
      · simp only [ht, ↓reduceIte] at h
        exact ⟨_, items, oneLinePass fields items, 0, hitems, Or.inr rfl,
          oneLinePass_items _ fields items hmap, oneLinePass_same fields items, rfl, ht.symm, h⟩
      · simp only [ht, ↓reduceIte] at h
        exact ⟨_, items, items, fieldPrefixMaxWidth c fields, hitems, Or.inl rfl, hmap,
          Forall2.refl (fun _ => ⟨rfl, rfl, rfl, rfl⟩) items, rfl, rfl, h⟩

/-- **Fields preserved (C01).**  Whenever `rewrite_aligned_items_inner` succeeds, its result is
`g0 ++ t1 ++ g1 ++ … ++ tN ++ gN` where `t1 … tN` are the rewritten texts `head ++ spacing ++ padding ++ value`
of ALL the fields, each once, in the order of the source — all of them rewritten with the group's width, or (a
one-line list) all of them with width 0 — and every gap is made of blanks, the separator and the comments of
the items. -/
theorem aligned_items_preserved (c : VConfig) (rc : Rc) (offset : Indent) (firstPre : List Char)
    (fields : List Field) (olw : Nat) (force : Bool) (out : List Char)
    (h : rewriteAlignedItemsInner c rc offset firstPre fields olw force = some out) :
    ∃ (fmt : ListFormatting) (written : List ListItem) (w : Nat) (gaps : List (List Piece)),
      (w = fieldPrefixMaxWidth c fields ∨ w = 0) ∧
      written.map (·.item) = fields.map (alignedItem · w) ∧
      (∀ f ∈ fields, f.ok = true) ∧
      gaps.length = (itemStrings written).length + 1 ∧
      out = weave (gaps.map render) (itemStrings written) ∧
      ∀ g ∈ gaps, ∀ p ∈ g, GapPiece fmt rc written p := by
  obtain ⟨fmt, items, written, w, _, hw, hmap, _, _, _, hwl⟩ := rewriteAlignedItemsInner_some h
  obtain ⟨gaps, h1, h2, h3⟩ := writeList_items_in_order fmt rc written out hwl
  refine ⟨fmt, written, w, gaps, hw, hmap, ?_, h1, h2, h3⟩
  intro f hf
  cases hok : f.ok with
  | true => rfl
  | false =>
    exfalso
    have hnone : alignedItem f w = none := by simp [alignedItem, hok]
    have hmem : (none : Option (List Char)) ∈ written.map (·.item) := by
      rw [hmap]; exact List.mem_map.mpr ⟨f, hf, hnone⟩
    obtain ⟨it, hit, hitn⟩ := List.mem_map.mp hmem
    have := writeList_none_on_missing_item fmt rc written ⟨it, hit, hitn⟩
    rw [this] at hwl
    simp at hwl

/-- **Comments preserved (C03), on the multi-line AND on the one-line pass.**  The items written carry, one
for one, the pre-comment, the post-comment (and `new_lines`) of the items `itemize_list` made from the
source — the one-line pass replaces item strings only — and the comment pieces of the result are, one for
one and in order, what the comment rewriter returned for the comments of the written items.  (Rebuilding the
items of the one-line pass with `ListItem::from_item` breaks `SameButItem`.) -/
theorem aligned_comments_preserved (c : VConfig) (rc : Rc) (offset : Indent) (firstPre : List Char)
    (fields : List Field) (olw : Nat) (force : Bool) (out : List Char)
    (h : rewriteAlignedItemsInner c rc offset firstPre fields olw force = some out) :
    ∃ (items written : List ListItem) (ps : List Piece),
      itemize [','] ['}'] false firstPre (sourceItems fields (fieldPrefixMaxWidth c fields)) = some items ∧
      Forall2 SameButItem written items ∧
      render ps = out ∧
      Forall2 (Rewritten rc) (commentTexts ps) (rawComments written) := by
  obtain ⟨fmt, items, written, w, hitems, _, _, hsame, _, _, hwl⟩ := rewriteAlignedItemsInner_some h
  obtain ⟨ps, hr, hc⟩ := writeList_comments_emitted fmt rc written out hwl
  exact ⟨items, written, ps, hitems, hsame, hr, hc⟩

/-- With every field's text non-empty (every real field) the comments of the written items ARE the comments
`itemize_list` found, so nothing is lost between the source and `write_list`. -/
theorem rawComments_same (written items : List ListItem) (h : Forall2 SameButItem written items)
    (hw : ∀ it ∈ written, it.isSubstantial = true) (hi : ∀ it ∈ items, it.isSubstantial = true) :
    rawComments written = rawComments items := by
  induction h with
  | nil => rfl
  | @cons a b as bs hab _ ih =>
    have ha := hw a List.mem_cons_self
    have hb := hi b List.mem_cons_self
    have := ih (fun x hx => hw x (List.mem_cons_of_mem _ hx)) (fun x hx => hi x (List.mem_cons_of_mem _ hx))
    obtain ⟨h1, _, h3, _⟩ := hab
    simp only [rawComments, List.filter_cons, ha, hb, ↓reduceIte, List.flatMap_cons] at this ⊢
    rw [h1, h3, this]

private def oneLineFields : List Field :=
  [⟨false, some 2, "a:".toList, " ".toList, 2, "u8".toList, true, ", /* c */ ".toList⟩,
   ⟨false, some 5, "bbbb:".toList, " ".toList, 5, "u16".toList, true, " }".toList⟩]

/-- The one-line pass at work: a struct variant that fits keeps its comment and loses its alignment. -/
example : rewriteAlignedItemsInner cfg20 (rewriteCommentLight cfg20.config) ⟨8, 0⟩ " ".toList oneLineFields 35 false =
    some "a: u8, /* c */ bbbb: u16".toList := by
  rw [String.toList_ofList, String.toList_ofList]  -- the kernel is slow at `String.toList` of a literal
  decide +kernel

/-! ## `grouping_stable` (C02) -/

/-- **The text the writer puts between two groups keeps the boundary; the text inside a group makes none.**
For an indentation string without line feed (every `Indent::to_string`, also the empty one):
the separator of a blank-line boundary is read as a blank line again; the text between two fields of one group
is not, unless `write_list` preserved an extra line break there (`new_lines`). -/
theorem gap_texts (ind : List Char) (h : '\n' ∉ ind) :
    hasBlankLine (gapBetween true ind) = true ∧ hasBlankLine (gapBetween false ind) = false ∧
    hasBlankLine (gapWithin false ind) = false ∧ hasBlankLine (gapWithin true ind) = true := by
  refine ⟨?_, ?_, ?_, ?_⟩
  · simpa [gapBetween] using hasBlankLine_two_breaks ind h
  · simpa [gapBetween] using hasBlankLine_one_break ind h
  · simpa [gapWithin] using hasBlankLine_one_break ind h
  · simpa [gapWithin] using hasBlankLine_two_breaks ind h

/-- **The groups of the result are the groups of the source.**  Take one group `g` as the first pass cut it
(none of its fields but the last is skipped; the last one is skipped, or the separator is a blank line, when
more fields follow) and read it back from a comment-free vertical result (`rereadGroup`: the text behind every
field is what `write_list` / `rewrite_with_alignment` wrote there).  If `write_list` preserved no extra line
break inside the group (`new_lines` false for every field but the last), `group_aligned_items` ends the group
at the same field with the same separator — whatever follows, for every indentation string without line
feed.  `rewrite_with_alignment` does not read `blank_lines_upper_bound`: the separator `"\n"` is written for
every value of it, 0 included, so the hypothesis on the last field is what the code establishes. -/
theorem grouping_stable (ind : List Char) (hind : '\n' ∉ ind) (blank : Bool) (rest : List Field) :
    ∀ (g : List Field) (idx : Nat), g ≠ [] →
      (∀ f ∈ g.dropLast, f.skip = false ∧ newLinesOf f = false) →
      (rest ≠ [] → ∀ l, g.getLast? = some l → (l.skip = true ∧ blank = false) ∨ (l.skip = false ∧ blank = true)) →
      groupGo idx (rereadGroup ind blank g ++ rest) =
        ((if rest = [] then false else blank), idx + g.length - 1) := by
  intro g
  induction g with
  | nil => intro idx h; exact absurd rfl h
  | cons f g ih =>
    intro idx _ hinner hlast
    cases g with
    | nil =>
      cases rest with
      | nil => simp [rereadGroup, groupGo]
      | cons r rest =>
        rcases hlast (by simp) f rfl with ⟨hs, rfl⟩ | ⟨hs, rfl⟩
        · exact groupGo_skip idx r rest hs
        · exact groupGo_blank idx r rest hs (gap_texts ind hind).1
    | cons g2 g =>
      obtain ⟨hs, hn⟩ := hinner f (by simp [List.dropLast])
      have hrec := ih (idx + 1) (by simp)
        (fun x hx => hinner x (by simp only [List.dropLast_cons_cons]; exact List.mem_cons_of_mem _ hx))
        (fun hr l hl => hlast hr l (by simpa [List.getLast?_cons_cons] using hl))
      have hne : rereadGroup ind blank (g2 :: g) ++ rest ≠ [] := by cases g <;> simp [rereadGroup]
      rw [rereadGroup, hn, List.cons_append,
        groupGo_next (f := { f with post := gapWithin false ind }) idx hne hs (gap_texts ind hind).2.2.1, hrec]
      simp only [List.length_cons]
      congr 1
      omega

example : groupGo 0 (rereadGroup "    ".toList true [fA, fB] ++ [fC]) = (true, 1) := by decide +kernel

/-- "The groups of the result are the groups of the source" needs the separator: if the blank line between two
groups is NOT written back (what a change that honours `blank_lines_upper_bound = 0` in `write_list` or in
`group_aligned_items` alone does) the two groups are one group on the second pass and their fields are aligned
with each other: the second pass changes the result. -/
theorem grouping_unstable_without_separator_counterexample :
    groupGo 0 (rereadGroup "    ".toList true [fA, fB] ++ [fC]) = (true, 1) ∧
    groupGo 0 (rereadGroup "    ".toList false [fA, fB] ++ [fC]) = (false, 2) ∧
    fieldPrefixMaxWidth cfg20 [fC] = 3 ∧ fieldPrefixMaxWidth cfg20 [fA, fB, fC] = 7 := by decide +kernel

/-- "…and no extra hypothesis on `new_lines`" is FALSE in general: where `has_extra_newline` sees an extra line
break that `group_aligned_items` did not take for a blank line, the first pass keeps the fields in one group
and writes a blank line between them, and the second pass cuts there.  (Before the repair `f2802f1` a field at
column 0 was such a case: `hasBlankLine_before_repair_counterexample`.) -/
theorem grouping_unstable_extra_newline_counterexample :
    hasBlankLine (gapWithin true "    ".toList) = true := by decide +kernel

/-! ## The whole of `rewrite_with_alignment` on an example -/

example : rewriteWithAlignment cfg20 (rewriteCommentLight cfg20.config) ⟨4, 0⟩ "\n    ".toList [fA, fB, fC] 0 =
    some "a:      u8,\n    bbbbbb: u16,\n\n    cc: u32, // k".toList := by
  rw [String.toList_ofList, String.toList_ofList]
  decide +kernel

/-! ## The oracles accept what the theorems describe -/

/-- `vert.oracle.align` (`alignOK`) accepts a group written as `alignment_exact` says. -/
example : alignOK 20 [(2, 8), (7, 8)] = true ∧ alignOK 4 [(2, 3), (7, 8)] = true ∧
    alignOK 20 [(2, 3), (7, 8)] = false ∧ alignOK 20 [(2, 8), (7, 0)] = true := by decide +kernel

end RF.Props.Vertical

import RF.Model.Shape
import RF.Lemmas.Modules
import RF.Lemmas.ModMacros

/-!
# C13  Exactly the reachable, non-excluded files are formatted, each once

Theorems about `RF.Model.Modules`: the model of `ModResolver` (`src/modules.rs`), of the path helpers
it uses (`parse/parser.rs`, `parse/session.rs`, rustc's `default_submod_path`,
`Input::to_directory_ownership`) and of the file filters of `format_project` (`src/formatting.rs`).

Quantification: every tree on disk `fs` (any association list of paths to files/directories, `.`
and `..` in paths included), every input path, every declaration tree.  The refinement theorems
need three hypotheses, each necessary (counter-example named with each):

* `fsPlain fs` — no `#[cfg_attr(.., path = "..")]` (the `MultiExternal` code path is modelled and
  compared with the implementation by the correspondence, but not proved);
  `span_matches_key_counterexample` (it refutes the last conjunct: the module of an entry);
* `UniqueOwnership` — no file is reached under two different directory ownerships;
  `resolver_refines_spec_counterexample_ownership`;
* `ProbeAgrees` — the `exists()` probe of `push_inline_mod_directory` never fires;
  `resolver_refines_spec_counterexample_probe`.

The specification is the inductive closure `Reach false fs root` (rustc's rules, `probe = false`)
with the error predicate `SpecErr`, and its executable form `reachable`.
"The resolver and the specification report the same error kind" is stated as: the kind the resolver
reports is the kind of a declaration of a file of the crate that the specification also rejects;
and when the resolver succeeds the specification rejects nothing.  (With several failing
declarations the specification has several kinds; the resolver reports the first in its walk.)
-/
namespace RF.Props.C13
open RF.Modules RF.Lemmas.Modules RF.Lemmas.ModMacros

def libRs : Comp := ['l', 'i', 'b', '.', 'r', 's']
def aRs : Comp := ['a', '.', 'r', 's']
def bRs : Comp := ['b', '.', 'r', 's']
def xRs : Comp := ['x', '.', 'r', 's']
def wRs : Comp := ['w', '.', 'r', 's']
def fooRs : Comp := ['f', 'o', 'o', '.', 'r', 's']
def childRs : Comp := ['c', 'h', 'i', 'l', 'd', '.', 'r', 's']
def a : Comp := ['a']
def b : Comp := ['b']
def x : Comp := ['x']
def z : Comp := ['z']
def w : Comp := ['w']
def foo : Comp := ['f', 'o', 'o']
def child : Comp := ['c', 'h', 'i', 'l', 'd']
def sub : Comp := ['s', 'u', 'b']

/-- `lib.rs: mod a; mod b { mod x; }`, `a.rs: mod w;`, `a/w.rs`, `b/x/mod.rs`, and a decoy `z.rs`.
Mixes `name.rs`, `name/mod.rs`, an inline module and a nested non-`mod.rs` file. -/
def fsGood : FS :=
  [ ([libRs], .file false false [.ext a [], .inline b [] [.ext x []]]),
    ([aRs], .file false false [.ext w []]),
    ([a, wRs], .file false true []),
    ([b, x, modRs], .file false false []),
    ([['z', '.', 'r', 's']], .file false false []) ]

def rootGood : Ctx := ⟨[libRs], .unownedViaBlock⟩

def ctxsGood : List Ctx :=
  [rootGood, ⟨[aRs], .owned (some a)⟩, ⟨[a, wRs], .owned (some w)⟩, ⟨[b, x, modRs], .owned none⟩]

theorem fsGood_plain : fsPlain fsGood := fsPlain_of_fsPlainB (by decide +kernel)
theorem fsGood_unique : UniqueOwnership false fsGood rootGood :=
  unique_of_uniqueB (S := ctxsGood) (by decide +kernel) (by decide +kernel) (by decide +kernel)
theorem fsGood_probe : ProbeAgrees fsGood rootGood :=
  probeAgrees_of_B (S := ctxsGood) (by decide +kernel) (by decide +kernel) (by decide +kernel)

/-- The probe quirk: `lib.rs: mod x;`, `x.rs: mod z { mod w; }`, `x/w.rs`, and no `x/z/`. -/
def fsProbe : FS :=
  [ ([libRs], .file false false [.ext x []]),
    ([xRs], .file false false [.inline z [] [.ext w []]]),
    ([x, wRs], .file false false []) ]

/-- Two routes, two ownerships: `lib.rs: #[path = "foo.rs"] mod a; mod foo;`, `foo.rs: mod child;`,
`child.rs`, `foo/child.rs`. -/
def fsTwoRoutes : FS :=
  [ ([libRs], .file false false [.ext a [.path ['f', 'o', 'o', '.', 'r', 's']], .ext foo []]),
    ([fooRs], .file false false [.ext child []]),
    ([childRs], .file false false []),
    ([foo, childRs], .file false false []) ]

/-- `lib.rs: mod a; #[cfg_attr(.., path = "b.rs")] mod a;`, `a.rs` with `#![rustfmt::skip]`, `b.rs`. -/
def fsClone : FS :=
  [ ([libRs], .file false false [.ext a [], .ext a [.cfgAttrPath ['b', '.', 'r', 's']]]),
    ([aRs], .file true false []),
    ([bRs], .file false false []) ]

/-- `lib.rs: mod a; #[path = "sub/../a.rs"] mod b;`, `a.rs`, `sub/x.rs`. -/
def fsDotDot : FS :=
  [ ([libRs], .file false false
      [.ext a [], .ext b [.path ['s', 'u', 'b', '/', '.', '.', '/', 'a', '.', 'r', 's']]]),
    ([aRs], .file false false []),
    ([sub, xRs], .file false false []) ]

/-- **The resolver computes the closure of its own rules** (rustfmt's directory rule, `probe = true`;
no `cfg_attr(path)`, every file reached under a single ownership; no probe hypothesis is needed): the
keys of the file map are exactly the files of the crate and the specification has no error; or the
error reported is one the specification has (or fuel ran out). -/
theorem resolver_computes_closure (fs : FS) (fuel : Nat) (root : Path) (rootSkip g : Bool)
    (rootItems : List Decl) (own : Ownership)
    (hplain : fsPlain fs)
    (hroot : nodeAt fs root = some (.file rootSkip g rootItems))
    (huniq : UniqueOwnership true fs ⟨root, own⟩) :
    match visitCrate fs fuel (.real root) rootSkip rootItems own true with
    | .ok m =>
      (∀ k, k ∈ keys m ↔ ∃ p own', k = .real p ∧ Reach true fs ⟨root, own⟩ ⟨p, own'⟩) ∧
      (∀ k, ¬ SpecErr true fs ⟨root, own⟩ k) ∧
      ∀ e ∈ m, e.2.spanFile = e.1 ∧ (e.2.innerSkip = true ↔ e.1 = .real root ∧ rootSkip = true)
    | .error k => k = .fuel ∨ SpecErr true fs ⟨root, own⟩ k := by
  rw [visitCrate_plain fs hplain fuel root rootSkip g rootItems own hroot]
  have hc := exploreFile_contract fs ⟨root, own⟩ huniq (fuel + 1) ⟨[root], []⟩ [] root own rootSkip g
    rootItems (Inv.init fs ⟨root, own⟩ hroot) hroot Reach.root
  generalize exploreFile fs (fuel + 1) ⟨[root], []⟩ root own rootItems = r at hc ⊢
  cases r with
  | error k => exact hc
  | ok c =>
    have hc := hc.1
    refine ⟨fun k => ?_, no_specErr_of_closed fs _ hc, fun e he' => ?_⟩
    · show k ∈ keys (insertReplace c.fileMap _ _) ↔ _
      rw [keys_insertReplace, mem_addKey, hc.mem_keys_iff]
      constructor
      · rintro (rfl | ⟨p, own', rfl, _, hr⟩)
        · exact ⟨root, own, rfl, Reach.root⟩
        · exact ⟨p, own', rfl, hr⟩
      · rintro ⟨p, own', rfl, hr⟩
        by_cases hpr : p = root
        · exact Or.inl (hpr ▸ rfl)
        · exact Or.inr ⟨p, own', rfl, hpr, hr⟩
    · rcases mem_insertReplace he' with he' | rfl
      · -- an entry the search made: its key is not the root, and it has no inner skip
        obtain ⟨p, hp, _, _, hne⟩ := (hc.keys e.1).1 (List.mem_map.2 ⟨e, he', rfl⟩)
        have := hc.modsOk e he'
        refine ⟨this.1, ?_⟩
        rw [this.2, hp]
        exact ⟨nofun, fun h => absurd (FileName.real.inj h.1) hne⟩
      · simp

example : UniqueOwnership true fsGood rootGood :=
  unique_probe fsGood_probe fsGood_unique

/-- **resolver_refines_spec, proved fragment.** For a tree without `cfg_attr(path)` in which no file
is reached under two ownerships and the `exists()` probe never fires: if `visit_crate` succeeds, the
key set of its file map is exactly the set of files of the crate according to rustc's rules (root
included) and no declaration of the crate fails to resolve; if it fails with kind `k`, either the
fuel ran out or some declaration of a file of the crate fails with kind `k` in the specification.

The full statement (the same without `huniq` and `hprobe`):
`∀ fs …, fsPlain fs → nodeAt fs root = some (.file rootSkip g rootItems) → <the same conclusion>`
is false; see the two `_counterexample` theorems. -/
theorem resolver_refines_spec_partial (fs : FS) (fuel : Nat) (root : Path) (rootSkip g : Bool)
    (rootItems : List Decl) (own : Ownership)
    (hplain : fsPlain fs)
    (hroot : nodeAt fs root = some (.file rootSkip g rootItems))
    (huniq : UniqueOwnership false fs ⟨root, own⟩) (hprobe : ProbeAgrees fs ⟨root, own⟩) :
    match visitCrate fs fuel (.real root) rootSkip rootItems own true with
    | .ok m =>
      (∀ k, k ∈ keys m ↔ ∃ p own', k = .real p ∧ Reach false fs ⟨root, own⟩ ⟨p, own'⟩) ∧
      (∀ k, ¬ SpecErr false fs ⟨root, own⟩ k) ∧
      ∀ e ∈ m, e.2.spanFile = e.1 ∧ (e.2.innerSkip = true ↔ e.1 = .real root ∧ rootSkip = true)
    | .error k => k = .fuel ∨ SpecErr false fs ⟨root, own⟩ k := by
  -- where the probe never fires the two closures and their errors coincide
  have := resolver_computes_closure fs fuel root rootSkip g rootItems own hplain hroot
    (unique_probe hprobe huniq)
  generalize visitCrate fs fuel (.real root) rootSkip rootItems own true = r at this ⊢
  cases r with
  | ok m =>
    exact ⟨fun k => (this.1 k).trans (exists₂_congr fun p own' =>
        and_congr_right fun _ => reach_probe_iff hprobe _),
      fun k hk => this.2.1 k ((specErr_probe_iff hprobe k).2 hk), this.2.2⟩
  | error k => exact this.imp_right (specErr_probe_iff hprobe _).1

/-- Non-vacuity: `fsGood` satisfies the hypotheses, and the resolver finds its four files. -/
example :
    fsPlain fsGood ∧ UniqueOwnership false fsGood rootGood ∧ ProbeAgrees fsGood rootGood ∧
    (visitCrate fsGood 5 (.real [libRs]) false (itemsAt fsGood [libRs]) .unownedViaBlock true).map keys
      = .ok [.real [aRs], .real [a, wRs], .real [b, x, modRs], .real [libRs]] :=
  ⟨fsGood_plain, fsGood_unique, fsGood_probe, by decide +kernel⟩

/-- **The decidable check `hypsB` (driver op `mod.hyps`) establishes the three hypotheses.** -/
theorem hyps_check_sound (fs : FS) (rounds : Nat) (root : Path) (own : Ownership)
    (h : hypsB fs rounds root own = true) :
    fsPlain fs ∧ UniqueOwnership false fs ⟨root, own⟩ ∧ ProbeAgrees fs ⟨root, own⟩ :=
  hypsB_sound h

example : hypsB fsGood 4 [libRs] .unownedViaBlock = true := by decide +kernel
example : hypsB fsProbe 4 [libRs] .unownedViaBlock = false := by decide +kernel
example : hypsB fsTwoRoutes 4 [libRs] .unownedViaBlock = false := by decide +kernel

/-- **Counter-example 1 (the `exists()` probe).** `x.rs` declares `mod z { mod w; }`, the directory
`x/` exists and `x/z/` does not: rustc looks for `x/z/w.rs` and fails; `push_inline_mod_directory`
stops at `x/`, so rustfmt finds and formats `x/w.rs`, a file that is not part of the crate.
The tree is plain and every file has one ownership, so only `ProbeAgrees` fails (of this the
statement records plainness only). -/
theorem resolver_refines_spec_counterexample_probe :
    fsPlain fsProbe ∧
    (visitCrate fsProbe 5 (.real [libRs]) false (itemsAt fsProbe [libRs]) .unownedViaBlock true).map
        keys = .ok [.real [xRs], .real [x, wRs], .real [libRs]] ∧
    reachable fsProbe 5 [libRs] (itemsAt fsProbe [libRs]) .unownedViaBlock = .error .notfound ∧
    SpecErr false fsProbe ⟨[libRs], .unownedViaBlock⟩ .notfound := by
  refine ⟨fsPlain_of_fsPlainB (by decide +kernel), by decide +kernel, by decide +kernel, ?_⟩
  -- `mod w;` of `x.rs` is the declaration rustc rejects
  exact ⟨⟨[xRs], .owned (some x)⟩, .failed .notfound,
    Reach.step (via := false) Reach.root (by decide +kernel) ⟨false, _, rfl⟩, by decide +kernel, rfl⟩

/-- **Counter-example 2 (one file, two ownerships).** `foo.rs` is reached first through
`#[path = "foo.rs"] mod a;` (then its `mod child;` is `child.rs`) and again through `mod foo;` (then
its `mod child;` is `foo/child.rs`). rustc compiles both children; the resolver skips the second
visit (`is_file_parsed`) and never formats `foo/child.rs`. -/
theorem resolver_refines_spec_counterexample_ownership :
    fsPlain fsTwoRoutes ∧
    (visitCrate fsTwoRoutes 5 (.real [libRs]) false (itemsAt fsTwoRoutes [libRs]) .unownedViaBlock
        true).map keys = .ok [.real [fooRs], .real [childRs], .real [libRs]] ∧
    Reach false fsTwoRoutes ⟨[libRs], .unownedViaBlock⟩ ⟨[foo, childRs], .owned (some child)⟩ := by
  refine ⟨fsPlain_of_fsPlainB (by decide +kernel), by decide +kernel, ?_⟩
  have h1 : Reach false fsTwoRoutes ⟨[libRs], .unownedViaBlock⟩ ⟨[fooRs], .owned (some foo)⟩ :=
    Reach.step (via := false) Reach.root (by decide +kernel) ⟨false, [.ext child []], rfl⟩
  exact Reach.step (via := false) h1 (by decide +kernel) ⟨false, [], rfl⟩

/-- **`reachable` (the tree recursion the driver runs for `mod.spec`) computes the declarative
specification**: on success its result plus the root is exactly the set of files of the crate and no
declaration fails; a failure other than `fuel`/`circular` is a failure of the specification. -/
theorem reachable_sound_complete (fs : FS) (fuel : Nat) (root : Path) (rootSkip g : Bool)
    (rootItems : List Decl) (own : Ownership)
    (hroot : nodeAt fs root = some (.file rootSkip g rootItems)) :
    match reachable fs fuel root rootItems own with
    | .ok ps =>
      (∀ p, (p = root ∨ p ∈ ps) ↔ ∃ own', Reach false fs ⟨root, own⟩ ⟨p, own'⟩) ∧
      ∀ k, ¬ SpecErr false fs ⟨root, own⟩ k
    | .error k => k = .fuel ∨ k = .circular ∨ SpecErr false fs ⟨root, own⟩ k := by
  have hc := reachFile_contract false fs ⟨root, own⟩ (fuel + 1) [] root own rootSkip g rootItems
    hroot Reach.root
  unfold reachable
  generalize reachFile false fs (fuel + 1) [] root own rootItems = r at hc ⊢
  cases r with
  | error k => exact hc
  | ok cs =>
    have hcomp := closedFor_complete false fs ⟨root, own⟩ hc
    refine ⟨fun p => ⟨?_, ?_⟩, ?_⟩
    · rintro (rfl | hp)
      · exact ⟨own, Reach.root⟩
      · obtain ⟨c, hcm, rfl⟩ := List.mem_map.1 hp
        exact ⟨c.own, hc.1 c hcm⟩
    · rintro ⟨own', hr⟩
      exact (hcomp _ hr).1.imp (congrArg Ctx.path) fun h => List.mem_map.2 ⟨_, h, rfl⟩
    · rintro k ⟨c, l, hr, hl, he⟩
      rw [((hcomp c hr).2 l hl).1] at he
      cases he

/-- **Resolver vs executable specification** (what the harness compares through `mod.filemap` and
`mod.reachable`): in the proved fragment, when both succeed they name the same files; the resolver
cannot succeed where the specification reports a resolution error, nor the other way round. -/
theorem resolver_matches_reachable_partial (fs : FS) (fuel fuel' : Nat) (root : Path)
    (rootSkip g : Bool) (rootItems : List Decl) (own : Ownership)
    (hplain : fsPlain fs)
    (hroot : nodeAt fs root = some (.file rootSkip g rootItems))
    (huniq : UniqueOwnership false fs ⟨root, own⟩) (hprobe : ProbeAgrees fs ⟨root, own⟩) :
    match visitCrate fs fuel (.real root) rootSkip rootItems own true,
      reachable fs fuel' root rootItems own with
    | .ok m, .ok ps => ∀ k, k ∈ keys m ↔ ∃ p, k = .real p ∧ (p = root ∨ p ∈ ps)
    | .ok _, .error k' => k' = .fuel ∨ k' = .circular
    | .error k, .ok _ => k = .fuel
    | .error k, .error k' =>
      (k = .fuel ∨ SpecErr false fs ⟨root, own⟩ k) ∧
      (k' = .fuel ∨ k' = .circular ∨ SpecErr false fs ⟨root, own⟩ k') := by
  have h1 := resolver_refines_spec_partial fs fuel root rootSkip g rootItems own hplain hroot huniq
    hprobe
  have h2 := reachable_sound_complete fs fuel' root rootSkip g rootItems own hroot
  split
  all_goals
    rename_i hv hr
    rw [hv] at h1
    rw [hr] at h2
  · exact fun k => (h1.1 k).trans
      ⟨fun ⟨p, own', e, hreach⟩ => ⟨p, e, (h2.1 p).2 ⟨own', hreach⟩⟩,
       fun ⟨p, e, hp⟩ => (h2.1 p).1 hp |>.elim fun own' hreach => ⟨p, own', e, hreach⟩⟩
  · exact h2.imp_right fun h => h.resolve_right (h1.2.1 _)
  · exact h1.resolve_right (h2.2 _)
  · exact ⟨h1, h2⟩

/-- **each_file_once.** Whatever the tree, the declarations (`cfg_attr(path)` included), the number
of routes to a file and the fuel: the file map `visit_crate` returns has no two entries with the same
path, so `format_project` passes each path to `format_file` at most once. -/
theorem each_file_once (fs : FS) (fuel : Nat) (rootName : FileName) (rootSkip : Bool)
    (rootItems : List Decl) (own : Ownership) (recursive : Bool) (m : List (FileName × Mod))
    (h : visitCrate fs fuel rootName rootSkip rootItems own recursive = .ok m) :
    (keys m).Nodup := by
  -- every insertion keeps the keys distinct, hence so does the walk
  have hins := fun (m : List (FileName × Mod)) kind (h : (keys m).Nodup) => nodup_insertSubMod kind h
  unfold visitCrate at h
  dsimp only at h
  split at h
  · cases h
  · next st hw =>
    cases h
    refine keys_insertReplace .. ▸ nodup_addKey _ ?_
    split at hw
    · exact (visit_preserves fs _ (fun m => (keys m).Nodup) hins
        (visitFile_preserves fs _ hins fuel) rootName).2 rootItems _ st hw List.nodup_nil
    · cases hw
      exact List.nodup_nil

/-- The list `format_project` hands to `format_file` is a sublist of the keys of the file map
(`each_file_once`), so it has no duplicate either. -/
theorem formatted_each_once (fs : FS) (fuel : Nat) (p : Path) (cfg : Config) (names : List FileName)
    (h : formatProject fs fuel (.file p) cfg = .ok names) : names.Nodup := by
  rcases formatProject_ok h with rfl | ⟨_, _, files, hv, rfl⟩
  · exact List.nodup_nil
  · exact (List.filter_sublist.map _).nodup (each_file_once _ _ _ _ _ _ _ _ hv)

-- two routes to `foo.rs`, one entry
example : (visitCrate fsTwoRoutes 5 (.real [libRs]) false (itemsAt fsTwoRoutes [libRs])
    .unownedViaBlock true).map keys = .ok [.real [fooRs], .real [childRs], .real [libRs]] :=
  resolver_refines_spec_counterexample_ownership.2.1

/-- **"Once" is per spelling of the path, not per file.** The keys are compared as `PathBuf`s
(component-wise, `..` not resolved): `a.rs` reached as `a.rs` and as `sub/../a.rs` gives two entries
for one file on disk, which is then formatted (and reported) twice. -/
theorem each_file_once_counterexample_canonical :
    (visitCrate fsDotDot 5 (.real [libRs]) false (itemsAt fsDotDot [libRs]) .unownedViaBlock true).map
        keys = .ok [.real [aRs], .real [sub, dotdot, aRs], .real [libRs]] ∧
    normAux fsDotDot [] [aRs] = normAux fsDotDot [] [sub, dotdot, aRs] := by decide +kernel

/-- **directory_restored.** After `visit_sub_mod` has returned `Ok` on any item (external, inline,
skipped, with any recursion into files; on `Err` the `?` leaves without restoring) the resolver's
directory — path and ownership — is what it was before; this is what makes the resolution of an item
independent of its elder siblings' subtrees. -/
theorem directory_restored (fs : FS) (rec : RecFn) (cur : FileName) (st st' : St) (d : Decl)
    (h : visitSubModW fs rec cur st d = .ok st') : st'.dir = st.dir :=
  visitSubModW_dir fs rec cur st st' d h

/-- The same for a whole item list (`visit_mod_from_ast`). -/
theorem directory_restored_items (fs : FS) (rec : RecFn) (cur : FileName) (ds : List Decl)
    (st st' : St) (h : visitItemsW fs rec cur st ds = .ok st') : st'.dir = st.dir := by
  induction ds generalizing st with
  | nil => cases h; rfl
  | cons d ds ih =>
    rw [visitItemsW] at h
    split at h
    · cases h
    · next h1 => rw [ih _ h, directory_restored _ _ _ _ _ _ h1]

/-- Non-vacuity: an inline module with a `#[path]` really changes the directory on the way down. -/
example : pushInlineModDirectory true fsGood ⟨[], .owned (some a)⟩ b [.path ['x']]
    = ⟨[x], .owned none⟩ := rfl

/-- **filters_table (1): the decision of `should_skip_module`** as a closed formula of its seven
inputs (all 128 rows). -/
theorem filters_table (innerSkip skipChildren isMain inputIsStdin ignored formatGenerated generated : Bool) :
    skipDecision innerSkip skipChildren isMain inputIsStdin ignored formatGenerated generated =
      (innerSkip || (skipChildren && !isMain) || (!inputIsStdin && ignored) ||
        (!inputIsStdin && !formatGenerated && generated)) :=
  skipDecision_table _ _ _ _ _ _ _

/-- **filters_table (2): a name is formatted iff it is in the file map and no exclusion applies.**
For a file input that parses and is not the `skip_children` + ignored special case, the list handed
to `format_file` consists exactly of the entries `(k, v)` of the resolver's map for which: the
module has no inner skip attribute, `skip_children` is off or `k` is the input itself, `k` is not
ignored, and generated files are formatted or the file holding the module's span has no marker. -/
theorem formatted_iff (fs : FS) (fuel : Nat) (p : Path) (cfg : Config) (skip g : Bool)
    (items : List Decl) (m : List (FileName × Mod))
    (hroot : nodeAt fs p = some (.file skip g items))
    (hnot : (cfg.skipChildren && cfg.ignored p) = false)
    (hm : visitCrate fs fuel (.real p) skip items
      ((toDirectoryOwnership fs p).getD .unownedViaBlock) (!cfg.skipChildren) = .ok m) :
    ∃ names, formatProject fs fuel (.file p) cfg = .ok names ∧
      ∀ k, k ∈ names ↔ ∃ v, (k, v) ∈ m ∧ v.innerSkip = false ∧
        (cfg.skipChildren = true → k = .real p) ∧ ignoreFile cfg k = false ∧
        (cfg.formatGeneratedFiles = true ∨ generatedAt fs v.spanFile = false) := by
  rw [formatProject_file fs fuel p cfg skip g items hroot hnot, hm]
  refine ⟨_, rfl, fun k => ?_⟩
  simp only [mem_keys_filter, Bool.not_eq_true', shouldSkipModule_eq_false]

/-- Non-vacuity: on `fsGood` with generated files excluded, `a/w.rs` (marked `@generated`) drops out,
the decoy `z.rs` is never touched. -/
example : formatProject fsGood 5 (.file [libRs]) ⟨false, false, fun _ => false⟩
    = .ok [.real [aRs], .real [b, x, modRs], .real [libRs]] := by decide +kernel

/-- `skip_children`: only the input; an ignored input with `skip_children`: nothing;
stdin: the input unless it has a crate-level skip. -/
example : formatProject fsGood 5 (.file [libRs]) ⟨true, true, fun _ => false⟩ = .ok [.real [libRs]] := by
  decide +kernel
example : formatProject fsGood 5 (.file [libRs]) ⟨true, true, fun _ => true⟩ = .ok [] := by
  decide +kernel
example : formatProject fsGood 5 (.text false [.ext a []]) ⟨false, true, fun _ => false⟩
    = .ok [.stdin] := by decide +kernel
example : formatProject fsGood 5 (.text true [.ext a []]) ⟨false, true, fun _ => false⟩ = .ok [] := by
  decide +kernel

/-- **Stdin never recurses**: whatever the declarations and the tree, a text input yields only
`stdin` (or nothing when it carries a crate-level skip), and never an error. -/
theorem stdin_no_children (fs : FS) (fuel : Nat) (skip : Bool) (items : List Decl) (cfg : Config) :
    formatProject fs fuel (.text skip items) cfg = .ok (if skip then [] else [.stdin]) := by
  cases skip <;> rfl

/-- **`skip_children` never recurses**: only the input can be formatted and a missing child is not
even noticed. -/
theorem skip_children_only_root (fs : FS) (fuel : Nat) (p : Path) (cfg : Config)
    (hsc : cfg.skipChildren = true) (names : List FileName)
    (h : formatProject fs fuel (.file p) cfg = .ok names) : ∀ k ∈ names, k = .real p := by
  rcases formatProject_ok h with rfl | ⟨skip, items, files, hv, rfl⟩
  · exact List.forall_mem_nil _
  · -- without recursion the map is the entry of the input
    rw [hsc] at hv
    cases hv
    intro k hk
    obtain ⟨v, hv, _⟩ := (mem_keys_filter _ _ k).1 hk
    cases List.mem_singleton.1 hv
    rfl

/-- **The formatted set, in the proved fragment**: with `skip_children` off, a path is formatted iff
it is a file of the crate by rustc's rules and none of: it is the input and the input has a
crate-level skip; it is ignored; it carries the generated marker while generated files are excluded. -/
theorem formatted_iff_reachable_partial (fs : FS) (fuel : Nat) (p : Path) (cfg : Config)
    (skip g : Bool) (items : List Decl) (names : List FileName)
    (hplain : fsPlain fs)
    (hroot : nodeAt fs p = some (.file skip g items))
    (hsc : cfg.skipChildren = false)
    (huniq : UniqueOwnership false fs ⟨p, (toDirectoryOwnership fs p).getD .unownedViaBlock⟩)
    (hprobe : ProbeAgrees fs ⟨p, (toDirectoryOwnership fs p).getD .unownedViaBlock⟩)
    (h : formatProject fs fuel (.file p) cfg = .ok names) :
    ∀ k, k ∈ names ↔ ∃ q, k = .real q ∧
      (∃ own', Reach false fs ⟨p, (toDirectoryOwnership fs p).getD .unownedViaBlock⟩ ⟨q, own'⟩) ∧
      ¬ (q = p ∧ skip = true) ∧ cfg.ignored q = false ∧
      (cfg.formatGeneratedFiles = true ∨ generatedAt fs (.real q) = false) := by
  have hnot : (cfg.skipChildren && cfg.ignored p) = false := by simp [hsc]
  have href := resolver_refines_spec_partial fs fuel p skip g items _ hplain hroot huniq hprobe
  rw [formatProject_file fs fuel p cfg skip g items hroot hnot, hsc, Bool.not_false] at h
  cases hm : visitCrate fs fuel (.real p) skip items
      ((toDirectoryOwnership fs p).getD .unownedViaBlock) true with
  | error k =>
    rw [hm] at h
    cases h
  | ok m =>
    rw [hm] at h href
    cases h
    intro k
    have hkeys := fun k => (href.1 k).trans (exists_congr fun _ => exists_and_left)
    rw [mem_formatted_iff fs cfg hkeys href.2.2 k]
    simp only [hsc, Bool.false_eq_true, false_imp_iff, true_and]

/-- **`mod.resolve` vs `mod.spec`** (the implementation model of `format_project` against the
executable specification `specFormatted`), in the proved fragment: when both succeed they list the
same paths; one cannot succeed where the other reports a resolution error (only `fuel`/`circular`,
i.e. a module cycle, may separate them). -/
theorem formatProject_matches_spec_partial (fs : FS) (fuel fuel' : Nat) (p : Path) (cfg : Config)
    (skip g : Bool) (items : List Decl)
    (hplain : fsPlain fs)
    (hroot : nodeAt fs p = some (.file skip g items))
    (huniq : UniqueOwnership false fs ⟨p, (toDirectoryOwnership fs p).getD .unownedViaBlock⟩)
    (hprobe : ProbeAgrees fs ⟨p, (toDirectoryOwnership fs p).getD .unownedViaBlock⟩) :
    match formatProject fs fuel (.file p) cfg, specFormatted fs fuel' p cfg with
    | .ok names, .ok ps => ∀ k, k ∈ names ↔ ∃ q, k = .real q ∧ q ∈ ps
    | .ok _, .error k' => k' = .fuel ∨ k' = .circular
    | .error k, .ok _ => k = .fuel
    | .error _, .error _ => True := by
  cases hnot : (cfg.skipChildren && cfg.ignored p) with
  | true => simp [formatProject, specFormatted, ignoreFile, hnot]
  | false =>
    rw [formatProject_file fs fuel p cfg skip g items hroot hnot]
    simp only [specFormatted, hnot, hroot, Bool.false_eq_true, if_false]
    obtain ⟨skipChildren, formatGenerated, ignored⟩ := cfg
    cases skipChildren with
    | true =>
      -- no recursion: the map is the entry of the input, the specification lists the input
      exact filter_matches_spec fs _ (p := p) (skip := skip) (ps := [])
        (m := [(.real p, ⟨items, skip, .real p⟩)]) (by simp [keys]) (by simp)
    | false =>
      have href := resolver_refines_spec_partial fs fuel p skip g items _ hplain hroot huniq hprobe
      have hm := resolver_matches_reachable_partial fs fuel fuel' p skip g items _ hplain hroot
        huniq hprobe
      simp only [Bool.not_false, Bool.false_eq_true, if_false]
      -- the four combinations of the two outcomes
      generalize visitCrate fs fuel (.real p) skip items _ true = rv at href hm ⊢
      generalize reachable fs fuel' p items _ = rr at hm ⊢
      cases rv
      all_goals cases rr
      · trivial
      · exact hm
      · exact hm
      · exact filter_matches_spec fs _ hm href.2.2

/-- In the proved fragment every entry of the map carries a module parsed from the file that is
its key (part of `resolver_refines_spec_partial`). With `cfg_attr(path)` this fails:

**Counter-example (data loss).** `lib.rs: mod a; #[cfg_attr(.., path = "b.rs")] mod a;` where `a.rs`
has `#![rustfmt::skip]`. The second `mod a;` finds `a.rs` already parsed (but not in the map, being
skipped) and inserts, under the key `a.rs`, a clone of the *declaration's* module: no items, span in
`lib.rs`. `format_file` then writes `lib.rs`'s text into `a.rs` (observed on the real binary). -/
theorem span_matches_key_counterexample :
    (visitCrate fsClone 5 (.real [libRs]) false (itemsAt fsClone [libRs]) .unownedViaBlock true).map
      (fun m => m.map fun e => (e.1, e.2.spanFile)) =
    .ok [(.real [bRs], .real [bRs]), (.real [aRs], .real [libRs]), (.real [libRs], .real [libRs])] := by
  decide +kernel

/-! ## Macro-based module discovery: `cfg_if!` / `cfg_match!`

Model: `RF/Model/ModMacros.lean` (`SItem` = declarations, macro calls with their blocks, other items,
unparsable tokens; `visitItemsS` … = the literal walk of `visit_mod_from_ast` / `visit_mod_outside_ast`
/ `visit_cfg_if` / `visit_cfg_match`; `discItems` = the list of `mod` items that walk visits;
`expItems` = the specification: what rustc has after expansion, over all `cfg` valuations, see the
header of the model file for the rule and its justification). -/

def yRs : Comp := ['y', '.', 'r', 's']
def zRs : Comp := ['z', '.', 'r', 's']
def y : Comp := ['y']

/-- **visit_cfg_if is a sibling walk.** For every recursion into loaded files, every state and every
item list: the walk of the code (a `mod` found in any block of a `cfg_if!`/`cfg_match!` call is handed
to `visit_sub_mod` under the directory of the call, with its own attributes; inline modules are
walked by the same loop; rejected macro bodies, nested calls and other items are passed over) is the
walk `visitItemsW` of the flat list `discItems`. -/
theorem visit_cfg_if_flattens (fs : FS) (rec : RecFn) (cur : FileName) (st : St)
    (items : List SItem) :
    visitItemsS fs rec cur st items = visitItemsW fs rec cur st (discItems items) :=
  visitItemsS_eq fs rec cur st items

/-- `visit_crate` on a tree with macro calls is `visit_crate` on the tree of discovered declarations
(by `visit_cfg_if_flattens` on the root). -/
theorem visit_crate_discovers (sfs : SFS) (fuel : Nat) (rootName : FileName) (rootSkip : Bool)
    (rootItems : List SItem) (own : Ownership) (recursive : Bool) :
    visitCrateS sfs fuel rootName rootSkip rootItems own recursive =
      visitCrate (codeFS sfs) fuel rootName rootSkip (discItems rootItems) own recursive := by
  unfold visitCrateS visitCrate
  simp only [visitItemsS_eq]
  cases recursive <;> rfl

/-- **What is visited is what the parser returned**: `parse_cfg_if` / `parse_cfg_match` give all
`mod` items of all blocks in source order, or nothing at all. -/
theorem discovered_is_parsed (sh : MacShape) (bs : List (List SItem)) :
    discItem (.cfgIf sh bs) = (match parseMacroBody sh bs with
      | some mods => discItems mods
      | none => []) ∧
    discItem (.cfgMatch sh bs) = (match parseMacroBody sh bs with
      | some mods => discItems mods
      | none => []) := by
  unfold parseMacroBody
  rw [discItem, discItem]
  split <;> simp [discBranches_flatten]

/-- Every block counts, not only the first; an outer `#[path]` / `#[rustfmt::skip]` of a `mod` in a
block is kept for `peek_sub_mod`; an inline module of a block keeps its content, macro calls inside
it discovered in turn. -/
example : discItems [.cfgIf .chain [[.ext x [.path ['w', '.', 'r', 's']], .other], [.ext y [.skip]],
      [.inline z [] [.cfgMatch .chain [[.ext w []]]]]]]
    = [.ext x [.path ['w', '.', 'r', 's']], .ext y [.skip], .inline z [] [.ext w []]] := rfl

/-- **On tame trees the code discovers what the specification expands** (every macro call a
well-formed chain, every block parses, no macro call directly inside a block). -/
theorem discovery_matches_expansion (items : List SItem) (h : tameItems items = true) :
    discItems items = expItems items :=
  disc_eq_exp.2.1 items h

example : tameItems [.cfgIf .chain [[.ext x [], .other], [.inline z [] [.cfgMatch .chain [[.ext w []]]]]]]
    = true := by decide +kernel

/-- lib.rs: `cfg_if! { if #[cfg(a)] { mod x; fn f() {} } else { mod y; mod x; } }`, x.rs: a
`cfg_match!` with `mod w;` in its second arm; x/w.rs, y.rs, a decoy z.rs. -/
def sfsGood : SFS :=
  [ ([libRs], .file false false [.cfgIf .chain [[.ext x [], .other], [.ext y [], .ext x []]]]),
    ([xRs], .file false false [.cfgMatch .chain [[], [.ext w []]]]),
    ([x, wRs], .file false false []),
    ([yRs], .file false false []),
    ([zRs], .file false false []) ]

def ctxsGoodS : List Ctx :=
  [rootGood, ⟨[xRs], .owned (some x)⟩, ⟨[x, wRs], .owned (some w)⟩, ⟨[yRs], .owned (some y)⟩]

/-- **resolver_refines_spec on trees with `cfg_if!` / `cfg_match!`, proved fragment.**  For a tame
tree whose expansion satisfies the three hypotheses of `resolver_refines_spec_partial`: the key set
of the file map `visit_crate` builds (walking macro bodies as the code does) is exactly the set of
files of the expanded crate — every `mod x;` of every block is reachable and resolves like a sibling
of the macro call —; or the fuel ran out, or some declaration of the expanded crate fails with the
kind the resolver reports.

Without `htame` the statement is false in both directions: see the three `_counterexample`s. -/
theorem resolver_refines_spec_macros_partial (sfs : SFS) (fuel : Nat) (root : Path)
    (rootSkip g : Bool) (rootItems : List SItem) (own : Ownership)
    (htame : sfsTame sfs = true) (htameRoot : tameItems rootItems = true)
    (hplain : fsPlain (specFS sfs))
    (hroot : nodeAt (specFS sfs) root = some (.file rootSkip g (expItems rootItems)))
    (huniq : UniqueOwnership false (specFS sfs) ⟨root, own⟩)
    (hprobe : ProbeAgrees (specFS sfs) ⟨root, own⟩) :
    match visitCrateS sfs fuel (.real root) rootSkip rootItems own true with
    | .ok m =>
      (∀ k, k ∈ keys m ↔ ∃ p own', k = .real p ∧ Reach false (specFS sfs) ⟨root, own⟩ ⟨p, own'⟩) ∧
      (∀ k, ¬ SpecErr false (specFS sfs) ⟨root, own⟩ k) ∧
      ∀ e ∈ m, e.2.spanFile = e.1 ∧ (e.2.innerSkip = true ↔ e.1 = .real root ∧ rootSkip = true)
    | .error k => k = .fuel ∨ SpecErr false (specFS sfs) ⟨root, own⟩ k := by
  rw [visit_crate_discovers, codeFS_eq_specFS sfs htame, discovery_matches_expansion rootItems htameRoot]
  exact resolver_refines_spec_partial (specFS sfs) fuel root rootSkip g (expItems rootItems) own
    hplain hroot huniq hprobe

/-- Non-vacuity: `sfsGood` satisfies the hypotheses; the resolver finds x.rs (declared in both
blocks), x/w.rs (second arm of a `cfg_match!`) and y.rs (`else` block), not the decoy. -/
example :
    sfsTame sfsGood = true ∧ fsPlain (specFS sfsGood) ∧
    UniqueOwnership false (specFS sfsGood) rootGood ∧ ProbeAgrees (specFS sfsGood) rootGood ∧
    (visitCrateS sfsGood 5 (.real [libRs]) false
        [.cfgIf .chain [[.ext x [], .other], [.ext y [], .ext x []]]] .unownedViaBlock true).map keys
      = .ok [.real [xRs], .real [x, wRs], .real [yRs], .real [libRs]] :=
  ⟨by decide +kernel, fsPlain_of_fsPlainB (by decide +kernel),
   unique_of_uniqueB (S := ctxsGoodS) (by decide +kernel) (by decide +kernel) (by decide +kernel),
   probeAgrees_of_B (S := ctxsGoodS) (by decide +kernel) (by decide +kernel) (by decide +kernel),
   by decide +kernel⟩

/-- The decidable check the driver runs (`mod.hyps`, field `macros`) is `htame`, which makes the
discovered tree the expanded one; with `hypsB` on the expanded tree it establishes `hplain`, `huniq`
and `hprobe` (`htameRoot` and `hroot` concern the input and are not part of the check). -/
theorem hyps_check_sound_macros (sfs : SFS) (rounds : Nat) (root : Path) (own : Ownership)
    (h : (sfsTame sfs && hypsB (specFS sfs) rounds root own) = true) :
    codeFS sfs = specFS sfs ∧ fsPlain (specFS sfs) ∧
    UniqueOwnership false (specFS sfs) ⟨root, own⟩ ∧ ProbeAgrees (specFS sfs) ⟨root, own⟩ := by
  rw [Bool.and_eq_true] at h
  exact ⟨codeFS_eq_specFS sfs h.1, hypsB_sound h.2⟩

example : (sfsTame sfsGood && hypsB (specFS sfsGood) 4 [libRs] .unownedViaBlock) = true := by
  decide +kernel

/-- **`mod.resolve` vs `mod.spec` on trees with macro calls** (what the harness compares through
`mod.resolvec` and `mod.oracle`): in the proved fragment the implementation model on the discovered
tree and the specification on the expanded tree list the same files when both succeed, and only
`fuel`/`circular` lets one succeed where the other fails. -/
theorem formatProject_matches_spec_macros_partial (sfs : SFS) (fuel fuel' : Nat) (p : Path)
    (cfg : Config) (skip g : Bool) (items : List Decl)
    (htame : sfsTame sfs = true)
    (hplain : fsPlain (specFS sfs))
    (hroot : nodeAt (specFS sfs) p = some (.file skip g items))
    (huniq : UniqueOwnership false (specFS sfs)
      ⟨p, (toDirectoryOwnership (specFS sfs) p).getD .unownedViaBlock⟩)
    (hprobe : ProbeAgrees (specFS sfs)
      ⟨p, (toDirectoryOwnership (specFS sfs) p).getD .unownedViaBlock⟩) :
    match formatProject (codeFS sfs) fuel (.file p) cfg, specFormatted (specFS sfs) fuel' p cfg with
    | .ok names, .ok ps => ∀ k, k ∈ names ↔ ∃ q, k = .real q ∧ q ∈ ps
    | .ok _, .error k' => k' = .fuel ∨ k' = .circular
    | .error k, .ok _ => k = .fuel
    | .error _, .error _ => True := by
  rw [codeFS_eq_specFS sfs htame]
  exact formatProject_matches_spec_partial (specFS sfs) fuel fuel' p cfg skip g items hplain hroot
    huniq hprobe

/-- lib.rs: `cfg_if! { if #[cfg(a)] { cfg_if! { if #[cfg(b)] { mod x; } } mod y; } }`, x.rs, y.rs. -/
def sfsNested : SFS :=
  [ ([libRs], .file false false [.cfgIf .chain [[.cfgIf .chain [[.ext x []]], .ext y []]]]),
    ([xRs], .file false false []),
    ([yRs], .file false false []) ]

/-- **Counter-example 1 (nested call).** A `cfg_if!` directly inside a block of a `cfg_if!` is an item
of kind `MacCall`, which `parse_cfg_if` drops: `mod x;` of the inner call is never visited and
x.rs is never formatted, although rustc compiles it when both `cfg`s hold. -/
theorem discovery_counterexample_nested :
    (visitCrateS sfsNested 5 (.real [libRs]) false
        [.cfgIf .chain [[.cfgIf .chain [[.ext x []]], .ext y []]]] .unownedViaBlock true).map keys
      = .ok [.real [yRs], .real [libRs]] ∧
    reachable (specFS sfsNested) 5 [libRs] (itemsAt (specFS sfsNested) [libRs]) .unownedViaBlock
      = .ok [[xRs], [yRs]] := by decide +kernel

/-- lib.rs: `cfg_if! { if #[cfg(a)] { mod x; } else { this is junk } }`, x.rs. -/
def sfsJunk : SFS :=
  [ ([libRs], .file false false [.cfgIf .chain [[.ext x []], [.junk]]]),
    ([xRs], .file false false []) ]

/-- **Counter-example 2 (all or nothing).** One block whose tokens `parse_item` rejects makes
`parse_cfg_if` return `Err`, and the `mod x;` already collected from the first block is thrown away
with it: x.rs is never formatted.  For rustc the `else` block is a token tree that is only parsed
when it is selected; with `a` set the crate compiles and contains x.rs. -/
theorem discovery_counterexample_junk_branch :
    (visitCrateS sfsJunk 5 (.real [libRs]) false [.cfgIf .chain [[.ext x []], [.junk]]]
        .unownedViaBlock true).map keys = .ok [.real [libRs]] ∧
    reachable (specFS sfsJunk) 5 [libRs] (itemsAt (specFS sfsJunk) [libRs]) .unownedViaBlock
      = .ok [[xRs]] := by decide +kernel

/-- lib.rs: `cfg_if! { if #[cfg(a)] { mod x; } else { mod y; } else { mod z; } }`. -/
def sfsLoose : SFS :=
  [ ([libRs], .file false false [.cfgIf .loose [[.ext x []], [.ext y []], [.ext z []]]]),
    ([xRs], .file false false []), ([yRs], .file false false []), ([zRs], .file false false []) ]

/-- **Counter-example 3 (the other direction).** `parse_cfg_if` accepts chains the macro itself
rejects (a second `else` block): the files are formatted although no `cfg` valuation makes them part
of a crate that compiles. -/
theorem discovery_counterexample_loose_chain :
    (visitCrateS sfsLoose 5 (.real [libRs]) false
        [.cfgIf .loose [[.ext x []], [.ext y []], [.ext z []]]] .unownedViaBlock true).map keys
      = .ok [.real [xRs], .real [yRs], .real [zRs], .real [libRs]] ∧
    reachable (specFS sfsLoose) 5 [libRs] (itemsAt (specFS sfsLoose) [libRs]) .unownedViaBlock
      = .ok [] := by decide +kernel

/-- **each_file_once with macro calls**: the same `mod x;` in two blocks (both name the same file), or
any other number of routes: one entry per path. -/
theorem each_file_once_macros (sfs : SFS) (fuel : Nat) (rootName : FileName) (rootSkip : Bool)
    (rootItems : List SItem) (own : Ownership) (recursive : Bool) (m : List (FileName × Mod))
    (h : visitCrateS sfs fuel rootName rootSkip rootItems own recursive = .ok m) :
    (keys m).Nodup := by
  rw [visit_crate_discovers] at h
  exact each_file_once _ _ _ _ _ _ _ _ h

/-- `cfg_if! { if #[cfg(a)] { mod x; } else { mod x; } }`: x.rs once.  The root items are an argument
of `visitCrateS`; of the tree only the file x.rs is consulted, so `sfsJunk` (which has it) serves. -/
example : (visitCrateS sfsJunk 5 (.real [libRs]) false [.cfgIf .chain [[.ext x []], [.ext x []]]]
    .unownedViaBlock true).map keys = .ok [.real [xRs], .real [libRs]] := by decide +kernel

/-- **directory_restored with macro calls**: after any item that is walked without error — a `mod`,
an inline module with macro calls inside, a `cfg_if!` / `cfg_match!` call with any number of blocks —
the resolver's directory is what it was, so the `mod`s of a block resolve like siblings of the call, independently of the
blocks before them. -/
theorem directory_restored_macros (fs : FS) (rec : RecFn) (cur : FileName) (st st' : St)
    (it : SItem) (h : visitItemS fs rec cur st it = .ok st') : st'.dir = st.dir := by
  rw [(visitS_eq fs rec cur).1 it st] at h
  exact directory_restored_items fs rec cur _ st st' h

theorem directory_restored_items_macros (fs : FS) (rec : RecFn) (cur : FileName)
    (items : List SItem) (st st' : St) (h : visitItemsS fs rec cur st items = .ok st') :
    st'.dir = st.dir := by
  rw [visitItemsS_eq] at h
  exact directory_restored_items fs rec cur _ st st' h

/-- **The fuel suffices.** In a tree without `cfg_attr(path)`, if every file the resolver loads is
named by one of the paths `keysL` (for a tree whose `#[path]` strings and input path have no
`.`/`..` detours: the keys of `fs`), then fuel `keysL.length` is enough: each load adds a new member
of `keysL` to the source map.  Without the hypothesis the code itself may not terminate:
`a.rs: #[path = "sub/../a.rs"] mod a;` loads `sub/../a.rs`, `sub/../sub/../a.rs`, … (the real
binary overflows its stack; the model answers `fuel`). -/
theorem fuel_suffices (fs : FS) (fuel : Nat) (root : Path) (rootSkip g : Bool)
    (rootItems : List Decl) (own : Ownership) (hplain : fsPlain fs)
    (hroot : nodeAt fs root = some (.file rootSkip g rootItems))
    (keysL : List Path) (hk : KeyedLocs fs ⟨root, own⟩ keysL) (hfuel : keysL.length ≤ fuel) :
    visitCrate fs fuel (.real root) rootSkip rootItems own true ≠ .error .fuel := by
  rw [visitCrate_plain fs hplain fuel root rootSkip g rootItems own hroot]
  intro h
  have := exploreFile_fuel fs ⟨root, own⟩ keysL hk (fuel + 1) ⟨[root], []⟩ root own rootSkip g
    rootItems hroot Reach.root (eq_error_of_map_eq_error h)
  exact absurd (Nat.le_trans this (countOut_le_length [root] keysL)) (by omega)

/-- **The fuel suffices, syntactic form.** If no module name, `#[path]` string or the input path
has a `.` or `..` component (and no `cfg_attr(path)`), then fuel = number of entries of the tree is
enough: the resolver terminates without a `fuel` outcome. -/
theorem fuel_suffices_dotfree (fs : FS) (fuel : Nat) (root : Path) (rootSkip g : Bool)
    (rootItems : List Decl) (own : Ownership) (hplain : fsPlain fs)
    (hroot : nodeAt fs root = some (.file rootSkip g rootItems))
    (hdot : fsDotFree fs = true) (hrootp : pathPlain root = true) (hown : ownPlain own = true)
    (hfuel : fs.length ≤ fuel) :
    visitCrate fs fuel (.real root) rootSkip rootItems own true ≠ .error .fuel :=
  fuel_suffices fs fuel root rootSkip g rootItems own hplain hroot (fs.map (·.1))
    (keyedLocs_of_dotFree hdot ⟨hrootp, hown⟩) (by simpa using hfuel)

example : fsDotFree fsGood = true ∧ pathPlain [libRs] = true ∧
    ownPlain .unownedViaBlock = true ∧ fsGood.length ≤ 5 := by decide +kernel

/-- Non-vacuity: `fsGood` with `keysL` = its five keys. -/
example : KeyedLocs fsGood rootGood (fsGood.map (·.1)) :=
  keyedLocs_of_B (S := ctxsGood) (by decide +kernel) (by decide +kernel) (by decide +kernel)

/-- `a.rs: #[path = "sub/../a.rs"] mod a;` with a directory `sub/`: fuel never suffices. -/
def fsLoop : FS :=
  [ ([aRs], .file false false [.ext a [.path ['s', 'u', 'b', '/', '.', '.', '/', 'a', '.', 'r', 's']]]),
    ([sub, xRs], .file false false []) ]

theorem fuel_counterexample_dotdot :
    visitCrate fsLoop 4 (.real [aRs]) false (itemsAt fsLoop [aRs]) .unownedViaBlock true
      = .error .fuel := eq_error_of_map_eq_error (f := keys) (by decide +kernel)

end RF.Props.C13

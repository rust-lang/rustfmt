import RF.Lemmas.Diff

/-!
# C12  Diff-based reports reconstruct the formatted text exactly

Theorems about `RF.Model.Diff` (the model of `make_diff`, `ModifiedLines`, the json / checkstyle
numbering and `XmlEscaped`).  Quantification: every edit script `ds` (hence every pair of texts
for which `diff::lines` returns a script with `lefts ds` = original lines and `rights ds` =
formatted lines — that assumption on the external crate is checked case by case by the
correspondence), every line type `α`, every context size.
-/
namespace RF.Props.C12
open RF.Diff

/-- `Consistent m orig new` (defined in `RF/Lemmas/Diff.lean` as `RF.Diff.Consistent`, so that the
lemmas and this file share it): hunk `m` is consistent with both texts at the line numbers it
states.  This theorem spells the definition out; it holds by unfolding. -/
theorem consistent_def {α} (m : Mismatch α) (orig new : List α) :
    Consistent m orig new ↔
      (∃ A T, orig = A ++ origSide m.lines ++ T ∧ A.length + 1 = m.lineNumberOrig) ∧
      (∃ A T, new = A ++ newSide m.lines ++ T ∧ A.length + 1 = m.lineNumber) :=
  Iff.rfl

/-- The executable oracle `consistentB` (what `diff.consistent` of the driver evaluates on the
hunks the real `make_diff` returned) decides exactly `Consistent`. -/
theorem consistentB_iff {α} [DecidableEq α] (m : Mismatch α) (orig new : List α) :
    consistentB m orig new = true ↔ Consistent m orig new := by
  simp only [consistentB, Consistent, RF.Lemmas.Diff.occurs_at_iff, Bool.and_eq_true,
    decide_eq_true_eq]
  constructor
  · rintro ⟨⟨⟨⟨⟨a, b⟩, c⟩, d⟩, e⟩, f⟩; exact ⟨⟨a, c, e⟩, ⟨b, d, f⟩⟩
  · rintro ⟨⟨a, c, e⟩, ⟨b, d, f⟩⟩; exact ⟨⟨⟨⟨⟨a, b⟩, c⟩, d⟩, e⟩, f⟩

/-- The chunks of the modified-lines report (context 0), applied to the original, yield the
formatted text line for line. -/
theorem apply_modified_lines {α} (ds : List (Edit α)) :
    apply (ofMismatches (makeDiff ds 0)) (lefts ds) = rights ds :=
  RF.Lemmas.Diff.apply_modified_lines ds

/-- Every hunk, for every context size, matches both texts at its stated line numbers. -/
theorem hunks_consistent {α} (ds : List (Edit α)) (ctx : Nat) :
    ∀ m ∈ makeDiff ds ctx, Consistent m (lefts ds) (rights ds) :=
  RF.Lemmas.Diff.hunks_consistent ds ctx

/-- Every hunk carries at least one removed or added line. -/
theorem hunks_nonempty {α} (ds : List (Edit α)) (ctx : Nat) :
    ∀ m ∈ makeDiff ds ctx, numRemoved m.lines + (newLines m.lines).length > 0 :=
  RF.Lemmas.Diff.makeDiff_nonEmpty ds ctx

/-- Hunks are ordered and do not overlap in the original text. -/
theorem hunks_ordered_disjoint {α} (ds : List (Edit α)) (ctx : Nat) :
    (makeDiff ds ctx).Pairwise
      (fun a b => a.lineNumberOrig + (origSide a.lines).length ≤ b.lineNumberOrig ∧
                  a.lineNumber + (newSide a.lines).length ≤ b.lineNumber) :=
  RF.Lemmas.Diff.hunks_ordered_disjoint ds ctx

/-- A report is empty exactly when the script has no insertion or deletion. -/
theorem empty_iff_no_change {α} (ds : List (Edit α)) (ctx : Nat) :
    makeDiff ds ctx = [] ↔ hasChange ds = false :=
  RF.Lemmas.Diff.empty_iff_no_change ds ctx

/-- A script without insertion or deletion relates equal line lists. -/
theorem no_change_same_lines {α} (ds : List (Edit α)) (h : hasChange ds = false) :
    lefts ds = rights ds :=
  RF.Lemmas.Diff.no_change_same_lines ds h

/-- The subtraction `line_number - context_queue.len()` never truncates: stated as "every
reported line number is at least 1". -/
theorem line_numbers_positive {α} (ds : List (Edit α)) (ctx : Nat) :
    ∀ m ∈ makeDiff ds ctx, 1 ≤ m.lineNumber ∧ 1 ≤ m.lineNumberOrig := by
  intro m hm
  obtain ⟨⟨A, _, _, hA⟩, ⟨A', _, _, hA'⟩⟩ := hunks_consistent ds ctx m hm
  omega

/-- The report survives printing and re-parsing. -/
theorem print_parse {α} (header : Sum (Nat × Nat × Nat) α → Option (Nat × Nat × Nat))
    (asText : Sum (Nat × Nat × Nat) α → α)
    (hh : ∀ h, header (Sum.inl h) = some h) (ht : ∀ s, asText (Sum.inr s) = s)
    (cs : List (Chunk α)) :
    parseChunks header asText (printChunks cs) = some cs :=
  RF.Lemmas.Diff.print_parse header asText hh ht cs

/-- The json report names the same line numbers and texts as the modified-lines chunks. -/
theorem json_lines_agree {α} (m : Mismatch α) :
    let b := jsonBlock m
    let c := toChunk m
    b.originalBeginLine = c.lineNumberOrig ∧ b.expected = c.lines ∧
    b.original = oldLines m.lines ∧ b.original.length = c.linesRemoved ∧ b.expectedBeginLine = m.lineNumber ∧
    (c.linesRemoved > 0 → b.originalEndLine + 1 = b.originalBeginLine + c.linesRemoved) ∧
    (c.lines.length > 0 → b.expectedEndLine + 1 = b.expectedBeginLine + c.lines.length) :=
  RF.Lemmas.Diff.json_lines_agree m

/-- The checkstyle report numbers the added lines of a hunk consecutively from its formatted
line number and carries the same texts as the chunk. -/
theorem checkstyle_lines_agree {α} (m : Mismatch α) :
    checkstyleLoop m.lineNumber 0 m.lines =
      (List.range (toChunk m).lines.length).zipWith (fun i s => (m.lineNumber + i, s))
        (toChunk m).lines :=
  RF.Lemmas.Diff.checkstyle_lines_agree m

/-- No raw XML-special character survives escaping, except the `&` that starts an entity. -/
theorem xmlEscape_safe (s : List Char) :
    ∀ c ∈ xmlEscape s, c ≠ '<' ∧ c ≠ '>' ∧ c ≠ '"' ∧ c ≠ '\'' :=
  RF.Lemmas.Diff.xmlEscape_safe s

/-- A conforming reader recovers the message exactly. -/
theorem xmlUnescape_escape (s : List Char) : xmlUnescape (xmlEscape s) = some s :=
  RF.Lemmas.Diff.xmlUnescape_escape s

/-! Non-vacuity: concrete scripts on which the statements say something. -/
example : makeDiff [Edit.both "a", .left "b", .right "c", .both "d"] 1 =
    [⟨1, 1, [.context "a", .resulting "b", .expected "c", .context "d"]⟩] := by decide +kernel
example : apply (ofMismatches (makeDiff [Edit.both 1, .left 2, .right 3, .both 4, .right 5] 0))
    [1, 2, 4] = [1, 3, 4, 5] := by decide +kernel
example : makeDiff [Edit.both 'a', .both 'b'] 3 = [] := by decide +kernel
/-- the hypothesis of `no_change_same_lines` holds of a non-empty script -/
example : hasChange [Edit.both 'a', .both 'b'] = false := by decide +kernel
/-- the hypotheses of `print_parse` are satisfiable: the evident reader of the symbolic lines -/
example : ∃ (header : Sum (Nat × Nat × Nat) Nat → Option (Nat × Nat × Nat))
    (asText : Sum (Nat × Nat × Nat) Nat → Nat),
    (∀ h, header (Sum.inl h) = some h) ∧ (∀ s, asText (Sum.inr s) = s) ∧
    parseChunks header asText (printChunks [⟨3, 1, [7, 8]⟩, ⟨9, 0, [5]⟩]) =
      some [⟨3, 1, [7, 8]⟩, ⟨9, 0, [5]⟩] :=
  ⟨fun | .inl h => some h | .inr _ => none, fun | .inr s => s | .inl _ => 0,
    fun _ => rfl, fun _ => rfl, print_parse _ _ (fun _ => rfl) (fun _ => rfl) _⟩
/-- `consistentB` accepts a right hunk and rejects one whose line number is off by one -/
example : consistentB ⟨2, 2, [.resulting 'b', .expected 'c']⟩ ['a', 'b', 'd'] ['a', 'c', 'd'] = true ∧
    consistentB ⟨2, 1, [.resulting 'b', .expected 'c']⟩ ['a', 'b', 'd'] ['a', 'c', 'd'] = false := by
  decide +kernel

end RF.Props.C12

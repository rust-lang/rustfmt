import RF.Lemmas.FileLines

/-!
# C17  file_lines confines changes to the selected code — the range algebra

Theorems about `RF.FileLines` (the model of `Range`, `normalize_ranges`, `FileLines` and of the
guard `out_of_file_lines_range!`).  Quantification: every list of ranges (any order, duplicates,
overlapping, adjacent, empty = inverted, any size), every line number, every file key type `α`
and every canonicalisation oracle `canon`.  A "line of a range" is `r.lo ≤ n ≤ r.hi`
(`Range.hasLine`), so an inverted range has no line.

What is *not* here: that every rewriter consults the guard (searched by the e2e oracle), and
F7 (a run of `use` items is rewritten as a whole when one of them is selected).
-/
namespace RF.Props.C17
open RF.FileLines RF.FileLines.Range

/-- `Range::intersects` says exactly "the two ranges share a line".  (For an empty range the code
returns `false`, and an empty range has no line, so no side condition is needed.) -/
theorem intersects_iff (a b : Range) :
    a.intersects b = true ↔ ∃ n, a.hasLine n = true ∧ b.hasLine n = true :=
  RF.Lemmas.FileLines.intersects_iff a b

/-- `Range::contains` says "every line of `other` is a line of `self`". -/
theorem contains_iff_subset (a b : Range) :
    a.contains b = true ↔ ∀ n, b.hasLine n = true → a.hasLine n = true := by
  rw [RF.Lemmas.FileLines.contains_iff]
  simp only [RF.Lemmas.FileLines.hasLine_iff]
  constructor
  · rintro (h | ⟨_, h1, h2⟩) n ⟨hn1, hn2⟩
    · exact absurd (Nat.le_trans hn1 hn2) (Nat.not_le.mpr h)
    · exact ⟨Nat.le_trans h1 hn1, Nat.le_trans hn2 h2⟩
  · intro h
    by_cases hb : b.hi < b.lo
    · exact Or.inl hb
    · have hb' := Nat.not_lt.mp hb
      have h1 := h b.lo ⟨Nat.le_refl _, hb'⟩
      have h2 := h b.hi ⟨hb', Nat.le_refl _⟩
      exact Or.inr ⟨Nat.le_trans h1.1 h1.2, h1.1, h2.2⟩

/-- When `merge` succeeds the result has exactly the lines of the two ranges. -/
theorem merge_is_union (a b m : Range) (h : a.merge b = some m) (n : Nat) :
    m.hasLine n = true ↔ a.hasLine n = true ∨ b.hasLine n = true :=
  RF.Lemmas.FileLines.merge_is_union a b m h n

/-- `merge` fails exactly when one range is empty or at least one unselected line separates
them; in particular two non-empty ranges whose union is an interval always merge. -/
theorem merge_fails_iff (a b : Range) :
    a.merge b = none ↔
      (a.isEmpty = true ∨ b.isEmpty = true ∨ a.hi + 1 < b.lo ∨ b.hi + 1 < a.lo) :=
  RF.Lemmas.FileLines.merge_none_iff a b

/-- `ranges.sort()` is modelled by an insertion sort; any list that is a sorted permutation of
the input (what every correct sorting algorithm returns) equals the model's. -/
theorem sort_unique (l out : List Range) (hs : out.Pairwise (fun a b => a.le b = true))
    (hp : out.Perm l) : out = sortRanges l :=
  RF.Lemmas.FileLines.sorted_perm_unique _ _ hs (RF.Lemmas.FileLines.sortRanges_sorted l)
    (hp.trans (RF.Lemmas.FileLines.sortRanges_perm l).symm)

/-- `normalize_ranges` selects exactly the lines of the given ranges: overlapping, adjacent,
duplicated, unordered, empty and inverted ranges all behave as their union. -/
theorem normalize_same_lines (rs : List Range) (n : Nat) :
    containsLine (normalizeRanges rs) n = true ↔ ∃ r ∈ rs, r.hasLine n = true :=
  RF.Lemmas.FileLines.normalize_same_lines rs n

/-- The documented invariant of `FileLines` ("non-overlapping ranges sorted by their start
point") holds, and more (no two are adjacent, none is empty) — when no given range is empty. -/
theorem normalize_sorted_disjoint_partial (rs : List Range) (h : ∀ r ∈ rs, r.isEmpty = false) :
    (normalizeRanges rs).Pairwise (fun a b => a.hi + 1 < b.lo) ∧
    ∀ r ∈ normalizeRanges rs, r.isEmpty = false :=
  RF.Lemmas.FileLines.normalize_sorted_disjoint rs h

example : ∀ r ∈ [(⟨5, 7⟩ : Range), ⟨1, 3⟩, ⟨4, 4⟩, ⟨10, 12⟩, ⟨11, 20⟩], r.isEmpty = false := by decide +kernel
example : normalizeRanges [⟨5, 7⟩, ⟨1, 3⟩, ⟨4, 4⟩, ⟨10, 12⟩, ⟨11, 20⟩] = [⟨1, 7⟩, ⟨10, 20⟩] := by decide +kernel

/-- The hypothesis is needed: an empty (inverted) range that sorts between two overlapping ranges
blocks their merge, the output keeps the empty range and two overlapping ranges.  The invariant
stated in the source comment is false for `[1,3], [2,0], [3,5]`. -/
theorem normalize_sorted_disjoint_counterexample :
    normalizeRanges [⟨1, 3⟩, ⟨3, 5⟩, ⟨2, 0⟩] = [⟨1, 3⟩, ⟨2, 0⟩, ⟨3, 5⟩] ∧
    ¬ (normalizeRanges [⟨1, 3⟩, ⟨3, 5⟩, ⟨2, 0⟩]).Pairwise (fun a b => a.hi + 1 < b.lo) ∧
    normalizeRanges [⟨1, 3⟩, ⟨3, 5⟩] = [⟨1, 5⟩] := by
  decide +kernel

/-- On the normalised list, `contains_range lo hi` (used by the missed-span writer for comments
and blank lines) answers "every line of `lo..=hi` is selected" — when no given range is empty and
the query is not empty. -/
theorem containsRange_iff_partial (rs : List Range) (h : ∀ r ∈ rs, r.isEmpty = false)
    (lo hi : Nat) (hle : lo ≤ hi) :
    containsRange (normalizeRanges rs) lo hi = true ↔
      ∀ n, lo ≤ n → n ≤ hi → ∃ r ∈ rs, r.hasLine n = true :=
  RF.Lemmas.FileLines.containsRange_iff_of_nonempty rs h lo hi hle

example : containsRange (normalizeRanges [⟨4, 6⟩, ⟨1, 3⟩]) 2 5 = true := by decide +kernel
example : containsRange (normalizeRanges [⟨5, 6⟩, ⟨1, 3⟩]) 2 5 = false := by decide +kernel

/-- … and it is false without the first hypothesis: with `[1,3], [2,0], [3,5]` every line of
`2..=4` is selected (`contains_line` says so) but `contains_range 2 4` is `false`; without the
empty range it is `true`.  So here the selection does *not* behave as the union of its ranges. -/
theorem containsRange_counterexample :
    (∀ n, 2 ≤ n → n ≤ 4 → containsLine (normalizeRanges [⟨1, 3⟩, ⟨2, 0⟩, ⟨3, 5⟩]) n = true) ∧
    containsRange (normalizeRanges [⟨1, 3⟩, ⟨2, 0⟩, ⟨3, 5⟩]) 2 4 = false ∧
    containsRange (normalizeRanges [⟨1, 3⟩, ⟨3, 5⟩]) 2 4 = true := by
  refine ⟨?_, by decide +kernel, by decide +kernel⟩
  intro n h1 h2
  have : n = 2 ∨ n = 3 ∨ n = 4 := by omega
  rcases this with rfl | rfl | rfl <;> decide +kernel

/-- An empty query range is "contained" exactly when the file has at least one range (so not for
a file that is absent from the selection, although every line of the empty query is selected). -/
theorem containsRange_empty_query (rs : List Range) (lo hi : Nat) (hlt : hi < lo) :
    containsRange (normalizeRanges rs) lo hi = true ↔ rs ≠ [] := by
  rw [RF.Lemmas.FileLines.containsRange_iff]
  constructor
  · rintro ⟨r, hr, _⟩ hnil
    subst hnil
    simp [normalizeRanges, sortRanges] at hr
  · intro hne
    have : normalizeRanges rs ≠ [] :=
      fun h => hne ((RF.Lemmas.FileLines.normalize_eq_nil_iff rs).mp h)
    obtain ⟨r, t, heq⟩ := List.exists_cons_of_ne_nil this
    refine ⟨r, by simp [heq], ?_⟩
    rw [RF.Lemmas.FileLines.contains_iff]
    exact .inl hlt

/-- `intersects` on any list of ranges: some line of `lo..=hi` is selected. -/
theorem intersectsRange_iff (rs : List Range) (lo hi : Nat) :
    intersectsRange rs lo hi = true ↔ ∃ n, lo ≤ n ∧ n ≤ hi ∧ containsLine rs n = true :=
  RF.Lemmas.FileLines.intersectsRange_iff rs lo hi

/-- `hi + 1` in `adjacent_to` cannot overflow when every upper bound is below `usize::MAX`:
the checked normalisation then returns the unchecked one. -/
theorem normalize_no_overflow_partial (rs : List Range) (h : ∀ r ∈ rs, r.hi < usizeMax) :
    normalizeRangesChecked rs = some (normalizeRanges rs) := by
  have h' : ∀ r ∈ sortRanges rs, r.hi < usizeMax :=
    fun r hr => h r ((RF.Lemmas.FileLines.mem_sortRanges r rs).mp hr)
  unfold normalizeRangesChecked normalizeRanges
  split
  · rfl
  · rename_i r rest heq
    rw [heq] at h'
    exact RF.Lemmas.FileLines.mergeLoopChecked_eq r rest (h' r List.mem_cons_self)
      (fun x hx => h' x (List.mem_cons_of_mem _ hx))

example : ∀ r ∈ [(⟨1, 2⟩ : Range), ⟨5, 2 ^ 64 - 2⟩], r.hi < usizeMax := by decide +kernel

/-- With an upper bound of `usize::MAX` ("to the end of the file") and a second range for the
same file, a build with overflow checks panics in `adjacent_to`. -/
theorem normalize_overflow_counterexample :
    normalizeRangesChecked [⟨1, 2⟩, ⟨5, 2 ^ 64 - 1⟩] = none := by
  decide +kernel

/-! ### The decidable oracles the driver evaluates on the implementation's output -/

/-- `unionRange` decides "every line of `lo..=hi` is in some given range". -/
theorem unionRange_iff (rs : List Range) (lo hi : Nat) :
    unionRange rs lo hi = true ↔ ∀ n, lo ≤ n → n ≤ hi → ∃ r ∈ rs, r.hasLine n = true :=
  RF.Lemmas.FileLines.unionRange_iff rs lo hi

/-- `unionMeets` decides "some line of `lo..=hi` is in some given range". -/
theorem unionMeets_iff (rs : List Range) (lo hi : Nat) :
    unionMeets rs lo hi = true ↔ ∃ n, lo ≤ n ∧ n ≤ hi ∧ ∃ r ∈ rs, r.hasLine n = true :=
  RF.Lemmas.FileLines.unionMeets_iff rs lo hi

/-- `sortedDisjoint` decides the conclusion of `normalize_sorted_disjoint_partial`. -/
theorem sortedDisjoint_iff (l : List Range) :
    sortedDisjoint l = true ↔
      l.Pairwise (fun a b => a.hi + 1 < b.lo) ∧ ∀ r ∈ l, r.isEmpty = false :=
  RF.Lemmas.FileLines.sortedDisjoint_iff l

/-- The three query methods against the oracles, in the form the harness checks them: for raw
ranges `rs` without an empty one, and a non-empty query. -/
theorem queries_eq_oracles_partial (rs : List Range) (h : ∀ r ∈ rs, r.isEmpty = false)
    (lo hi n : Nat) (hle : lo ≤ hi) :
    containsLine (normalizeRanges rs) n = containsLine rs n ∧
    containsRange (normalizeRanges rs) lo hi = unionRange rs lo hi ∧
    intersectsRange (normalizeRanges rs) lo hi = unionMeets rs lo hi ∧
    sortedDisjoint (normalizeRanges rs) = true := by
  refine ⟨RF.Lemmas.FileLines.containsLine_normalize rs n, ?_, ?_, ?_⟩
  · rw [Bool.eq_iff_iff, containsRange_iff_partial rs h lo hi hle, unionRange_iff]
  · rw [Bool.eq_iff_iff, intersectsRange_iff, unionMeets_iff]
    simp only [normalize_same_lines]
  · rw [sortedDisjoint_iff]; exact normalize_sorted_disjoint_partial rs h

/-! ### `FileLines` and the guard -/

section
variable {α : Type} [DecidableEq α]

/-- `FileLines::from_ranges` followed by `contains_line`: a line of a file is selected exactly
when one of the ranges given for that file (after canonicalisation of the name) has it. -/
theorem fromRanges_selects_union (m : List (α × List Range)) (canon : α → Option α) (file : α)
    (n : Nat) :
    (FileLines.fromRanges m).containsLine canon file n = true ↔
      ∃ r ∈ RF.Lemmas.FileLines.rangesOf m canon file, r.hasLine n = true := by
  unfold FileLines.fromRanges RF.FileLines.FileLines.containsLine
  rw [RF.Lemmas.FileLines.fileRangeMatches_map, RF.Lemmas.FileLines.rangesOf_fromRanges]
  exact normalize_same_lines _ n

/-- The guard `out_of_file_lines_range!` is true exactly when a selection was given and no line
of the span's line range is selected. -/
theorem guard_iff_no_intersection (fl : FileLines α) (canon : α → Option α)
    (range : LineRange α) :
    outOfFileLinesRange fl canon range = true ↔
      fl.isAll = false ∧
      ¬ ∃ n, range.lo ≤ n ∧ n ≤ range.hi ∧ fl.containsLine canon range.file n = true := by
  cases fl with
  | all => simp [outOfFileLinesRange, FileLines.isAll]
  | map m =>
    simp only [outOfFileLinesRange, FileLines.isAll, Bool.not_false, Bool.true_and,
      Bool.not_eq_true', true_and, FileLines.intersects, RF.Lemmas.FileLines.map_containsLine,
      RF.Lemmas.FileLines.fileRangeMatches_map]
    rw [← Bool.not_eq_true]
    exact not_congr (intersectsRange_iff _ range.lo range.hi)

/-- The guard is true for every span of a file that the selection does not name,
that cannot be canonicalised, or that has an empty list of ranges. -/
theorem unnamed_file_formats_nothing (m : List (α × List Range)) (canon : α → Option α)
    (range : LineRange α) (h : RF.Lemmas.FileLines.rangesOf m canon range.file = []) :
    outOfFileLinesRange (.map m) canon range = true := by
  simp [outOfFileLinesRange, FileLines.isAll, FileLines.intersects,
    RF.Lemmas.FileLines.fileRangeMatches_map, h]

/-- In particular an empty selection (`--file-lines '[]'`) makes the guard true for every span of every file:
nothing is formatted. -/
theorem empty_selection_formats_nothing (canon : α → Option α) (range : LineRange α) :
    outOfFileLinesRange (FileLines.fromRanges ([] : List (α × List Range))) canon range = true :=
  unnamed_file_formats_nothing [] canon range (by
    simp only [RF.Lemmas.FileLines.rangesOf, RF.FileLines.lookup]
    cases canon range.file <;> rfl)

example : RF.Lemmas.FileLines.rangesOf [("a.rs", [(⟨1, 2⟩ : Range)])] some "b.rs" = [] := by decide +kernel
example : outOfFileLinesRange (FileLines.fromRanges [("a.rs", [⟨4, 6⟩, ⟨1, 3⟩])]) some
    ⟨"a.rs", 7, 9⟩ = true := by decide +kernel
example : outOfFileLinesRange (FileLines.fromRanges [("a.rs", [⟨4, 6⟩, ⟨1, 3⟩])]) some
    ⟨"a.rs", 6, 9⟩ = false := by decide +kernel

/-- With no selection (`FileLines::all`) the guard is never true. -/
theorem all_never_out (canon : α → Option α) (range : LineRange α) :
    outOfFileLinesRange (FileLines.all : FileLines α) canon range = false := rfl

end

/-- `lookup_line_range` adds the same offset to both ends: 1 (lines are 1-based), plus 1 when
the snippet starts with a newline — also to the upper end. -/
theorem lookupLineRange_offsets {α} (file : α) (loLine hiLine : Nat) (nl : Bool) :
    (lookupLineRange file loLine hiLine nl).lo = loLine + 1 + (if nl then 1 else 0) ∧
    (lookupLineRange file loLine hiLine nl).hi = hiLine + 1 + (if nl then 1 else 0) := by
  simp only [lookupLineRange]; omega

end RF.Props.C17

import RF.Lemmas.Session
import RF.Gen.State

/-!
# C15  Output is a function of source and configuration only

Theorems about `RF.Model.Session`: the `Session`, `ReportedErrors::add`, `override_config`,
`format_and_emit_report`, the `for file in files` loop of `format` (src/bin/main.rs) and the exit formulas.

The formatter proper is a parameter `F : Config κ → ι → ρ × Option Flags`: it is handed the effective
configuration and the input and nothing else.  Every theorem below is for **all** `F`, all
configurations, all command lines.  That the real `format_project` has no other input is the recorded
assumption; what the code side offers for it is the inventory `RF.Gen.State`, regenerated from the
source on every run, and `state_inventory_is_pinned` stops checking when that inventory grows.

Finding (shared with C05): a path whose local configuration fails to load makes `format` return at once
(`load_config(..)?`, main.rs:358-359); the paths after it are never formatted.  Therefore the multiset of
per-file results is **not** order-independent (`order_irrelevant_counterexample`); the exit status is.
-/
namespace RF.Props.C15
open RF.Session RF.Lemmas.Session

variable {κ ι ρ : Type}

/-- **Frame property, command line.**  Whatever was formatted before it on the same command line, what
the loop records for path number `i` (output, report, or "missing") is what a run on that path alone
records. -/
theorem session_frame (F : Config κ → ι → ρ × Option Flags) (g : Config κ) (usePath : Bool)
    (args : List (Arg κ ι)) (i : Nat) (e : Entry ρ)
    (h : (runCli F g usePath args).entries[i]? = some e) :
    ∃ a, args[i]? = some a ∧ (runCli F g usePath [a]).entries = [e] := by
  rw [runCli_entries] at h
  obtain ⟨a, ha, hao⟩ := pureLoop_getElem F g usePath args i e h
  refine ⟨a, ha, ?_⟩
  rw [runCli_entries, pureLoop_single, hao]

/-- … and every path is recorded, up to the first one whose configuration fails to load: either the loop
ran to the end and there is one entry per path, or it was aborted and the path at the position where
the entries stop is one that aborts a run on it alone. -/
theorem session_frame_coverage (F : Config κ → ι → ρ × Option Flags) (g : Config κ) (usePath : Bool)
    (args : List (Arg κ ι)) :
    let r := runCli F g usePath args
    (r.aborted = false ∧ r.entries.length = args.length) ∨
    (r.aborted = true ∧ ∃ a, args[r.entries.length]? = some a ∧ (runCli F g usePath [a]).aborted = true) := by
  simp only [runCli_entries, runCli_aborted]
  rcases pureLoop_length F g usePath args with h | ⟨h, a, ha, hao⟩
  · left; exact h
  · right; exact ⟨h, a, ha, by rw [pureLoop_single, hao]⟩

/-- **Frame property, API session.**  `Session::format` called on a sequence of inputs under one
configuration: output number `i` is the output of a fresh session on input `i`, whatever flags the session
had accumulated. -/
theorem session_frame_api (F : Config κ → ι → ρ × Option Flags) (s : Session κ) (inputs : List ι) :
    (formatAll F s inputs).2 = inputs.map fun i => (formatInput F (Session.new s.config) i).2 := by
  rw [(formatAll_eq F inputs s).1]
  apply List.map_congr_left
  intro i _
  rw [formatInput_snd]; rfl

/-- `override_config` puts the session's configuration back: after the loop body for any path (local
configuration loaded or not, formatter failing or not) the session has the configuration it had before. -/
theorem config_restored (F : Config κ → ι → ρ × Option Flags) (usePath : Bool) (s s' : Session κ)
    (a : Arg κ ι) (e : Entry ρ) (h : argStep F usePath s a = some (s', e)) : s'.config = s.config := by
  rw [argStep_eq] at h
  cases ho : argOut F s.config usePath a with
  | none => rw [ho] at h; cases h
  | some e0 => rw [ho] at h; simp at h; rw [← h.1]

/-- … and so after the whole loop. -/
theorem config_restored_loop (F : Config κ → ι → ρ × Option Flags) (usePath : Bool) (s : Session κ)
    (args : List (Arg κ ι)) : (cliLoop F usePath s args).sess.config = s.config := by
  rw [(cliLoop_eq F usePath args s).2.2]

/-- `override_config` itself: whatever the closure does to the session (including assigning
`config`), the configuration afterwards is the one saved by the first swap. -/
theorem override_config_restores {α : Type} (s : Session κ) (c : Config κ) (f : Session κ → Session κ × α) :
    (overrideConfig s c f).1.config = s.config := rfl

/-- **Exit status.**  The exit status of `rustfmt p₁ … pₙ` is the maximum of the exit statuses of
`rustfmt pᵢ` (0 for the empty command line), in check mode and in normal mode. The real formula is
`operational ∨ parsing ∨ ((diff ∨ check_errors) ∧ --check)`, a monotone function of flags that are only
OR-ed; an aborted run exits 1 and so does the run on the aborting path alone. -/
theorem exit_is_max (F : Config κ → ι → ρ × Option Flags) (g : Config κ) (usePath check : Bool)
    (args : List (Arg κ ι)) :
    (runCli F g usePath args).exit check =
      (args.map fun a => (runCli F g usePath [a]).exit check).foldr max 0 := by
  rw [exit_eq_pure, RF.Lemmas.Session.exit_is_max]
  congr 1
  apply List.map_congr_left
  intro a _
  rw [exit_eq_pure]

/-- Which flags decide: `has_operational_errors`, `has_parsing_errors` always; `has_diff` and
`has_check_errors` only under `--check`; `has_formatting_errors`, `has_macro_format_failure` and
`has_unformatted_code_errors` never (on their own — `track_errors` sets `operational` next to them for
line-overflow and trailing-whitespace). -/
theorem exit_formula (check : Bool) (f : Flags) :
    exitFormat check f = 1 ↔ (f.operational = true ∨ f.parsing = true ∨ (check = true ∧ (f.diff = true ∨ f.check = true))) := by
  unfold exitFormat
  split
  · next h => simpa [and_comm, or_assoc] using h
  · next h => simpa [and_comm, or_assoc] using h

/-- the exit status is 0 or 1 -/
theorem exit_le_one (check : Bool) (f : Flags) : exitFormat check f ≤ 1 := exitFormat_le_one check f

/-- Standard input: `has_diff` is not consulted even under `--check` (F4). -/
theorem exit_stdin_ignores_diff (f : Flags) : exitStdin { f with diff := true, check := true } = exitStdin f := rfl

/-- **Order, exit status.**  Any permutation of the command line exits with the same status. -/
theorem order_irrelevant_exit (F : Config κ → ι → ρ × Option Flags) (g : Config κ) (usePath check : Bool)
    (args args' : List (Arg κ ι)) (h : args.Perm args') :
    (runCli F g usePath args).exit check = (runCli F g usePath args').exit check := by
  rw [exit_is_max, exit_is_max]
  exact foldr_max_perm (h.map _)

/-- **Order, results (partial).**  If no path fails to load its configuration (no run on a single path
is aborted), any permutation of the command line records the same multiset of per-file results. -/
theorem order_irrelevant_partial (F : Config κ → ι → ρ × Option Flags) (g : Config κ) (usePath : Bool)
    (args args' : List (Arg κ ι)) (h : args.Perm args')
    (hok : ∀ a ∈ args, (runCli F g usePath [a]).aborted = false) :
    (runCli F g usePath args).entries.Perm (runCli F g usePath args').entries := by
  have hn : noAbort F g usePath args := by
    intro a ha hnone
    have := hok a ha
    rw [runCli_aborted, pureLoop_single, hnone] at this
    cases this
  have hn' : noAbort F g usePath args' := fun a ha => hn a (h.mem_iff.2 ha)
  rw [runCli_entries, runCli_entries, (pureLoop_noAbort F g usePath args hn).1,
    (pureLoop_noAbort F g usePath args' hn').1]
  exact h.filterMap _

/-- The unrestricted statement is false: with a path whose local configuration is malformed, the
order decides whether the *other* path is formatted at all. -/
theorem order_irrelevant_counterexample :
    ¬ (∀ (F : Config Unit → Nat → Nat × Option Flags) (g : Config Unit) (usePath : Bool)
        (args args' : List (Arg Unit Nat)), args.Perm args' →
        (runCli F g usePath args).entries.Perm (runCli F g usePath args').entries) := by
  intro h
  have := h (fun _ i => (i, some Flags.none)) ⟨true, false, ()⟩ false
    [.file none 0, .file (some ⟨true, false, ()⟩) 1] [.file (some ⟨true, false, ()⟩) 1, .file none 0]
    (List.Perm.swap _ _ _)
  have hl := this.length_eq
  revert hl
  decide

/-- **Flags only grow.**  `ReportedErrors::add` ORs; nothing clears a flag: one more input leaves every
flag that was set, set. -/
theorem flags_monotone (F : Config κ → ι → ρ × Option Flags) (s : Session κ) (i : ι) :
    s.errors.le (formatAndEmitReport F s i).1.errors = true := by
  rw [formatAndEmitReport_fst]; exact le_add _ _

/-- … over the whole loop too, and the final flags are exactly the OR of the initial ones with those of
the recorded entries. -/
theorem flags_monotone_loop (F : Config κ → ι → ρ × Option Flags) (usePath : Bool) (s : Session κ)
    (args : List (Arg κ ι)) :
    s.errors.le (cliLoop F usePath s args).sess.errors = true ∧
    (cliLoop F usePath s args).sess.errors =
      s.errors.add ((cliLoop F usePath s args).entries.foldr (fun e acc => e.flags.add acc) Flags.none) := by
  obtain ⟨h1, _, h3⟩ := cliLoop_eq F usePath args s
  rw [h3, h1]
  exact ⟨le_add _ _, rfl⟩

/-- `ReportedErrors::add` is the field-wise OR of the seven flags: commutative, associative,
idempotent, with `default()` as unit — the order and multiplicity in which reports are merged is immaterial. -/
theorem add_is_or (a b c : Flags) :
    a.add b = b.add a ∧ (a.add b).add c = a.add (b.add c) ∧ a.add a = a ∧ a.add Flags.none = a ∧
    (a.add b).toList = List.zipWith (· || ·) a.toList b.toList :=
  ⟨add_comm a b, add_assoc a b c, add_self a, add_none a, rfl⟩

/-! ## The state inventory

`RF.Gen.State` lists, from the current source, everything that outlives the formatting of one input.
-/

/-- The classes of process-wide statics that cannot carry information from one input to the next:

* a `static_regex!(<literal>)` site: a `OnceLock<Regex>` initialised on first use from a pattern that is a
  literal in the source.  Whether it is initialised depends on the history, its *value* does not: every
  `get_or_init` returns `Regex::new(<the same literal>)`, and a compiled `Regex` is used through `&self`
  methods only.
* the `RE` static *inside the definition* of the `static_regex!` macro in `src/lib.rs`: the same thing, seen
  once more by the scan because the macro body is source text (each expansion has its own `RE`).
* a `static NAME: &str = "…"`: an immutable string constant (no `mut`, no interior mutability). -/
def allowedStatic (e : String × String × String) : Bool :=
  (e.2.1 == "static_regex!" && e.2.2 == "OnceLock<Regex> cache of a literal pattern") ||
  (e.1 == "src/lib.rs" && e.2.1 == "RE" && e.2.2 == "::std::sync::OnceLock<::regex::Regex>") ||
  (e.2.2 == "&str")

/-- **The inventory is what the frame theorem assumes.**

* `Session` has exactly the fields `config` (modelled; restored by `override_config`), `out` (the
  caller's writer: written, never read), `errors` (modelled; only OR-ed, read by the accessors and the exit
  formula, not by `format_project`), `source_file` (pushed to in `handle_formatted_file`, read only under
  `#[cfg(test)]`), `emitter` (its accumulators decide separators between entries, not the entries).
* `ReportedErrors` has exactly the seven Boolean flags of `RF.Session.Flags`, in this order.
* every static in `src/` belongs to one of the three classes of `allowedStatic`; no `static mut`, no
  `thread_local!`, no `lazy_static!`.

A new `Session` field, a new flag, or a new static (a cache keyed by file name, say) changes the generated
lists and this theorem stops checking. -/
theorem state_inventory_is_pinned :
    RF.Gen.State.sessionFields.map (·.1) = ["config", "out", "errors", "source_file", "emitter"] ∧
    RF.Gen.State.reportedErrorsFields =
      ["has_operational_errors", "has_parsing_errors", "has_formatting_errors",
       "has_macro_format_failure", "has_check_errors", "has_diff", "has_unformatted_code_errors"] ∧
    RF.Gen.State.statics.all allowedStatic = true := by
  decide +kernel

/-- **The accumulating session state is write-only while formatting.**  Inside `impl Session` of
`src/formatting.rs` (format_input_inner, handle_formatted_file) the list of files emitted so far is only
`push`ed to and the error flags are only `add`ed (OR-ed) to; neither is read, so what input number `i`
produces cannot depend on the inputs before it.  In `src/lib.rs` the flags are read only by the public
getters (and set by `add_operational_error`).  A new access - `self.source_file.iter()`, a test of
`self.errors.has_diff` before emitting - changes the generated list and this stops checking. -/
theorem session_state_write_only :
    RF.Gen.State.sessionUses.filter (·.1 = "src/formatting.rs") =
      [("src/formatting.rs", "errors", "add"), ("src/formatting.rs", "source_file", "push")] ∧
    ∀ u ∈ RF.Gen.State.sessionUses.filter (·.1 = "src/lib.rs"),
      u.2.1 = "errors" ∧ u.2.2 ∈ RF.Gen.State.reportedErrorsFields := by
  decide +kernel

/-- **The command-line loop carries no state of its own.**  In `format` of `src/bin/main.rs` the only mutable
binding that is alive across the iterations of `for file in files` is the `Session` (whose accumulating fields are
write-only, see above); the configuration of a path is looked up afresh by `load_config` in every iteration.  A
cache of configurations keyed by directory, a "previous project" remembered between iterations or any other
`let mut` in front of the loop changes the generated list and this stops checking. -/
theorem cli_loop_state_is_pinned :
    (RF.Gen.State.cliLoopBindings.filter (·.2)).map (·.1) = ["session"] ∧
    "load_config" ∈ RF.Gen.State.cliLoopCalls := by
  decide +kernel

/-- the model's `Flags` has one field per generated `ReportedErrors` field -/
theorem flags_match_inventory (f : Flags) :
    f.toList.length = RF.Gen.State.reportedErrorsFields.length := by
  show 7 = _; decide

/-! ## Non-vacuity -/

/-- a formatter that reports a diff for odd inputs and fails (`Err`) on input 7 -/
def demoF : Config Unit → Nat → Nat × Option Flags :=
  fun _ i => (i * 10, if i = 7 then none else some { diff := i % 2 = 1 })

def demoCfg : Config Unit := ⟨true, false, ()⟩

/-- `session_frame` on a command line with a missing path, a failing input and a local configuration
whose `required_version` does not match: three entries, all different, each equal to its singleton run. -/
example : (runCli demoF demoCfg false [.missing, .file (some demoCfg) 7, .file (some ⟨false, false, ()⟩) 3]).entries =
    [.missing, .formatted ⟨some 70, none⟩, .formatted ⟨none, none⟩] := by decide

/-- `exit_is_max` in check mode: one clean file, one with a diff -/
example : (runCli demoF demoCfg true [.file none 2, .file none 3]).exit true = 1 ∧
    (runCli demoF demoCfg true [.file none 2]).exit true = 0 ∧
    (runCli demoF demoCfg true [.file none 3]).exit true = 1 ∧
    (runCli demoF demoCfg true [.file none 2, .file none 3]).exit false = 0 := by decide

/-- the hypothesis of `order_irrelevant_partial` holds of a command line with a failing input -/
example : ∀ a ∈ [Arg.file (some demoCfg) 7, .file (some demoCfg) 3, Arg.missing],
    (runCli demoF demoCfg false [a]).aborted = false := by decide

/-- the hypothesis of `config_restored` holds with a local configuration different from the session's,
and the session's configuration is back afterwards while the formatter saw the local one (`versionOk = false`
⇒ `Err` ⇒ operational flag) -/
example : argStep demoF false (Session.new demoCfg) (.file (some ⟨false, true, ()⟩) 3) =
    some (⟨demoCfg, { operational := true }⟩, .formatted ⟨none, none⟩) := rfl

/-- an aborted run: nothing is recorded for the second and third path -/
example : (runCli demoF demoCfg false [.file (some demoCfg) 2, .file none 3, .file (some demoCfg) 4]).entries.length = 1 ∧
    (runCli demoF demoCfg false [.file (some demoCfg) 2, .file none 3, .file (some demoCfg) 4]).exit false = 1 := by decide

end RF.Props.C15

import RF.Lemmas.Shape

/-!
# C16 (arithmetic part)  The `Shape` / `Indent` API of shape.rs

`RF.Model.Shape` gives every operation of shape.rs a result type that says how it can end:
a plain value (cannot fail), `Option` / `Except ExceedsMaxWidthError` (the recoverable "does not fit"
of the `*_opt` / `Result` API), or `Except Panic` (the dev build aborts).  Only these are typed
`Except Panic`:

    Indent::from_width, Indent::block_unindent, Indent::to_string, Indent::to_string_with_newline,
    Indent::to_string_inner, Indent - Indent, Indent - usize, Shape::to_string_with_newline

`checked_api_total` shows that all of them except the two subtractions return normally for every input
once `tab_spaces ≥ 1`; `panicking_api_exact` gives, for each one that can panic, the exact set of inputs
on which it does.  Everything else in shape.rs (`new`, `empty`, `block_only`, `block_indent`, `width`,
`Indent + Indent`, `Indent + usize`, `legacy`, `indented`, `with_max_width`, `visual_indent`,
`block_indent`, `block_left`, `add_offset`, `block`, `saturating_sub_width`, `sub_width(_opt)`,
`shrink_left(_opt)`, `offset_left(_opt)`, `used_width`, `rhs_overhead`, `comment`, `infinite_width`,
`exceeds_max_width_error`) uses only `+`, `*`, `min`, `saturating_sub`, `checked_sub`, so it is a total
function in the model by construction; `checked_api_exact` states what the fallible ones return.
`usize` overflow of `+`/`*` is out of scope (values below 2^63).
-/
namespace RF.Props.C16shape
open RF.Shape

/-- Every `Except Panic`-typed operation other than the two `Sub` impls returns normally for all
inputs when `tab_spaces ≥ 1` (and `to_string_inner` never slices `INDENT_BUFFER` out of range for the
two offsets it is called with). -/
theorem checked_api_total (c : Config) (hts : 1 ≤ c.tab_spaces) (i : Indent) (s : Shape) (w : Nat) :
    (∃ r, Indent.from_width c w = .ok r) ∧
    (∃ r, i.block_unindent c = .ok r) ∧
    (∃ r, i.to_string c = .ok r) ∧
    (∃ r, i.to_string_with_newline c = .ok r) ∧
    (∃ r, i.to_string_inner c 0 = .ok r) ∧
    (∃ r, i.to_string_inner c 1 = .ok r) ∧
    (∃ r, s.to_string_with_newline c = .ok r) :=
  ⟨⟨_, RF.Lemmas.Shape.from_width_ok c w (fun _ => hts)⟩,
   ⟨_, RF.Lemmas.Shape.block_unindent_ok i c⟩,
   ⟨_, RF.Lemmas.Shape.to_string_eq i c (fun _ => hts)⟩,
   ⟨_, RF.Lemmas.Shape.to_string_with_newline_eq i c (fun _ => hts)⟩,
   ⟨_, RF.Lemmas.Shape.to_string_inner_eq i c 0 (Or.inl rfl) (fun _ => hts)⟩,
   ⟨_, RF.Lemmas.Shape.to_string_inner_eq i c 1 (Or.inr rfl) (fun _ => hts)⟩,
   ⟨_, RF.Lemmas.Shape.shape_to_string_with_newline_eq s c (fun _ => hts)⟩⟩

example : (1 : Nat) ≤ (Config.mk true 4 100 80).tab_spaces := by decide

/-- `block_unindent` is guarded and cannot panic whatever the configuration. -/
theorem block_unindent_total (i : Indent) (c : Config) : ∃ r, i.block_unindent c = .ok r :=
  ⟨_, RF.Lemmas.Shape.block_unindent_ok i c⟩

/-- The complete list of operations of shape.rs that can panic, each with its exact precondition:
  * `Indent - Indent`: a field of the left operand is smaller than that of the right one;
  * `Indent - usize`: the alignment is smaller than the subtrahend;
  * `Indent::from_width`: `hard_tabs` with `tab_spaces = 0` (division by zero);
  * `Indent::to_string`, `Indent::to_string_with_newline`, `Shape::to_string_with_newline`: the same;
  * the private `to_string_inner` at an arbitrary `offset`: the same, or the static-buffer slice
    `INDENT_BUFFER[offset..=n]` with `offset > n + 1` (impossible for the offsets 0 and 1 it is called
    with). -/
theorem panicking_api_exact (a b : Indent) (s : Shape) (n off w : Nat) (c : Config) :
    (a.sub b = .error .subOverflow ↔
        (a.block_indent < b.block_indent ∨ a.alignment < b.alignment)) ∧
    (a.sub b = .ok ⟨a.block_indent - b.block_indent, a.alignment - b.alignment⟩ ↔
        (b.block_indent ≤ a.block_indent ∧ b.alignment ≤ a.alignment)) ∧
    (a.sub_usize n = .error .subOverflow ↔ a.alignment < n) ∧
    (a.sub_usize n = .ok ⟨a.block_indent, a.alignment - n⟩ ↔ n ≤ a.alignment) ∧
    (Indent.from_width c w = .error .divByZero ↔ (c.hard_tabs = true ∧ c.tab_spaces = 0)) ∧
    ((∃ e, a.to_string c = .error e) ↔ (c.hard_tabs = true ∧ c.tab_spaces = 0)) ∧
    ((∃ e, a.to_string_with_newline c = .error e) ↔ (c.hard_tabs = true ∧ c.tab_spaces = 0)) ∧
    ((∃ e, s.to_string_with_newline c = .error e) ↔ (c.hard_tabs = true ∧ c.tab_spaces = 0)) ∧
    ((∃ e, a.to_string_inner c off = .error e) ↔
      (c.hard_tabs = true ∧ c.tab_spaces = 0) ∨
      ((c.hard_tabs = true → c.tab_spaces ≠ 0) ∧
        (if c.hard_tabs then a.block_indent / c.tab_spaces = 0 ∧ a.alignment + off ≤ 80 ∧
            a.alignment + 1 < off
         else a.width + off ≤ 80 ∧ a.width + 1 < off))) := by
  refine ⟨RF.Lemmas.Shape.indent_sub_error_iff a b, RF.Lemmas.Shape.indent_sub_ok_iff a b,
    RF.Lemmas.Shape.indent_sub_usize_error_iff a n, RF.Lemmas.Shape.indent_sub_usize_ok_iff a n,
    RF.Lemmas.Shape.from_width_error_iff c w, ?_, ?_, ?_,
    RF.Lemmas.Shape.to_string_inner_error_iff a c off⟩
  · have := RF.Lemmas.Shape.to_string_inner_error_iff a c 1
    simp only [Indent.to_string, this]
    cases c.hard_tabs <;> simp <;> omega
  · have := RF.Lemmas.Shape.to_string_inner_error_iff a c 0
    simp only [Indent.to_string_with_newline, this]
    cases c.hard_tabs <;> simp
  · have := RF.Lemmas.Shape.to_string_inner_error_iff { s.indent with alignment := s.offset } c 0
    simp only [Shape.to_string_with_newline, this]
    cases c.hard_tabs <;> simp

/-- One instance of each failure of `panicking_api_exact`. -/
example : (Indent.mk 4 0).sub (Indent.mk 8 0) = .error .subOverflow := by decide
example : (Indent.mk 4 2).sub_usize 3 = .error .subOverflow := by decide
example : Indent.from_width ⟨true, 0, 100, 80⟩ 7 = .error .divByZero := by decide
example : (Indent.mk 0 0).to_string_inner ⟨false, 4, 100, 80⟩ 5 = .error .sliceIndex := by decide

/-- What the fallible (non-panicking) width operations return: they fail exactly when `delta` exceeds
the width, the error carries the current width, and on success the fields are as computed. -/
theorem checked_api_exact (s : Shape) (d : Nat) :
    (s.sub_width_opt d = if s.width < d then none else some { s with width := s.width - d }) ∧
    (s.shrink_left_opt d = if s.width < d then none else
        some ⟨s.width - d, ⟨s.indent.block_indent, s.indent.alignment + d⟩, s.offset + d⟩) ∧
    (s.offset_left_opt d = if s.width < d then none else
        some ⟨s.width - d, s.indent, s.offset + d⟩) ∧
    (s.sub_width d = if s.width < d then .error ⟨s.width⟩ else .ok { s with width := s.width - d }) ∧
    (s.shrink_left d = if s.width < d then .error ⟨s.width⟩ else
        .ok ⟨s.width - d, ⟨s.indent.block_indent, s.indent.alignment + d⟩, s.offset + d⟩) ∧
    (s.offset_left d = if s.width < d then .error ⟨s.width⟩ else
        .ok ⟨s.width - d, s.indent, s.offset + d⟩) ∧
    (s.block_left d = if s.width < d then .error ⟨s.width⟩ else
        .ok { s.block_indent d with width := s.width - d }) := by
  have hbi : (s.block_indent d).width = s.width := by
    unfold Shape.block_indent; split <;> rfl
  by_cases h : s.width < d
  · simp [Shape.sub_width_opt, Shape.shrink_left_opt, Shape.offset_left_opt, Shape.sub_width,
      Shape.shrink_left, Shape.offset_left, Shape.block_left, Shape.add_offset, checkedSub,
      Shape.exceeds_max_width_error, hbi, h]
  · simp [Shape.sub_width_opt, Shape.shrink_left_opt, Shape.offset_left_opt, Shape.sub_width,
      Shape.shrink_left, Shape.offset_left, Shape.block_left, Shape.add_offset, checkedSub,
      Indent.add_usize, Indent.new, hbi, h]

/-- Saturating operations never exceed their input and are exact when there is room. -/
theorem saturating_api (s : Shape) (i : Indent) (c : Config) (d : Nat) :
    (s.saturating_sub_width d).width = s.width - d ∧
    (Shape.indented i c).width = c.max_width - i.width ∧
    (s.with_max_width c).width = c.max_width - s.indent.width ∧
    s.rhs_overhead c = c.max_width - (s.indent.block_indent + s.offset + s.width) ∧
    (s.comment c).width = min s.width (c.comment_width - s.indent.width) := by
  refine ⟨rfl, rfl, rfl, rfl, rfl⟩

end RF.Props.C16shape

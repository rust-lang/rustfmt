import RF.Lemmas.Literal
/-!
# C01 (mechanism): the literal-spelling rewrites keep the value of the literal

`rewrite_float_lit` (`float_literal_trailing_zero`) and `rewrite_int_lit` (`hex_literal_case`) are the only places where
rustfmt synthesises the text of a literal instead of copying it from the source.  The theorems are about
`RF.Lit.rewriteFloatLit` / `rewriteIntLit` (`RF/Model/Literal.lean`), for EVERY symbol and suffix (not only well-formed
ones) and every value of the two options; the model is tied to the code by the correspondence `lit.float` / `lit.int`
of the C01 check (the real formatter is run on `let _ = <literal>;` and on literals inside macro calls).

"Same value": the output, re-read by the same parser, has the same *denotation* `FloatDen` — integer digits, fractional
digits without trailing zeros, exponent, all without `_` — and the same suffix.
-/
namespace RF.Props.C01lit
open RF.Lit RF.Lemmas.Literal

theorem rewrite_eq (mode : TrailingZero) (hm : mode ≠ .preserve) (symbol suffix : List Char) (p : FloatParts)
    (hp : parseFloatSymbol symbol = some p) :
    rewriteFloatLit mode symbol suffix =
      some (p.integerPart ++ (if (floatChoice mode p suffix).1 then ['.'] else []) ++
        (if (floatChoice mode p suffix).2 then p.fractionalPart.getD ['0'] else []) ++ p.exponent.getD [] ++ suffix) :=
  rewriteFloatLit_eq mode hm symbol suffix p hp

/-- fractional digits are printed only behind a point -/
theorem frac_implies_point (mode : TrailingZero) (p : FloatParts) (suffix : List Char) :
    (floatChoice mode p suffix).1 = false → (floatChoice mode p suffix).2 = false := by
  cases mode <;> simp [floatChoice] <;> intros <;> simp_all

/-- **The rewritten float literal denotes the same number.**  Whenever `rewrite_float_lit` synthesises a spelling
(`some out`), the symbol was a float symbol `p`, `out` is a body followed by the untouched suffix, and the body re-parses
to parts with the same denotation as `p`. -/
theorem rewriteFloat_value (mode : TrailingZero) (symbol suffix out : List Char)
    (h : rewriteFloatLit mode symbol suffix = some out) :
    ∃ p body p', parseFloatSymbol symbol = some p ∧ out = body ++ suffix ∧
      parseFloatSymbol body = some p' ∧ p'.den = p.den := by
  have hm : mode ≠ .preserve := by intro hm; subst hm; simp [rewriteFloatLit] at h
  cases hp : parseFloatSymbol symbol with
  | none => cases mode <;> simp [rewriteFloatLit, hp] at h
  | some p =>
    have wf := parse_wf hp
    rw [rewrite_eq mode hm symbol suffix p hp] at h
    simp only [Option.some.injEq] at h
    generalize hc : floatChoice mode p suffix = ch at h
    have hpt := frac_implies_point mode p suffix
    rw [hc] at hpt
    obtain ⟨point, inc⟩ := ch
    simp only at h hpt
    let frac : List Char := if inc then p.fractionalPart.getD ['0'] else []
    have hfr : frac.all isDigU = true := by
      show (if inc then p.fractionalPart.getD ['0'] else []).all isDigU = true
      split
      · cases hf : p.fractionalPart with
        | none => decide
        | some f => simpa using (wf.fp_ok f hf).1
      · rfl
    have hpf : point = false → frac = [] := by
      intro hpnt
      show (if inc then p.fractionalPart.getD ['0'] else []) = []
      rw [hpt hpnt]; rfl
    have hrender := parse_render p.integerPart frac point p.exponent wf.ip_all wf.ip_ne hfr hpf wf.ex_ok
    refine ⟨p, p.integerPart ++ (if point then '.' :: frac else []) ++ p.exponent.getD [], _, rfl, ?_, hrender, ?_⟩
    · rw [← h]
      cases point with
      | true => simp [frac]
      | false => simp [frac, hpt rfl]
    · -- denotations
      show FloatDen.mk _ _ _ = FloatDen.mk _ _ _
      congr 1
      show dropTrailingZeros (stripUnderscores ((if frac.isEmpty then none else some frac).getD [])) =
        dropTrailingZeros (stripUnderscores (p.fractionalPart.getD []))
      have hget : (if frac.isEmpty then none else some frac).getD [] = frac := by
        cases hfe : frac with
        | nil => rfl
        | cons x xs => rfl
      rw [hget]
      cases inc with
      | true =>
        show dropTrailingZeros (stripUnderscores (p.fractionalPart.getD ['0'])) = _
        cases p.fractionalPart with
        | none => decide
        | some f => rfl
      | false =>
        show dropTrailingZeros (stripUnderscores []) = _
        -- the fractional part that is dropped is zero
        have hz : p.isFractionalPartZero = true := by
          have h2 : (floatChoice mode p suffix).2 = false := by rw [hc]
          cases mode with
          | preserve => exact absurd rfl hm
          | always => simp [floatChoice] at h2
          | ifNoPostfix => simp [floatChoice] at h2; exact h2.1
          | never => simpa [floatChoice] using h2
        unfold FloatParts.isFractionalPartZero at hz
        cases hf : p.fractionalPart with
        | none => rfl
        | some f =>
          rw [hf] at hz
          simp only [Bool.and_eq_true] at hz
          rw [Option.getD_some, zeros_den f hz.2]
          rfl

/-- **The rewritten literal is still a float literal**: it keeps a point, an exponent or a suffix (so `1.0` never
becomes the integer literal `1`). -/
theorem rewriteFloat_stays_float (mode : TrailingZero) (symbol suffix out : List Char) (p : FloatParts)
    (hp : parseFloatSymbol symbol = some p) (h : rewriteFloatLit mode symbol suffix = some out) :
    (∃ a b, out = a ++ '.' :: b) ∨ p.exponent.isSome = true ∨ suffix ≠ [] := by
  have hm : mode ≠ .preserve := by intro hm; subst hm; simp [rewriteFloatLit] at h
  rw [rewrite_eq mode hm symbol suffix p hp] at h
  simp only [Option.some.injEq] at h
  by_cases hpt : (floatChoice mode p suffix).1 = true
  · left
    rw [hpt] at h
    refine ⟨p.integerPart, (if (floatChoice mode p suffix).2 then p.fractionalPart.getD ['0'] else []) ++
      p.exponent.getD [] ++ suffix, ?_⟩
    rw [← h]; simp
  · right
    have : (floatChoice mode p suffix).1 = false := by simpa using hpt
    cases mode <;> simp [floatChoice] at this
    · exact absurd rfl hm
    all_goals
      obtain ⟨-, h2⟩ := this
      cases he : p.exponent with
      | some e => left; rfl
      | none => right; exact h2 he

/-- Non-vacuity, and the three modes on the same literals (`1.0`, `1.0e5`, `1.50_f32` spelt `1.50_` + `f32`, `1.`). -/
example : rewriteFloatLit .never "1.0".toList [] = some "1.".toList ∧
    rewriteFloatLit .never "1.0e5".toList [] = some "1e5".toList ∧
    rewriteFloatLit .ifNoPostfix "1.0".toList "f32".toList = some "1f32".toList ∧
    rewriteFloatLit .always "1e5".toList [] = some "1.0e5".toList ∧
    rewriteFloatLit .always "1.".toList [] = some "1.0".toList ∧
    rewriteFloatLit .never "1.50_".toList "f32".toList = some "1.50_f32".toList ∧
    rewriteFloatLit .never "3.0_".toList "f32".toList = some "3f32".toList ∧
    rewriteFloatLit .always "0b1".toList "f32".toList = none ∧
    rewriteFloatLit .preserve "1.0".toList [] = none := by decide +kernel

/-- the judge is not vacuous: a spelling with another value has another denotation -/
example : (⟨"1".toList, some "50".toList, none⟩ : FloatParts).den ≠ (⟨"1".toList, some "05".toList, none⟩ : FloatParts).den ∧
    (⟨"1".toList, some "50".toList, none⟩ : FloatParts).den = (⟨"1".toList, some "5_000".toList, none⟩ : FloatParts).den := by
  decide +kernel

/-! ## hex_literal_case -/

theorem hexDigitVal_upper (c : Char) : hexDigitVal (upperAscii c) = hexDigitVal c := (upperAscii_hex c).1

theorem hexDigitVal_lower (c : Char) : hexDigitVal (lowerAscii c) = hexDigitVal c := (lowerAscii_hex c).1

theorem upper_underscore (c : Char) : (upperAscii c != '_') = (c != '_') := (upperAscii_hex c).2

theorem lower_underscore (c : Char) : (lowerAscii c != '_') = (c != '_') := (lowerAscii_hex c).2

theorem hexValue_map (f : Char → Char) (hv : ∀ c, hexDigitVal (f c) = hexDigitVal c)
    (hu : ∀ c, (f c != '_') = (c != '_')) (r : List Char) : hexValue (r.map f) = hexValue r := by
  unfold hexValue stripUnderscores
  have : ∀ (a : Nat), ((r.map f).filter (· != '_')).foldl (fun a c => a * 16 + hexDigitVal c) a =
      (r.filter (· != '_')).foldl (fun a c => a * 16 + hexDigitVal c) a := by
    induction r with
    | nil => intro a; rfl
    | cons x xs ih =>
      intro a
      simp only [List.map_cons, List.filter_cons, hu x]
      split
      · simp only [List.foldl_cons, hv x]; exact ih _
      · exact ih a
  exact this 0

/-- **`hex_literal_case` keeps the value**: whenever `rewrite_int_lit` synthesises a spelling of a literal that is not a
float, the symbol was `0x…`, the output is `0x` + the re-cased digits + the untouched suffix, and the digits have the
same value (for every symbol, hex digits or not). -/
theorem rewriteInt_hex_value (hex : HexCase) (fz : TrailingZero) (symbol suffix out : List Char)
    (hs : isSemanticFloatSuffix suffix = false) (h : rewriteIntLit hex fz symbol suffix = some out) :
    ∃ r r', symbol = '0' :: 'x' :: r ∧ out = '0' :: 'x' :: r' ++ suffix ∧ r'.length = r.length ∧
      hexValue r' = hexValue r := by
  unfold rewriteIntLit at h
  simp only [hs, Bool.false_eq_true, if_false] at h
  split at h
  · rename_i r
    cases hex with
    | preserve => simp at h
    | upper =>
      simp only [Option.some.injEq] at h
      exact ⟨r, r.map upperAscii, rfl, h.symm, by simp, hexValue_map _ hexDigitVal_upper upper_underscore r⟩
    | lower =>
      simp only [Option.some.injEq] at h
      exact ⟨r, r.map lowerAscii, rfl, h.symm, by simp, hexValue_map _ hexDigitVal_lower lower_underscore r⟩
  · simp at h

/-- an `Integer` token with a float suffix goes through the float rewriter (`1f32` → `1.0f32` under Always) -/
theorem rewriteInt_semantic_float (hex : HexCase) (fz : TrailingZero) (symbol suffix : List Char)
    (hs : isSemanticFloatSuffix suffix = true) :
    rewriteIntLit hex fz symbol suffix = rewriteFloatLit fz symbol suffix := by
  simp [rewriteIntLit, hs]

example : rewriteIntLit .upper .preserve "0xdead_beef".toList "u32".toList = some "0xDEAD_BEEFu32".toList ∧
    rewriteIntLit .lower .preserve "0xDEADbeef".toList [] = some "0xdeadbeef".toList ∧
    rewriteIntLit .upper .preserve "0b1010".toList [] = none ∧
    rewriteIntLit .upper .always "1".toList "f32".toList = some "1.0f32".toList ∧
    hexValue "DEAD_beef".toList = 3735928559 := by decide +kernel

end RF.Props.C01lit

import RF.Lemmas.Emit

/-!
# C06  Check mode is read-only and exact; all emit modes agree on the text

Theorems about `RF/Model/Emit.lean` and the GENERATED tables `RF.Gen.Emitters.fsOps` /
`createEmitter` (from `src/lib.rs::create_emitter` and `src/emitter/*.rs`).  If a write is added
to another emitter, an arm of `create_emitter` changes, or an op is added under the guard, the
generated file changes and these stop checking.

Assumption on the external `diff` crate (`ScriptOk`, checked per case by the correspondence): the
script's sides are the line lists of the two texts and it is all-`both` when they are equal.
-/
namespace RF.Props.C06
open RF.Gen.Emitters RF.Diff RF.Emit RF.Backup

/-- paths an op touches -/
def touched : FsOp → List P
  | .write d => [d]
  | .rename s d => [s, d]
  | .remove p => [p]
  | .copy s d => [s, d]

/-- **only_files_emitters_write.**  An emitter makes a file-system call only in `Files` mode;
the plain one touches only the file itself, and the only path either of them *writes bytes to*
is the file (plain) or the `.tmp` sibling (backup) — the `.bk` is only ever a rename target. -/
theorem only_files_emitters_write :
    (∀ mode backup, fsOps (createEmitter mode backup) ≠ [] → mode = .files) ∧
    (∀ kind, fsOps kind ≠ [] → kind = .files ∨ kind = .filesWithBackup) ∧
    (∀ op ∈ fsOps .files, ∀ p ∈ touched op, p = .file) ∧
    (∀ op ∈ fsOps .filesWithBackup, ∀ d, op = .write d → d = .tmp) ∧
    (∀ op ∈ fsOps .filesWithBackup, ∀ s d, op ≠ .copy s d ∧ op ≠ .remove d) := by
  refine ⟨?_, ?_, by decide, ?_, ?_⟩
  · intro mode backup; cases mode <;> cases backup <;> decide
  · intro kind; cases kind <;> decide
  · intro op hop d h; subst h; revert hop; cases d <;> decide
  · intro op hop s d
    simp only [fsOps, List.mem_cons, List.mem_nil_iff, or_false] at hop
    rcases hop with rfl | rfl | rfl <;> simp

/-- Every non-`Files` mode, hence `--check` (which is `Diff`, see `check_is_diff`), stdout, json,
checkstyle, modified-lines and coverage, makes no file-system call, with or without `--backup`,
for every input. -/
theorem non_files_modes_read_only {α} (mode : EmitMode) (backup : Bool) (cfg : Cfg) (i : Input α)
    (h : mode ≠ .files) : (emit (createEmitter mode backup) cfg i).ops = [] := by
  rw [RF.Lemmas.Emit.emit_ops]
  apply RF.Lemmas.Backup.guardedOps_eq_nil
  cases mode <;> first | exact absurd rfl h | (cases backup <;> rfl)

/-- **files_touch_iff_differs.**  The ops an emitter performs on a file are non-empty exactly when
it is one of the two `Files` emitters and the formatted text differs from the original text it
was given; and a file whose text is unchanged is left exactly as it was (no op = contents and
modification time untouched, no `.bk`). -/
theorem files_touch_iff_differs {α} (kind : EmitterKind) (cfg : Cfg) (i : Input α) :
    ((emit kind cfg i).ops ≠ [] ↔
      (kind = .files ∨ kind = .filesWithBackup) ∧ i.orig ≠ i.fmt) ∧
    (i.orig = i.fmt → ∀ (fs s : Fs P Char),
      Reachable id i.fmt (emit kind cfg i).ops fs s → s = fs) := by
  rw [RF.Lemmas.Emit.emit_ops]
  by_cases e : i.orig = i.fmt
  · rw [e, RF.Lemmas.Backup.guardedOps_self]
    exact ⟨by simp, fun _ fs s r => RF.Lemmas.Backup.reachable_nil id i.fmt fs s r⟩
  · rw [RF.Lemmas.Backup.guardedOps_of_ne _ e]
    exact ⟨by cases kind <;> simp [e, fsOps], fun h => absurd h e⟩

/-- `--check` selects the Diff emitter when files are given as paths, provided no
`--config emit_mode=…` is passed; on standard input it always does. -/
theorem check_is_diff (c : Cli) (b : Base) (hc : c.check = true) :
    (c.inlineEmit = none → (applyTo c b).kind = .diff) ∧
    (∀ r, stdinResolve c b = .ok r → r.kind = .diff) := by
  constructor
  · intro hi
    simp [applyTo, Resolved.kind, hc, hi, createEmitter]
  · intro r hr
    simp only [stdinResolve, hc, if_true, Except.ok.injEq] at hr
    subst hr
    simp [Resolved.kind, createEmitter]

/-- `--emit` and `--check` together are refused. -/
theorem emit_check_exclusive (nightly : Bool) (s : List Char) (bk l q v : Bool)
    (ie : Option EmitMode) (ib : Option Bool) :
    fromMatches nightly true (some s) bk l q v ie ib = .error .emitAndCheck ∨
    fromMatches nightly true (some s) bk l q v ie ib = .error .verboseAndQuiet := by
  unfold fromMatches parseEmit
  by_cases h : (v && q) = true <;> simp [h]

/-- `--emit` can only name files, stdout, coverage, checkstyle or json: never `Diff` or
`ModifiedLines` (those are reached through `--check` or the configuration). -/
theorem emit_values (s : List Char) (m : EmitMode) (h : emitModeFromStr s = some m) :
    m ≠ .diff ∧ m ≠ .modifiedLines := by
  -- one step through the chain of `if … then some a else …`, which is known to return `some m`
  have step : ∀ {c : Prop} [Decidable c] {a m : EmitMode} {o : Option EmitMode},
      (if c then some a else o) = some m → a = m ∨ o = some m := by
    intro c _ a m o h
    split at h
    · exact Or.inl (Option.some.inj h)
    · exact Or.inr h
  unfold emitModeFromStr at h
  iterate 5 (rcases step h with rfl | h; · decide)
  cases h

/-- **check_read_only_counterexample (C06-F21).**  `rustfmt --check --config emit_mode=files f.rs`:
`apply_to` applies the `--config` pairs after `--check` has set `Diff`, so the Files emitter runs,
the file IS rewritten, and because that emitter never reports `has_diff` the exit status is 0. -/
theorem check_read_only_counterexample :
    let c : Cli := ⟨true, none, false, false, false, false, some .files, none⟩
    let i : Input Nat := ⟨['a'], ['b'], [.left 0, .right 1]⟩
    let r := applyTo c Base.default
    r.kind = .files ∧ (emit r.kind r.cfg i).ops = [.write .file] ∧
    exitFormat c.check ⟨false, false, false, false, false, sessionDiff r.kind r.cfg [i], false⟩ = 0 := by
  decide +kernel

/-- **check_read_only_partial.**  With `--check`, files given as paths and no
`--config emit_mode=…`, no file-system call is made for any input, with or without `--backup`,
`-l`, `--quiet`, whatever the configuration file says. -/
theorem check_read_only_partial {α} (c : Cli) (b : Base) (i : Input α) (hc : c.check = true)
    (hi : c.inlineEmit = none) : (emit (applyTo c b).kind (applyTo c b).cfg i).ops = [] := by
  rw [(check_is_diff c b hc).1 hi, RF.Lemmas.Emit.emit_ops]
  exact RF.Lemmas.Backup.guardedOps_eq_nil rfl _ _

/-- On standard input nothing is ever written: the mode is forced to one of Diff, Stdout,
Checkstyle, Json after the configuration is loaded, whatever `--config` or the file says. -/
theorem stdin_read_only {α} (c : Cli) (b : Base) (r : Resolved) (i : Input α)
    (h : stdinResolve c b = .ok r) : (emit r.kind r.cfg i).ops = [] := by
  have hm : r.emitMode ≠ .files := by
    unfold stdinResolve at h
    split at h
    · simp only [Except.ok.injEq] at h; subst h; simp
    · split at h <;> first | (simp only [Except.ok.injEq] at h; subst h; simp) | simp at h
  exact non_files_modes_read_only r.emitMode r.makeBackup r.cfg i hm

/-- **diff_hasDiff_iff.**  The Diff emitter reports `has_diff` exactly when the two texts differ
(the newline-style-only branch included), given the diff-crate assumption in its weakest form:
equal texts give an all-`both` script. -/
theorem diff_hasDiff_iff {α} (cfg : Cfg) (i : Input α)
    (h : i.orig = i.fmt → hasChange i.script = false) :
    (emit .diff cfg i).hasDiff = true ↔ i.orig ≠ i.fmt :=
  RF.Lemmas.Emit.diff_hasDiff_iff cfg i h

/-- `ScriptOk` implies the hypothesis of `diff_hasDiff_iff`. -/
theorem scriptOk_weak {α} (lines : List Char → List α) (i : Input α) (h : ScriptOk lines i) :
    i.orig = i.fmt → hasChange i.script = false :=
  fun e => h.all_both (by rw [e])

/-- **check_exact_paths.**  Files given as paths, `--check`, no `--config emit_mode`, and no
operational / parsing / check error flag: the exit status is 1 exactly when some emitted file's
formatted text differs from its original text, which is exactly when plain `rustfmt` (the Files
emitter, with or without `--backup`) would perform a write on at least one of them; else 0. -/
theorem check_exact_paths {α} (c : Cli) (b : Base) (files : List (Input α)) (f : Flags)
    (hc : c.check = true) (hi : c.inlineEmit = none)
    (hs : ∀ i ∈ files, i.orig = i.fmt → hasChange i.script = false)
    (hop : f.operational = false) (hpa : f.parsing = false) (hck : f.checkErrors = false)
    (hd : f.diff = sessionDiff (applyTo c b).kind (applyTo c b).cfg files) :
    (exitCode false c b f = 1 ↔ ∃ i ∈ files, i.orig ≠ i.fmt) ∧
    (exitCode false c b f = 1 ↔ ∃ i ∈ files, ∀ cfg bk,
        (emit (createEmitter .files bk) cfg i).ops ≠ []) ∧
    (exitCode false c b f = 0 ∨ exitCode false c b f = 1) := by
  have hk := (check_is_diff c b hc).1 hi
  have hdiff : f.diff = true ↔ ∃ i ∈ files, i.orig ≠ i.fmt := by
    rw [hd, hk, sessionDiff, List.any_eq_true]
    exact exists_congr fun i => and_congr_right fun hi => diff_hasDiff_iff _ i (hs i hi)
  have h1 : exitCode false c b f = 1 ↔ ∃ i ∈ files, i.orig ≠ i.fmt := by
    rw [← hdiff]
    cases hfd : f.diff <;> simp [exitCode, exitFormat, hop, hpa, hck, hc, hfd]
  refine ⟨h1, ?_, ?_⟩
  · rw [h1]
    constructor
    · rintro ⟨i, hi, hne⟩
      refine ⟨i, hi, fun cfg bk => ?_⟩
      rw [(files_touch_iff_differs _ cfg i).1]
      exact ⟨by cases bk <;> simp [createEmitter], hne⟩
    · rintro ⟨i, hi, h⟩
      exact ⟨i, hi, ((files_touch_iff_differs _ ⟨false, false⟩ i).1.mp (h ⟨false, false⟩ false)).2⟩
  · cases hx : (f.operational || f.parsing || ((f.diff || f.checkErrors) && c.check)) <;>
      simp [exitCode, exitFormat, hx]

/-- **check_exact_stdin_counterexample (F4).**  `rustfmt --check < f.rs` with the unformatted
`fn main(){let x=1;}`: the Diff emitter runs and reports `has_diff`, no error flag is set, and the
exit status is 0 — `format_string` does not read `has_diff`.  So "exit 1 iff a rewrite would
happen" is false on standard input. -/
theorem check_exact_stdin_counterexample :
    let c : Cli := ⟨true, none, false, false, false, false, none, none⟩
    let i : Input (List Char) :=
      ⟨"fn main(){let x=1;}\n".toList, "fn main() {\n    let x = 1;\n}\n".toList,
       [.left "fn main(){let x=1;}".toList, .right "fn main() {".toList,
        .right "    let x = 1;".toList, .right "}".toList]⟩
    ∃ r, stdinResolve c Base.default = .ok r ∧ r.kind = .diff ∧
      i.orig ≠ i.fmt ∧ sessionDiff r.kind r.cfg [i] = true ∧
      exitCode true c Base.default
        ⟨false, false, false, false, false, sessionDiff r.kind r.cfg [i], false⟩ = 0 := by
  intro c i
  refine ⟨_, rfl, by decide, ?_, by decide, by decide⟩
  -- a string literal is slow to decode in the kernel; `String.toList_ofList` turns it into a list
  simp only [i]
  rw [String.toList_ofList, String.toList_ofList]
  decide +kernel

/-- On standard input the exit status never depends on `has_diff` (nor on `--check`), whatever the
input. -/
theorem stdin_exit_ignores_diff (c : Cli) (b : Base) (f : Flags) (d : Bool) :
    exitCode true c b { f with diff := d } = exitCode true c b f := by
  simp [exitCode, exitFormatString]

/-- **check_exact_stdin_partial.**  What does hold on standard input: when the options are
accepted, the status is 1 exactly when an operational or parsing error was flagged. -/
theorem check_exact_stdin_partial (c : Cli) (b : Base) (f : Flags) (r : Resolved)
    (h : stdinResolve c b = .ok r) :
    (exitCode true c b f = 1 ↔ (f.operational = true ∨ f.parsing = true)) ∧
    (exitCode true c b f = 0 ∨ exitCode true c b f = 1) := by
  simp only [exitCode, h, exitFormatString]
  cases f.operational <;> cases f.parsing <;> simp

/-- **modes_agree.**  For one `(orig, fmt)` and a script satisfying the diff-crate assumption:
stdout prints `fmt`; after a fault-free run of either Files emitter the file holds `fmt` (also
when nothing was written, because then `orig = fmt`); the modified-lines chunks and the json
blocks, applied to the lines of `orig`, give the lines of `fmt`; every checkstyle error `(n, s)`
names line `n` of `fmt` and that line is `s`.  (Checkstyle reports added lines only, so it cannot
rebuild the text by itself; what it says agrees with `fmt`.) -/
theorem modes_agree {α} (lines : List Char → List α) (cfg : Cfg) (i : Input α)
    (h : ScriptOk lines i) :
    (∃ hdr, (emit .stdout cfg i).out = .formatted hdr i.fmt) ∧
    (∀ bk (fs : Fs P Char), fs .file = some i.orig →
      ∃ s, run id i.fmt (emit (createEmitter .files bk) cfg i).ops fs = some s ∧
        s .file = some i.fmt) ∧
    (∃ cs, (emit .modifiedLines cfg i).out = .modified cs ∧
      apply cs (lines i.orig) = lines i.fmt) ∧
    (∃ bs, (emit .json cfg i).out = .json bs ∧
      apply ((bs.getD []).map blockChunk) (lines i.orig) = lines i.fmt) ∧
    (∃ es, (emit .checkstyle cfg i).out = .checkstyle es ∧
      ∀ e ∈ es, 1 ≤ e.1 ∧ (lines i.fmt)[e.1 - 1]? = some e.2) := by
  refine ⟨⟨_, rfl⟩, ?_, ⟨_, rfl, ?_⟩, ⟨_, rfl, ?_⟩, ⟨_, rfl, ?_⟩⟩
  · intro bk fs hfs
    rw [RF.Lemmas.Emit.emit_ops]
    by_cases e : i.orig = i.fmt
    · exact ⟨fs, by rw [e, RF.Lemmas.Backup.guardedOps_self]; rfl, by rw [hfs, e]⟩
    · rw [RF.Lemmas.Backup.guardedOps_of_ne _ e]
      cases bk
      · exact ⟨_, rfl, RF.Lemmas.Backup.set_same fs _ _⟩
      · exact ⟨_, RF.Lemmas.Backup.run_backup (ρ := id) (by decide) (by decide) i.fmt hfs, rfl⟩
  · rw [← h.lefts_eq, ← h.rights_eq]
    exact RF.Lemmas.Diff.apply_modified_lines i.script
  · rw [← h.lefts_eq, ← h.rights_eq]
    by_cases e : (makeDiff i.script 0).isEmpty = true
    · have hnil : makeDiff i.script 0 = [] := List.isEmpty_iff.mp e
      have := RF.Lemmas.Diff.no_change_same_lines i.script
        ((RF.Lemmas.Diff.empty_iff_no_change i.script 0).mp hnil)
      simp [e, apply, applyFrom, this]
    · have e' : (makeDiff i.script 0).isEmpty = false := by simpa using e
      simp only [e', Bool.not_false, if_true, Option.getD_some]
      rw [RF.Lemmas.Emit.json_chunks]
      exact RF.Lemmas.Diff.apply_modified_lines i.script
  · rw [← h.rights_eq]
    exact RF.Lemmas.Emit.checkstyle_points_at_fmt i.script

/-- `str::lines` on texts without `\r`: split at `\n`, no final empty piece (`acc` reversed) -/
def splitNl : List Char → List Char → List (List Char)
  | [], [] => []
  | acc, [] => [acc.reverse]
  | acc, '\n' :: r => acc.reverse :: splitNl [] r
  | acc, c :: r => splitNl (c :: acc) r

/-- `ScriptOk` (the hypothesis of `modes_agree`) holds of a real pair of texts and a script -/
example : ScriptOk (splitNl [])
    ⟨"a\nb\n".toList, "a\nc\n".toList, [.both ['a'], .left ['b'], .right ['c']]⟩ :=
  ⟨by decide, by decide, fun h => absurd h (by decide)⟩

/-- `ScriptOk` holds of a pair that differs in newline style only, with the all-`both` script -/
example : ScriptOk (fun s => splitNl [] (s.filter (· ≠ '\r')))
    ⟨"a\n".toList, "a\r\n".toList, [.both ['a']]⟩ :=
  ⟨by decide, by decide, fun _ => by decide⟩

/-- a script for a real pair of texts (`a\nb\n` → `a\nc\n`) whose sides are the line lists, on
which `modes_agree` and `check_exact_paths` say something -/
example :
    let i : Input (List Char) :=
      ⟨"a\nb\n".toList, "a\nc\n".toList, [.both ['a'], .left ['b'], .right ['c']]⟩
    lefts i.script = [['a'], ['b']] ∧ rights i.script = [['a'], ['c']] ∧
    hasChange i.script = true ∧ (emit .diff ⟨false, false⟩ i).hasDiff = true ∧
    (emit .modifiedLines ⟨false, false⟩ i).out = .modified [⟨2, 1, [['c']]⟩] ∧
    (emit .checkstyle ⟨false, false⟩ i).out = .checkstyle [(2, ['c'])] := by
  decide +kernel

/-- the newline-style-only branch: same lines, different texts, `has_diff` set -/
example :
    let i : Input Nat := ⟨['a', '\n'], ['a', '\r', '\n'], [.both 0]⟩
    hasChange i.script = false ∧ (emit .diff ⟨false, false⟩ i).hasDiff = true ∧
    (emit .diff ⟨false, false⟩ i).out = .newlineStyle ∧
    (emit .json ⟨false, false⟩ i).hasDiff = false := by
  decide +kernel

/-- the hypotheses of `check_exact_paths` are satisfiable with a file that differs -/
example :
    let c : Cli := ⟨true, none, true, false, false, false, none, none⟩
    let i : Input Nat := ⟨['a'], ['b'], [.left 0, .right 1]⟩
    c.check = true ∧ c.inlineEmit = none ∧ (i.orig = i.fmt → hasChange i.script = false) ∧
    exitCode false c Base.default
      ⟨false, false, false, false, false,
       sessionDiff (applyTo c Base.default).kind (applyTo c Base.default).cfg [i], false⟩ = 1 := by
  decide +kernel

/-- `stdinResolve` accepts `--emit json` and refuses `--emit files` -/
example :
    (∃ r, stdinResolve ⟨false, some .json, false, false, false, false, none, none⟩ Base.default = .ok r) ∧
    stdinResolve ⟨false, some .files, false, false, false, false, none, none⟩ Base.default
      = .error .stdinBadEmit := by
  exact ⟨⟨_, rfl⟩, rfl⟩

end RF.Props.C06

import RF.Lemmas.CharClasses
import RF.Lemmas.FormatLines

/-!
# C07  Line-width and trailing-whitespace diagnostics are exact

Theorems about `RF.Model.FormatLines` (the model of `format_lines` / `FormatLines`,
`formatting.rs:474-631`, of `FormatReport::track_errors`, `lib.rs:217-244`, and of the exit
formulas of `bin/main.rs`) against the line-based specification `RF.Model.FormatLinesSpec`.

Quantification: every tagged text `tagged : List (Kind × Char)` (so in particular the output of
the `CharClasses` model on every text, `scan_eq_spec_text`, but the theorems do not depend on how
characters are classified), every configuration `(max_width, tab_spaces, error_on_line_overflow,
error_on_unformatted)`, every `skipped_range` list and every `file_lines` predicate.

Vocabulary (all from `RF.FormatLines.Spec`, none of it mentions the scanner):
`lines tagged` are the `'\n'`-terminated lines; for a line `l`
`width tab l` = Σ over its characters ≠ `'\r'` of (`tab` for a tab, else 1),
`endsBlank l` = its last character ≠ `'\r'` is `char::is_whitespace`,
`commentLine l` = the kind of its `'\n'` is a comment kind,
`stringLine l` = one of its characters ≠ `'\r'` has a string kind,
`reportedWidth tab l` = `width tab l`, minus one when `endsBlank l`.

The scanner returns `none` where the Rust code panics; `scan_lineLen_never_underflows` shows
this needs `tab_spaces = 0`.
-/
namespace RF.Props.C07
open RF.CharClasses (Kind classes)
open RF.FormatLines RF.FormatLines.Spec

/-- A small tagged text used for the non-vacuity examples: line 1 `abcd ` (too wide for
`max_width = 3`, ends blank), line 2 `// ` (a comment line that ends blank), line 3 `x`, line 4
empty. -/
def ex : List (Kind × Char) :=
  classes ['a', 'b', 'c', 'd', ' ', '\n', '/', '/', ' ', '\n', 'x', '\n', '\n']

def exAll : Nat → Bool := fun _ => true

/-- Result of scanning `ex` (all lines selected); `default` only if the scan panicked. -/
def exR (cfg : Config) (skipped : List (Nat × Nat)) : Result :=
  (formatLinesOn cfg skipped exAll ex).getD default

/-- The `i`-th (0-based) terminated line of `ex`. -/
def exL (i : Nat) : Line := ((lines ex)[i]?).getD default

/-- **scan_eq_spec.**  For every tagged text, configuration, skipped-range list and selection
predicate, `format_lines` (errors appended to the report *and* buffer after truncation, panics
included) is the line-based specification: the entries are, line by line in order,
`[Trailing | endsBlank ∧ eligible] ++ [Overflow(w', max) | w' > max ∧ error_on_line_overflow ∧
eligible]` with `eligible = selected ∧ ¬skipped ∧ (error_on_unformatted ∨ ¬(commentLine ∨
stringLine))` and `w'` the width minus one when the line ends blank; the text loses all but one
of its trailing newlines. -/
theorem scan_eq_spec (cfg : Config) (skipped : List (Nat × Nat)) (selected : Nat → Bool)
    (tagged : List (Kind × Char)) :
    formatLinesOn cfg skipped selected tagged = Spec.result cfg skipped selected tagged :=
  RF.Lemmas.FormatLines.formatLinesOn_eq_spec cfg skipped selected tagged

/-- The same for a text classified by the `CharClasses` model. -/
theorem scan_eq_spec_text (cfg : Config) (skipped : List (Nat × Nat)) (selected : Nat → Bool)
    (text : List Char) :
    formatLines cfg skipped selected text = Spec.result cfg skipped selected (classes text) :=
  RF.Lemmas.FormatLines.formatLinesOn_eq_spec cfg skipped selected (classes text)

/-- Unfolded form: when the scan does not panic, an entry is in the report exactly when it is a
specified diagnostic of some terminated line under that line's number, the entries come in line
order (trailing-blank entry before the width entry of the same line), and the text is the
specified truncation. -/
theorem scan_eq_spec_lines {cfg : Config} {skipped : List (Nat × Nat)} {selected : Nat → Bool}
    {tagged : List (Kind × Char)} {r : Result}
    (h : formatLinesOn cfg skipped selected tagged = some r) :
    errorsFrom cfg skipped selected 1 (lines tagged) = some r.errors ∧
    r.text = truncated (tagged.map (·.2)) ∧
    ∀ e, e ∈ r.errors ↔
      ∃ i l, (lines tagged)[i]? = some l ∧ e ∈ lineErrors cfg skipped selected (i + 1) l :=
  ⟨(RF.Lemmas.FormatLines.spec_of_scan h).1, (RF.Lemmas.FormatLines.spec_of_scan h).2,
    RF.Lemmas.FormatLines.mem_errors_iff h⟩

example :
    formatLinesOn ⟨3, 4, true, true⟩ [] exAll ex =
      some ⟨[⟨1, .trailingWhitespace, false, false, ['a', 'b', 'c', 'd', ' ']⟩,
             ⟨1, .lineOverflow 4 3, false, false, ['a', 'b', 'c', 'd', ' ']⟩,
             ⟨2, .trailingWhitespace, true, false, ['/', '/', ' ']⟩],
            ['a', 'b', 'c', 'd', ' ', '\n', '/', '/', ' ', '\n', 'x', '\n']⟩ := by decide +kernel

/-- The specification judges every character of a text that ends in `'\n'` (as the buffer given
to `format_lines` always does: `format_file` appends one): the terminated lines, glued back with
their newlines, are the whole text. -/
theorem lines_cover (tagged : List (Kind × Char)) (k : Kind) :
    (lines (tagged ++ [(k, '\n')])).flatMap (fun l => l.body ++ [(l.nl, '\n')]) =
      tagged ++ [(k, '\n')] := by
  have h := RF.Lemmas.FormatLines.splitLines_join (tagged ++ [(k, '\n')]) []
  simpa [lines, RF.Lemmas.FormatLines.splitLines_append, splitLines] using h

/-- Corner of the scanner (not reachable from `format_file`): an unterminated last line is never
checked — appending newline-free text changes no entry. -/
theorem unterminated_last_line_unchecked (cfg : Config) (skipped : List (Nat × Nat))
    (selected : Nat → Bool) (tagged tail : List (Kind × Char)) (h : ∀ p ∈ tail, p.2 ≠ '\n') :
    (formatLinesOn cfg skipped selected (tagged ++ tail)).map (·.errors) =
      (formatLinesOn cfg skipped selected tagged).map (·.errors) := by
  simp only [scan_eq_spec, Spec.result, Spec.errors, lines, Option.map_map]
  rw [RF.Lemmas.FormatLines.splitLines_append, RF.Lemmas.FormatLines.splitLines_no_nl tail _ h,
    List.append_nil]
  rfl

example : (formatLinesOn ⟨3, 4, true, true⟩ [] exAll (classes ['a', 'b', 'c', 'd', ' '])).map
    (·.errors) = some [] := by decide +kernel

/-- **reported_iff.**  With `error_on_line_overflow` and `error_on_unformatted` on, line `i + 1`
has an entry in the report if and only if it is selected, not skipped, and is wider than
`max_width` (tab = `tab_spaces` columns) or ends in a blank. -/
theorem reported_iff {cfg : Config} {skipped : List (Nat × Nat)} {selected : Nat → Bool}
    {tagged : List (Kind × Char)} {r : Result}
    (hov : cfg.errorOnLineOverflow = true) (hun : cfg.errorOnUnformatted = true)
    (h : formatLinesOn cfg skipped selected tagged = some r)
    {i : Nat} {l : Line} (hl : (lines tagged)[i]? = some l) :
    (∃ e ∈ r.errors, e.line = i + 1) ↔
      selected (i + 1) = true ∧ inSkipped skipped (i + 1) = false ∧
        (cfg.maxWidth < width cfg.tabSpaces l ∨ endsBlank l = true) := by
  rw [RF.Lemmas.FormatLines.line_reported_iff h hl]
  have hw := RF.Lemmas.FormatLines.reportedWidth_le cfg.tabSpaces l
  simp only [eligible, allowed, hun, hov, Bool.true_or, Bool.and_true, Bool.and_eq_true,
    Bool.not_eq_true', true_and]
  constructor
  · rintro ⟨⟨hs, hk⟩, hb | hw'⟩
    · exact ⟨hs, hk, Or.inr hb⟩
    · exact ⟨hs, hk, Or.inl (by omega)⟩
  · rintro ⟨hs, hk, hw' | hb⟩
    · refine ⟨⟨hs, hk⟩, ?_⟩
      cases hb : endsBlank l with
      | true => exact Or.inl rfl
      | false => exact Or.inr (by simpa [reportedWidth, hb] using hw')
    · exact ⟨⟨hs, hk⟩, Or.inl hb⟩

example :
    formatLinesOn ⟨3, 4, true, true⟩ [(3, 3)] exAll ex = some (exR ⟨3, 4, true, true⟩ [(3, 3)]) ∧
    (lines ex)[0]? = some (exL 0) ∧
    (∃ e ∈ (exR ⟨3, 4, true, true⟩ [(3, 3)]).errors, e.line = 1) := by decide +kernel

/-! ## The corner: which *kind* of entry a wide line gets

`reported_iff` speaks of "an entry".  Read kind by kind, the sentence "every line wider than
`max_width` is reported as too wide" is false of the code: `new_line` subtracts one column from a
line that ends blank before it compares with `max_width` (and puts the reduced number into the
entry), so a line that is too wide by exactly its last blank only gets the
`TrailingWhitespace` entry. -/

/-- A `LineOverflow` entry for line `i + 1` exists iff the line is eligible,
`error_on_line_overflow` is on and the *reported* width exceeds `max_width`. -/
theorem overflow_entry_iff {cfg : Config} {skipped : List (Nat × Nat)} {selected : Nat → Bool}
    {tagged : List (Kind × Char)} {r : Result}
    (h : formatLinesOn cfg skipped selected tagged = some r)
    {i : Nat} {l : Line} (hl : (lines tagged)[i]? = some l) :
    (∃ e ∈ r.errors, e.line = i + 1 ∧ ∃ f m, e.kind = .lineOverflow f m) ↔
      eligible cfg skipped selected (i + 1) l = true ∧ cfg.errorOnLineOverflow = true ∧
        cfg.maxWidth < reportedWidth cfg.tabSpaces l := by
  rw [RF.Lemmas.FormatLines.exists_entry_iff h hl]
  simp only [RF.Lemmas.FormatLines.mem_lineErrors]
  constructor
  · rintro ⟨e, ⟨hel, ⟨_, rfl⟩ | ⟨ho, hw, _⟩⟩, f, m, hk⟩
    · cases hk
    · exact ⟨hel, ho, hw⟩
  · rintro ⟨hel, ho, hw⟩
    exact ⟨_, ⟨hel, Or.inr ⟨ho, hw, rfl⟩⟩, _, _, rfl⟩

/-- The clean statement "with both flags on, a selected, non-skipped line wider than `max_width`
gets a `LineOverflow` entry". -/
def WideLineGetsOverflowEntry : Prop :=
  ∀ (cfg : Config) (skipped : List (Nat × Nat)) (selected : Nat → Bool)
    (tagged : List (Kind × Char)) (r : Result) (i : Nat) (l : Line),
    cfg.errorOnLineOverflow = true → cfg.errorOnUnformatted = true →
    formatLinesOn cfg skipped selected tagged = some r → (lines tagged)[i]? = some l →
    selected (i + 1) = true → inSkipped skipped (i + 1) = false →
    cfg.maxWidth < width cfg.tabSpaces l →
    ∃ e ∈ r.errors, e.line = i + 1 ∧ ∃ f m, e.kind = .lineOverflow f m

/-- It is false: `abcd␠` at `max_width = 4` is five columns wide and is reported only as ending
in a blank. -/
theorem wide_line_gets_overflow_entry_counterexample : ¬ WideLineGetsOverflowEntry := by
  intro hall
  obtain ⟨e, he, _, f, m, hk⟩ := hall ⟨4, 4, true, true⟩ [] exAll ex (exR ⟨4, 4, true, true⟩ []) 0
    (exL 0) rfl rfl (by decide +kernel) (by decide +kernel) rfl (by decide +kernel) (by decide +kernel)
  have hes : (exR ⟨4, 4, true, true⟩ []).errors =
      [⟨1, .trailingWhitespace, false, false, ['a', 'b', 'c', 'd', ' ']⟩,
       ⟨2, .trailingWhitespace, true, false, ['/', '/', ' ']⟩] := by decide +kernel
  rw [hes] at he
  simp only [List.mem_cons, List.not_mem_nil, or_false] at he
  rcases he with rfl | rfl <;> simp at hk

/-- What does hold: a wide line that does not end blank gets its `LineOverflow` entry, carrying
its exact width; one that ends blank gets it iff it is wide even without one column. -/
theorem wide_line_gets_overflow_entry_partial {cfg : Config} {skipped : List (Nat × Nat)}
    {selected : Nat → Bool} {tagged : List (Kind × Char)} {r : Result}
    (hov : cfg.errorOnLineOverflow = true) (hun : cfg.errorOnUnformatted = true)
    (h : formatLinesOn cfg skipped selected tagged = some r)
    {i : Nat} {l : Line} (hl : (lines tagged)[i]? = some l)
    (hsel : selected (i + 1) = true) (hsk : inSkipped skipped (i + 1) = false)
    (hw : cfg.maxWidth < width cfg.tabSpaces l) (hb : endsBlank l = false) :
    (⟨i + 1, .lineOverflow (width cfg.tabSpaces l) cfg.maxWidth, commentLine l, stringLine l,
      lineText l⟩ : FormattingError) ∈ r.errors := by
  have hrw : reportedWidth cfg.tabSpaces l = width cfg.tabSpaces l := by simp [reportedWidth, hb]
  refine (RF.Lemmas.FormatLines.mem_errors_iff h _).mpr ⟨i, l, hl,
    (RF.Lemmas.FormatLines.mem_lineErrors cfg skipped selected _ l _).mpr
      ⟨by simp [eligible, allowed, hsel, hsk, hun], Or.inr ⟨hov, by omega, by rw [hrw]⟩⟩⟩

example :
    formatLinesOn ⟨3, 4, true, true⟩ [] exAll (classes ['a', 'b', 'c', 'd', '\n']) =
      some ⟨[⟨1, .lineOverflow 4 3, false, false, ['a', 'b', 'c', 'd']⟩],
        ['a', 'b', 'c', 'd', '\n']⟩ := by decide +kernel

/-! ## What "comment line" and "string line" mean for the real classifier

Two concrete consequences of the definitions (`commentLine` looks only at the kind of the
`'\n'`; `stringLine` at the kinds `CharClasses` hands out), stated so that the reader of the
property sees them. -/

/-- The last line of a block comment is not a comment line (its `'\n'` comes after `*/`), so with
`error_on_unformatted` off it is still reported, while the first line of the same comment is
exempt. -/
theorem block_comment_last_line_not_exempt :
    (formatLines ⟨3, 4, true, false⟩ [] (fun _ => true)
      ['/', '*', 'a', 'a', 'a', '\n', 'b', 'b', 'b', '*', '/', '\n']).map (·.errors) =
      some [⟨2, .lineOverflow 5 3, false, false, ['b', 'b', 'b', '*', '/']⟩] := by decide +kernel

/-- A raw identifier makes its line a "string line" (`r#` starts `RawStringPrefix`, whose
"unreachable" arm is reached by the `t`): with `error_on_unformatted` off the line is exempt. -/
theorem raw_identifier_line_exempt :
    (formatLines ⟨3, 4, true, false⟩ [] (fun _ => true)
      ['r', '#', 't', 'y', 'p', 'e', ' ', '\n']).map (·.errors) = some [] ∧
    (formatLines ⟨3, 4, true, false⟩ [] (fun _ => true)
      ['t', 'y', 'p', 'e', 'e', 'e', ' ', '\n']).map (·.errors) =
      some [⟨1, .trailingWhitespace, false, false, ['t', 'y', 'p', 'e', 'e', 'e', ' ']⟩,
            ⟨1, .lineOverflow 6 3, false, false, ['t', 'y', 'p', 'e', 'e', 'e', ' ']⟩] := by
  decide +kernel

/-- **no_spurious.**  Under every setting, every entry of the report names an existing
terminated line that is selected, not skipped and not exempted, carries that line's text, and is
justified: a `TrailingWhitespace` entry only for a line that ends blank, a `LineOverflow(found,
max)` entry only with `error_on_line_overflow`, `max = max_width`, `found` = the reported width of
that line, and `max_width < found ≤ width` — the line really is too wide. -/
theorem no_spurious {cfg : Config} {skipped : List (Nat × Nat)} {selected : Nat → Bool}
    {tagged : List (Kind × Char)} {r : Result}
    (h : formatLinesOn cfg skipped selected tagged = some r) :
    ∀ e ∈ r.errors, ∃ l, 1 ≤ e.line ∧ (lines tagged)[e.line - 1]? = some l ∧
      selected e.line = true ∧ inSkipped skipped e.line = false ∧ allowed cfg l = true ∧
      e.lineBuffer = lineText l ∧ e.isComment = commentLine l ∧
      ((e.kind = .trailingWhitespace ∧ endsBlank l = true ∧ e.isString = l.nl.isString) ∨
       (e.kind = .lineOverflow (reportedWidth cfg.tabSpaces l) cfg.maxWidth ∧
          cfg.errorOnLineOverflow = true ∧ cfg.maxWidth < reportedWidth cfg.tabSpaces l ∧
          reportedWidth cfg.tabSpaces l ≤ width cfg.tabSpaces l ∧ e.isString = stringLine l)) := by
  intro e he
  obtain ⟨i, l, hl, hm⟩ := (RF.Lemmas.FormatLines.mem_errors_iff h e).mp he
  have hline := RF.Lemmas.FormatLines.line_of_mem_lineErrors hm
  have hw := RF.Lemmas.FormatLines.reportedWidth_le cfg.tabSpaces l
  obtain ⟨hel, hcase⟩ := (RF.Lemmas.FormatLines.mem_lineErrors cfg skipped selected _ l e).mp hm
  simp only [eligible, Bool.and_eq_true, Bool.not_eq_true'] at hel
  refine ⟨l, by omega, by simpa [hline] using hl, by simpa [hline] using hel.1.1,
    by simpa [hline] using hel.1.2, hel.2, ?_⟩
  rcases hcase with ⟨hb, rfl⟩ | ⟨ho, hgt, rfl⟩
  · exact ⟨rfl, rfl, Or.inl ⟨rfl, hb, rfl⟩⟩
  · exact ⟨rfl, rfl, Or.inr ⟨rfl, ho, hgt, hw, rfl⟩⟩

/-- **line_numbers_one_based.**  The number carried by an entry is the 1-based line number in the
usual sense: the reported line is preceded in the text by exactly `e.line - 1` newline
characters, is terminated by a `'\n'` and contains none; so the first line is line 1.  Entries
come in non-decreasing line order. -/
theorem line_numbers_one_based {cfg : Config} {skipped : List (Nat × Nat)} {selected : Nat → Bool}
    {tagged : List (Kind × Char)} {r : Result}
    (h : formatLinesOn cfg skipped selected tagged = some r) :
    (∀ e ∈ r.errors, ∃ l pre post, e ∈ lineErrors cfg skipped selected e.line l ∧
      tagged = pre ++ l.body ++ [(l.nl, '\n')] ++ post ∧
      (pre.map (·.2)).count '\n' + 1 = e.line ∧ ∀ p ∈ l.body, p.2 ≠ '\n') ∧
    r.errors.Pairwise (fun a b => a.line ≤ b.line) := by
  constructor
  · intro e he
    obtain ⟨i, l, hl, hm⟩ := (RF.Lemmas.FormatLines.mem_errors_iff h e).mp he
    have hline := RF.Lemmas.FormatLines.line_of_mem_lineErrors hm
    obtain ⟨pre, post, hd, hc, hb⟩ :=
      RF.Lemmas.FormatLines.splitLines_decomp tagged [] i l (by simp) hl
    exact ⟨l, pre, post, by simpa [hline] using hm, by simpa using hd, by omega, hb⟩
  · exact (RF.Lemmas.FormatLines.errorsFrom_ge_sorted cfg skipped selected _ _ _
      (RF.Lemmas.FormatLines.spec_of_scan h).1).2

/-- **unformatted_off_exemptions.**  Switching `error_on_unformatted` off removes from a line's
diagnostics exactly this: everything if the line is a comment line or a string line, nothing
otherwise. -/
theorem unformatted_off_exemptions (cfg : Config) (skipped : List (Nat × Nat))
    (selected : Nat → Bool) (n : Nat) (l : Line) :
    lineErrors { cfg with errorOnUnformatted := false } skipped selected n l =
      if commentLine l || stringLine l then []
      else lineErrors { cfg with errorOnUnformatted := true } skipped selected n l := by
  cases hc : commentLine l <;> cases hs : stringLine l <;>
    simp [lineErrors, eligible, allowed, hc, hs]

/-- At the level of a whole report: with `error_on_unformatted` off, line `i + 1` has an
entry iff it is selected, not skipped, neither a comment line nor a string line, and ends blank
or (with `error_on_line_overflow`) is reported too wide. -/
theorem unformatted_off_reported_iff {cfg : Config} {skipped : List (Nat × Nat)}
    {selected : Nat → Bool} {tagged : List (Kind × Char)} {r : Result}
    (hun : cfg.errorOnUnformatted = false)
    (h : formatLinesOn cfg skipped selected tagged = some r)
    {i : Nat} {l : Line} (hl : (lines tagged)[i]? = some l) :
    (∃ e ∈ r.errors, e.line = i + 1) ↔
      selected (i + 1) = true ∧ inSkipped skipped (i + 1) = false ∧
        commentLine l = false ∧ stringLine l = false ∧
        (endsBlank l = true ∨
          (cfg.errorOnLineOverflow = true ∧ cfg.maxWidth < reportedWidth cfg.tabSpaces l)) := by
  rw [RF.Lemmas.FormatLines.line_reported_iff h hl]
  simp only [eligible, allowed, hun, Bool.false_or, Bool.and_eq_true, Bool.not_eq_true',
    Bool.or_eq_false_iff]
  constructor
  · rintro ⟨⟨⟨a, b⟩, c, d⟩, e⟩; exact ⟨a, b, c, d, e⟩
  · rintro ⟨a, b, c, d, e⟩; exact ⟨⟨⟨a, b⟩, c, d⟩, e⟩

example :
    formatLinesOn ⟨3, 4, true, false⟩ [] exAll ex = some (exR ⟨3, 4, true, false⟩ []) ∧
    (lines ex)[1]? = some (exL 1) ∧ commentLine (exL 1) = true ∧ endsBlank (exL 1) = true ∧
    ¬ ∃ e ∈ (exR ⟨3, 4, true, false⟩ []).errors, e.line = 2 := by decide +kernel

/-- **trailing_blank_always_reported.**  A selected, non-skipped line that ends blank and is
neither a comment line nor a string line gets its `TrailingWhitespace` entry under every
setting of `error_on_line_overflow` and `error_on_unformatted` (and a comment or string line
does too once `error_on_unformatted` is on). -/
theorem trailing_blank_always_reported {cfg : Config} {skipped : List (Nat × Nat)}
    {selected : Nat → Bool} {tagged : List (Kind × Char)} {r : Result}
    (h : formatLinesOn cfg skipped selected tagged = some r)
    {i : Nat} {l : Line} (hl : (lines tagged)[i]? = some l)
    (hsel : selected (i + 1) = true) (hsk : inSkipped skipped (i + 1) = false)
    (hb : endsBlank l = true)
    (hex : cfg.errorOnUnformatted = true ∨ (commentLine l = false ∧ stringLine l = false)) :
    (⟨i + 1, .trailingWhitespace, commentLine l, l.nl.isString, lineText l⟩ : FormattingError)
      ∈ r.errors := by
  refine (RF.Lemmas.FormatLines.mem_errors_iff h _).mpr ⟨i, l, hl,
    (RF.Lemmas.FormatLines.mem_lineErrors cfg skipped selected _ l _).mpr ⟨?_, Or.inl ⟨hb, rfl⟩⟩⟩
  rcases hex with hu | ⟨hc, hs⟩
  · simp [eligible, allowed, hsel, hsk, hu]
  · simp [eligible, allowed, hsel, hsk, hc, hs]

example :
    formatLinesOn ⟨100, 4, false, false⟩ [(2, 9)] exAll ex =
      some (exR ⟨100, 4, false, false⟩ [(2, 9)]) ∧
    (lines ex)[0]? = some (exL 0) ∧ inSkipped [(2, 9)] 1 = false ∧ endsBlank (exL 0) = true ∧
    commentLine (exL 0) = false ∧ stringLine (exL 0) = false := by decide +kernel

/-- **trailing_blank_exit_1.**  When a trailing blank is reported the run exits with 1, on files (with or without
`--check`) and on standard input, whatever else the report and the session already contain:
`track_errors` sets `has_operational_errors`, `Session` merges it, the exit formulas test it. -/
theorem trailing_blank_exit_1 {cfg : Config} {skipped : List (Nat × Nat)}
    {selected : Nat → Bool} {tagged : List (Kind × Char)} {r : Result}
    (h : formatLinesOn cfg skipped selected tagged = some r)
    {i : Nat} {l : Line} (hl : (lines tagged)[i]? = some l)
    (hsel : selected (i + 1) = true) (hsk : inSkipped skipped (i + 1) = false)
    (hb : endsBlank l = true)
    (hex : cfg.errorOnUnformatted = true ∨ (commentLine l = false ∧ stringLine l = false))
    (report session : ReportedErrors) (check : Bool) :
    let report' := trackErrors report (r.errors.map (·.kind))
    report'.hasOperationalErrors = true ∧ report'.hasFormattingErrors = true ∧
    exitCodeFiles (session.add report') check = 1 ∧ exitCodeStdin (session.add report') = 1 := by
  have hm := trailing_blank_always_reported h hl hsel hsk hb hex
  have hk : ErrorKind.trailingWhitespace ∈ r.errors.map (·.kind) :=
    List.mem_map.mpr ⟨_, hm, rfl⟩
  have hop := RF.Lemmas.FormatLines.trackErrors_op report _ _ hk rfl
  have hfm := RF.Lemmas.FormatLines.trackErrors_formatting report _ (List.ne_nil_of_mem hk)
  exact ⟨hop, hfm, RF.Lemmas.FormatLines.exit_of_op session _ check hop⟩

/-- Every entry `format_lines` produces (either kind) makes the run exit with 1. -/
theorem any_entry_exit_1 {cfg : Config} {skipped : List (Nat × Nat)}
    {selected : Nat → Bool} {tagged : List (Kind × Char)} {r : Result}
    (h : formatLinesOn cfg skipped selected tagged = some r) (hne : r.errors ≠ [])
    (report session : ReportedErrors) (check : Bool) :
    exitCodeFiles (session.add (trackErrors report (r.errors.map (·.kind)))) check = 1 ∧
    exitCodeStdin (session.add (trackErrors report (r.errors.map (·.kind)))) = 1 := by
  obtain ⟨e, he⟩ := List.exists_mem_of_ne_nil _ hne
  obtain ⟨l, _, _, _, _, _, _, _, hk⟩ := no_spurious h e he
  have hk' : RF.Lemmas.FormatLines.setsOperational e.kind = true := by
    rcases hk with ⟨hk, _⟩ | ⟨hk, _⟩ <;> rw [hk] <;> rfl
  exact RF.Lemmas.FormatLines.exit_of_op session _ check
    (RF.Lemmas.FormatLines.trackErrors_op report _ _ (List.mem_map.mpr ⟨e, he, rfl⟩) hk')

/-- A report without entries leaves the flags of `track_errors` untouched. -/
theorem no_entry_no_flag (report : ReportedErrors) : trackErrors report [] = report := by
  simp [trackErrors]

/-- **scan_lineLen_never_underflows.**  With `tab_spaces ≥ 1` the subtraction `line_len -= 1`
never goes below zero (nor does `text.len() - newline_count`, and the truncation falls on a
character boundary): `format_lines` does not panic. -/
theorem scan_lineLen_never_underflows (cfg : Config) (skipped : List (Nat × Nat))
    (selected : Nat → Bool) (tagged : List (Kind × Char)) (ht : 1 ≤ cfg.tabSpaces) :
    (formatLinesOn cfg skipped selected tagged).isSome := by
  rw [scan_eq_spec]
  simp only [Spec.result, Spec.errors, Option.isSome_map]
  exact (RF.Lemmas.FormatLines.errorsFrom_isSome_iff cfg skipped selected _ _).mpr
    (fun i l _ => RF.Lemmas.FormatLines.underflows_false cfg selected ht _ l)

example : (1 : Nat) ≤ (⟨3, 4, true, true⟩ : Config).tabSpaces := by decide +kernel

/-- The hypothesis is needed: with `tab_spaces = 0` a selected line consisting of a tab panics
(`0 - 1` on a `usize`, builds with overflow checks). -/
theorem scan_lineLen_underflow_counterexample :
    formatLines ⟨100, 0, true, true⟩ [] (fun _ => true) ['\t', '\n'] = none := by decide +kernel

/-- `CharClasses::next` itself never panics on any text (its assertions and `u32`
subtractions are unreachable from the initial status), so `classes` is its faithful total form. -/
theorem charClasses_never_panics (text : List Char) :
    RF.CharClasses.classes? text = some (classes text) :=
  RF.Lemmas.CharClasses.classes?_eq text

/-- The classifier returns the characters of the text unchanged: the tagged text the scanner
walks over *is* the text. -/
theorem classes_text (text : List Char) : (classes text).map (·.2) = text :=
  RF.Lemmas.CharClasses.classes_map_snd text

end RF.Props.C07

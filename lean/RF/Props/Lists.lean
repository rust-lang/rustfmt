import RF.Lemmas.Lists
import RF.Lemmas.ListsRc
import RF.Model.ListsItemize
import RF.Model.ListsStructLit
/-!
# The list machinery (`src/lists.rs`): what `write_list` emits and how `definitive_tactic` decides

Mechanism behind C01 (no token added, dropped or reordered; only optional trailing separators change),
C03 (the comments attached to list items are written back) and C02 (the layout decision is stable).
Most rewriters (function parameters, call arguments, struct fields, enum variants, patterns, use lists,
generics, where clauses, arrays, tuples) hand their elements and the comments between them to
`write_list`; the theorems are about `RF.Lists.writeList` / `definitiveTactic` (`RF/Model/Lists.lean`, a
statement-by-statement transcription tied to the code by the correspondence `lists.write` / `lists.tactic`),
for EVERY item list, EVERY formatting and EVERY comment rewriter `rc` (the model's stand-in for
`rewrite_comment`), under the hypotheses each theorem names.

`render ps` is the result string; `ps` is the same string cut into the pieces the loop pushed
(blank / separator / item / pre-comment / post-comment).
-/
namespace RF.Props.Lists
open RF.Lists RF.Shape RF.Lemmas.Lists

/-- The separator place `write_list` works with (`SeparatorPlace::from_tactic`). -/
abbrev placeOf (f : ListFormatting) : SeparatorPlace :=
  SeparatorPlace.fromTactic f.separatorPlace f.tactic f.separator

/-- A comment rewriter for the examples: trims the comment (what `rewrite_comment` does to a one-line
comment under the default options). -/
def rcTrim : Rc := fun c _ _ => some (trim c)

/-- `rcTrim` satisfies the hypothesis of `writeList_content`. -/
theorem rcTrim_keeps_content : ∀ c bs sh r, rcTrim c bs sh = some r → squeeze r = squeeze c := by
  intro c bs sh r h
  simp only [rcTrim, Option.some.injEq] at h
  subst h
  exact squeeze_trim c

private def exItems : List ListItem :=
  [⟨some "/* p */".toList, .sameLine, some "a".toList, some "// q".toList, false⟩,
   ⟨none, .none, some "".toList, none, false⟩,
   ⟨none, .none, some "bb".toList, some " /* r */".toList, false⟩]

private def exFmt : ListFormatting :=
  { ListFormatting.new (Shape.legacy 40 (Indent.new 4 0)) ⟨false, 4, 100, 80⟩ false with
    trailingSeparator := .vertical }

/-! ## Structure of the result -/

/-- **Structure.**  Whenever `write_list` succeeds, its result is a sequence of pieces in which every
blank piece holds only spaces, newlines and indentation, and whose non-blank pieces are, item by item
and in the order of the input (`TokensOK`): nothing for an item that is not substantial; for a written
item its rewritten pre-comment (if it has one), the separator in front (if `separateSpec` says so and the
place is Front), the item string, and then its rewritten post-comment and the separator behind
(comment first in a horizontal list, separator first otherwise). -/
theorem writeList_structure (f : ListFormatting) (rc : Rc) (items : List ListItem) (out : List Char)
    (h : writeList f rc items = some out) :
    ∃ ps : List Piece, render ps = out ∧ BlanksOK (indentString f.shape.indent f.config) ps ∧
      TokensOK f rc (placeOf f) 0 items (nonBlank ps) := by
  unfold writeList at h
  simp only [Option.map_eq_some_iff] at h
  obtain ⟨ps, hps, rfl⟩ := h
  obtain ⟨hb, hts⟩ := writeListPieces_shape hps
  exact ⟨ps, rfl, hb, hts⟩

example : writeList exFmt rcTrim exItems = some "/* p */ a, // q\n    bb, /* r */".toList := by
  rw [String.toList_ofList]  -- the kernel is slow at `String.toList` of a literal
  decide +kernel

/-! ## C01: items -/

/-- **Items in order.**  The result is `g0 ++ item1 ++ g1 ++ … ++ itemN ++ gN` where `item1 … itemN` are
exactly the item strings of the written (substantial) items, each once, in the order of the input, and
every gap `gk` is made of pieces that are blanks (spaces, newlines, indentation), the separator (as given
or trimmed) or a comment of one of the items as `rc` returned it.  (An item that is not substantial has
the empty string as its item string and no non-empty comment: nothing is lost by skipping it.) -/
theorem writeList_items_in_order (f : ListFormatting) (rc : Rc) (items : List ListItem) (out : List Char)
    (h : writeList f rc items = some out) :
    ∃ gaps : List (List Piece),
      gaps.length = (itemStrings items).length + 1 ∧
      out = weave (gaps.map render) (itemStrings items) ∧
      ∀ g ∈ gaps, ∀ p ∈ g, GapPiece f rc items p := by
  obtain ⟨ps, rfl, hb, hts⟩ := writeList_structure f rc items out h
  obtain ⟨gaps, hl, hw, hg⟩ := exists_gaps ps
  rw [← itemTexts_nonBlank, tokens_items hts] at hl hw
  exact ⟨gaps, hl, hw, fun g hg' p hp => pieces_gap hb hts p (hg g hg' p hp).1 (hg g hg' p hp).2⟩

/-- The piece form of the same statement: the item pieces of the result are the item strings of the
written items; every other piece is a gap piece. -/
theorem writeList_item_pieces (f : ListFormatting) (rc : Rc) (items : List ListItem) (out : List Char)
    (h : writeList f rc items = some out) :
    ∃ ps : List Piece, render ps = out ∧ itemTexts ps = itemStrings items ∧
      ∀ p ∈ ps, p.kind ≠ .item → GapPiece f rc items p := by
  obtain ⟨ps, hr, hb, hts⟩ := writeList_structure f rc items out h
  exact ⟨ps, hr, by rw [← itemTexts_nonBlank]; exact tokens_items hts, pieces_gap hb hts⟩

example : itemStrings exItems = ["a".toList, "bb".toList] := by decide +kernel

/-- **The error branch.**  One item whose rewrite failed (`item = Err(_)`) makes the whole result `Err`,
whatever the other items, the formatting and the comment rewriter are. -/
theorem writeList_none_on_missing_item (f : ListFormatting) (rc : Rc) (items : List ListItem)
    (h : ∃ it ∈ items, it.item = none) : writeList f rc items = none := by
  unfold writeList writeListPieces
  simp only [Option.map_eq_none_iff]
  exact loop_none_of_missing items 0 _ h

example : writeList exFmt rcTrim (exItems ++ [⟨none, .none, none, none, false⟩]) = none := by decide +kernel

/-! ## C03: comments -/

/-- **Comments emitted.**  The comment pieces of the result correspond one for one, in order, to the
comments of the written items (for each item its pre-comment, then its post-comment): each piece is what
some call `rc c _ _` (or `rc (trim_start c) _ _` for a post-comment outside a horizontal list) returned
for that comment `c`.  No comment of a written item is dropped or duplicated; where each one stands
relative to the items is given by `writeList_structure`. -/
theorem writeList_comments_emitted (f : ListFormatting) (rc : Rc) (items : List ListItem) (out : List Char)
    (h : writeList f rc items = some out) :
    ∃ ps : List Piece, render ps = out ∧
      Forall2 (Rewritten rc) (commentTexts ps) (rawComments items) := by
  obtain ⟨ps, hr, _, hts⟩ := writeList_structure f rc items out h
  exact ⟨ps, hr, by rw [← commentTexts_nonBlank]; exact tokens_comments hts⟩

/-- With a comment rewriter that keeps some payload of a comment (for `rewrite_comment` under the
default options: the non-blank characters), the payloads of the emitted comments are the payloads of the
input comments, in order. -/
theorem writeList_comment_payloads {α : Type} (payload : List Char → α) (f : ListFormatting) (rc : Rc)
    (items : List ListItem) (out : List Char)
    (hrc : ∀ c bs sh r, rc c bs sh = some r → payload r = payload c)
    (htrim : ∀ c, payload (trimStart c) = payload c)
    (h : writeList f rc items = some out) :
    ∃ ps : List Piece, render ps = out ∧
      (commentTexts ps).map payload = (rawComments items).map payload := by
  obtain ⟨ps, hr, hf⟩ := writeList_comments_emitted f rc items out h
  refine ⟨ps, hr, ?_⟩
  exact hf.map_eq fun _ _ hab => hab.payload payload hrc htrim

example : rawComments exItems = ["/* p */".toList, "// q".toList, " /* r */".toList] := by decide +kernel

example : ∃ ps, render ps = "/* p */ a, // q\n    bb, /* r */".toList ∧
    (commentTexts ps).map squeeze = ["/*p*/".toList, "//q".toList, "/*r*/".toList] := by
  obtain ⟨ps, h1, h2⟩ := writeList_comment_payloads squeeze exFmt rcTrim exItems
    "/* p */ a, // q\n    bb, /* r */".toList rcTrim_keeps_content squeeze_trimStart
    (by rw [String.toList_ofList]; decide +kernel)
  exact ⟨ps, h1, by rw [h2]; decide +kernel⟩

/-- **Content.**  If the comment rewriter keeps the non-blank characters of every comment, then the
non-blank characters of the result are exactly `contentSpec`: for each written item, in order, its
pre-comment, the separator in front (if any), the item, and its post-comment and the separator behind
(if any).  Nothing else is written and nothing of this is left out.  (`contentSpec` is also the oracle
`lists.oracle.content` that judges the output of the real `write_list`.) -/
theorem writeList_content (f : ListFormatting) (rc : Rc) (items : List ListItem) (out : List Char)
    (hrc : ∀ c bs sh r, rc c bs sh = some r → squeeze r = squeeze c)
    (h : writeList f rc items = some out) :
    squeeze out = contentSpec f items := by
  obtain ⟨ps, rfl, hb, hts⟩ := writeList_structure f rc items out h
  rw [squeeze_render (indentString_ws f.shape.indent f.config) ps hb]
  exact tokens_content hrc hts

example : squeeze "/* p */ a, // q\n    bb, /* r */".toList = contentSpec exFmt exItems :=
  writeList_content exFmt rcTrim exItems _ rcTrim_keeps_content (by rw [String.toList_ofList]; decide +kernel)

example : contentSpec exFmt exItems = "/*p*/a,//qbb,/*r*/".toList := by decide +kernel

/-! ## C01: separators -/

/-- **Separators.**  The separator pieces of the result are exactly those of `sepSpecGo`: a written item
with index `i` gets the (trimmed) separator in front iff the place is Front, `i ≠ 0` and
`separateSpec f place i last`; it gets the separator behind iff the place is Back and
`separateSpec f place i last`. -/
theorem writeList_separators (f : ListFormatting) (rc : Rc) (items : List ListItem) (out : List Char)
    (h : writeList f rc items = some out) :
    ∃ ps : List Piece, render ps = out ∧ sepTexts ps = sepSpecGo f (placeOf f) 0 items := by
  obtain ⟨ps, hr, _, hts⟩ := writeList_structure f rc items out h
  exact ⟨ps, hr, by rw [← sepTexts_nonBlank]; exact tokens_seps hts⟩

/-- Place Back: every item that is not the last one is followed by a separator, whatever the tactic and
the trailing-separator setting are. -/
theorem separator_between_back (f : ListFormatting) (i : Nat) : separateSpec f .back i false = true := by
  simp [separateSpec]

/-- Place Back: the only optional separator is the one after the last item, and it is written iff
`needs_trailing_separator()`; in a Mixed list that ends with a newline iff `trailing_separator` is not
`Never`. -/
theorem writeList_only_trailing_separator_optional (f : ListFormatting) (i : Nat) :
    separateSpec f .back i true =
      if f.tactic = .mixed ∧ f.endsWithNewline = true then f.trailingSeparator != .never
      else f.needsTrailingSeparator := by
  unfold separateSpec
  by_cases h : f.tactic = .mixed ∧ f.endsWithNewline = true
  · obtain ⟨h1, h2⟩ := h; simp [h1, h2]
  · have : (f.tactic == DefinitiveListTactic.mixed && true && f.endsWithNewline) = false := by
      cases he : f.endsWithNewline <;> simp_all
    simp [h]

/-- `needs_trailing_separator`, the whole table. -/
theorem needsTrailingSeparator_spec (f : ListFormatting) :
    f.needsTrailingSeparator = true ↔
      f.trailingSeparator = .always ∨
      (f.trailingSeparator = .vertical ∧ f.tactic = .vertical) ∨
      (f.trailingSeparator = .never ∧ f.tactic = .vertical ∧ f.separatorPlace = .front) := by
  unfold ListFormatting.needsTrailingSeparator SeparatorPlace.isFront
  cases f.trailingSeparator <;> simp

/-- Place Front: "every item but the first is preceded by a separator" is FALSE of the code: in a Mixed
list that ends with a newline and has `trailing_separator = Never`, the last item loses the separator in
front of it (lists.rs:355-357 overwrites `separate` for the last item whatever the place is).  No caller
in rustfmt combines Mixed with a Front separator. -/
theorem separator_between_front_counterexample :
    ∃ f : ListFormatting, placeOf f = .front ∧
      writeList f rcTrim [ListItem.fromStr "a".toList, ListItem.fromStr "b".toList] = some "a b".toList := by
  refine ⟨{ ListFormatting.new (Shape.legacy 40 Indent.empty) ⟨false, 4, 100, 80⟩ false with
    tactic := .mixed, separator := " |".toList, separatorPlace := .front }, by decide +kernel, by decide +kernel⟩

/-- Place Front, outside that corner: every item but the first is preceded by a separator. -/
theorem separator_between_front_partial (f : ListFormatting) (i : Nat) (last : Bool) (hi : i ≠ 0)
    (hcorner : ¬(f.tactic = .mixed ∧ f.endsWithNewline = true ∧ f.trailingSeparator = .never)) :
    separateSpec f .front i last = true := by
  unfold separateSpec
  split
  · rename_i h
    simp only [Bool.and_eq_true, beq_iff_eq] at h
    obtain ⟨⟨h1, _⟩, h3⟩ := h
    cases ht : f.trailingSeparator <;> simp_all
  · simp [hi]

/-- "The separator after the last written item follows `trailing_separator`" is FALSE of the code when
the last item of the list is not substantial: the item before it is not the last one, so it gets its
separator, which now ends the output although `trailing_separator = Never`. -/
theorem trailing_separator_counterexample :
    (ListFormatting.new (Shape.legacy 40 Indent.empty) ⟨false, 4, 100, 80⟩ false).needsTrailingSeparator = false ∧
    writeList (ListFormatting.new (Shape.legacy 40 Indent.empty) ⟨false, 4, 100, 80⟩ false) rcTrim
      [ListItem.fromStr "a".toList, ListItem.fromStr []] = some "a,".toList := by
  constructor <;> decide +kernel

/-- With every item substantial and place Back the separators are: one after each item but the last,
plus the trailing one exactly as `writeList_only_trailing_separator_optional` says. -/
theorem writeList_separator_count_partial (f : ListFormatting) (rc : Rc) (items : List ListItem)
    (out : List Char) (hplace : placeOf f = .back)
    (hsub : ∀ it ∈ items, it.isSubstantial = true) (hne : items ≠ [])
    (h : writeList f rc items = some out) :
    ∃ ps : List Piece, render ps = out ∧
      sepTexts ps = List.replicate (items.length - 1) f.separator ++
        (if separateSpec f .back (items.length - 1) true then [f.separator] else []) := by
  obtain ⟨ps, hr, hs⟩ := writeList_separators f rc items out h
  refine ⟨ps, hr, ?_⟩
  rw [hs, hplace]
  simpa using sepSpecGo_back f items 0 hsub hne

example : ∃ ps, render ps = "/* p */ a, // q\n    bb, /* r */".toList ∧
    sepTexts ps = [",".toList, ",".toList] := by
  obtain ⟨ps, h1, h2⟩ := writeList_separators exFmt rcTrim exItems
    "/* p */ a, // q\n    bb, /* r */".toList (by rw [String.toList_ofList]; decide +kernel)
  exact ⟨ps, h1, by rw [h2]; decide +kernel⟩

/-! ## The oracles that judge the real `write_list` are consequences of the theorems

`lists.oracle.content` is `writeList_content`.  The two looser oracles: -/

/-- `lists.oracle.items` accepts every result of the model: the item strings of the written items occur
in the result as disjoint substrings, in order. -/
theorem writeList_passes_items_oracle (f : ListFormatting) (rc : Rc) (items : List ListItem)
    (out : List Char) (h : writeList f rc items = some out) :
    occursInOrder (itemStrings items) out = true := by
  obtain ⟨ps, rfl, hi, _⟩ := writeList_item_pieces f rc items out h
  rw [← hi]
  exact occursInOrder_of_embeds (embeds_items ps)

/-- `lists.oracle.comments` accepts every result of the model when the comment rewriter keeps the
non-blank characters: the squeezed comments occur in the squeezed result, in order. -/
theorem writeList_passes_comments_oracle (f : ListFormatting) (rc : Rc) (items : List ListItem)
    (out : List Char) (hrc : ∀ c bs sh r, rc c bs sh = some r → squeeze r = squeeze c)
    (h : writeList f rc items = some out) :
    occursInOrder (commentStrings items) (squeeze out) = true := by
  rw [writeList_content f rc items out hrc h]
  exact occursInOrder_of_embeds (embeds_comments f _ items 0)

example : occursInOrder (commentStrings exItems) (squeeze "/* p */ a, // q\n    bb, /* r */".toList) = true := by
  rw [String.toList_ofList]
  decide +kernel

/-- The items oracle does refuse a result that lost an item. -/
example : occursInOrder (itemStrings exItems) "/* p */ a, // q\n    , /* r */".toList = false := by
  rw [String.toList_ofList]
  decide +kernel

/-! ## C02: the layout decision -/

/-- **`definitive_tactic`, as the code has it.**  Horizontal iff no item has a `//` comment and either the
caller asked for Horizontal, or the caller asked for neither Vertical nor Horizontal and the measured
width (item widths, comment widths + 6 each, one separator width between neighbours) is within the limit
and no item or comment contains a newline. -/
theorem definitiveTactic_spec (items : List ListItem) (tactic : ListTactic) (sep : Separator) (width : Nat) :
    definitiveTactic items tactic sep width = .horizontal ↔
      items.any ListItem.hasSingleLineComment = false ∧
      (tactic = .horizontal ∨
        (tactic ≠ .vertical ∧ tactic ≠ .horizontal ∧
          realTotal items sep ≤ tacticLimit tactic width ∧ items.any ListItem.isMultiline = false)) := by
  rw [definitiveTactic_eq]
  generalize items.any ListItem.hasSingleLineComment = s
  cases s
  · simp only [Bool.false_eq_true, ↓reduceIte, true_and]
    split
    · simp only [true_iff]; assumption
    · split <;> simp only [reduceCtorEq, false_iff] <;> assumption
  · simp

example : definitiveTactic exItems .horizontalVertical .comma 100 = .vertical := by decide +kernel  -- `// q`
example : definitiveTactic [ListItem.fromStr "aaa".toList, ListItem.fromStr "bbb".toList]
    .horizontalVertical .comma 8 = .horizontal := by decide +kernel   -- 3 + 3 + 2 = 8
example : definitiveTactic [ListItem.fromStr "aaa".toList, ListItem.fromStr "bbb".toList]
    .horizontalVertical .comma 7 = .vertical := by decide +kernel
example : definitiveTactic [ListItem.fromStr "aaa".toList, ListItem.fromStr "bbb".toList]
    (.limitedHorizontalVertical 7) .comma 100 = .vertical := by decide +kernel
example : realTotal [ListItem.fromStr "aaa".toList, ListItem.fromStr "bbb".toList] .comma = 8 := by decide +kernel

/-- Mixed is chosen only for `ListTactic::Mixed`, when the horizontal layout is refused. -/
theorem definitiveTactic_mixed (items : List ListItem) (tactic : ListTactic) (sep : Separator) (width : Nat) :
    definitiveTactic items tactic sep width = .mixed ↔
      items.any ListItem.hasSingleLineComment = false ∧ tactic = .mixed ∧
        ¬(realTotal items sep ≤ width ∧ items.any ListItem.isMultiline = false) := by
  rw [definitiveTactic_eq]
  generalize items.any ListItem.hasSingleLineComment = s
  cases s
  · simp only [Bool.false_eq_true, ↓reduceIte, true_and]
    by_cases h : tactic = .mixed
    · subst h
      simp only [reduceCtorEq, ne_eq, not_false_eq_true, tacticLimit, true_and, false_or, ↓reduceIte]
      split
      · simp only [reduceCtorEq, false_iff, Classical.not_not]; assumption
      · simp only [true_iff]; assumption
    · simp only [h, ↓reduceIte, false_and, iff_false]
      split <;> simp
  · simp

example : definitiveTactic [ListItem.fromStr "aaa".toList, ListItem.fromStr "bbb".toList]
    .mixed .comma 7 = .mixed := by decide +kernel

/-- `SpecialMacro` is never chosen by `definitive_tactic`. -/
theorem definitiveTactic_not_specialMacro (items : List ListItem) (tactic : ListTactic) (sep : Separator)
    (width n : Nat) : definitiveTactic items tactic sep width ≠ .specialMacro n := by
  rw [definitiveTactic_eq]
  repeat' split
  all_goals simp

/-- **Stability of the decision (C02 mechanism).**  `definitive_tactic` reads of each item only its item
string and, of each comment, the trimmed text, whether it contains a newline and whether its last comment is
a line comment (`SameComment`).  Items re-read from a formatted list — same item strings, comments possibly
re-indented or trimmed but with the same trimmed text and the same answers to "contains a newline" and "ends
with a line comment" (that trimming keeps the latter is the remark after `definitiveTactic_horizontal_again`)
— get the same tactic, for every requested tactic, separator and width. -/
theorem definitiveTactic_stable (items items' : List ListItem) (tactic : ListTactic) (sep : Separator)
    (width : Nat) (h : Forall2 SameMeasure items items') :
    definitiveTactic items' tactic sep width = definitiveTactic items tactic sep width := by
  obtain ⟨h1, h2, h3, h4⟩ := sameMeasure_lists h
  rw [definitiveTactic_eq, definitiveTactic_eq, realTotal, realTotal, h1, h2, h3, h4]

example : Forall2 SameMeasure
    [⟨some " /* p */".toList, .sameLine, some "a".toList, some "/* q */ ".toList, false⟩]
    [⟨some "/* p */".toList, .differentLine, some "a".toList, some "/* q */".toList, true⟩] :=
  Forall2.cons ⟨rfl, by simp only [SameComment]; decide +kernel, by simp only [SameComment]; decide +kernel⟩ Forall2.nil

/-- In particular: a list that was laid out horizontally is laid out horizontally again when its items
come back with their comments passed through a rewriter `g` that keeps the trimmed text and introduces
no newline (what `rewrite_comment` does to a one-line comment under the default options). -/
theorem definitiveTactic_horizontal_again (g : List Char → List Char) (items : List ListItem)
    (tactic : ListTactic) (sep : Separator) (width : Nat)
    (hg : ∀ c, trim (g c) = trim c ∧ (hasNewline c = false → hasNewline (g c) = false) ∧
      endsWithLineComment (g c) = endsWithLineComment c)
    (h : definitiveTactic items tactic sep width = .horizontal) :
    definitiveTactic
      (items.map fun it => { it with preComment := it.preComment.map g, postComment := it.postComment.map g })
      tactic sep width = .horizontal := by
  have hf := mapComments_facts g hg
  rw [definitiveTactic_spec] at h ⊢
  obtain ⟨ha, hb⟩ := h
  have hw : realTotal (items.map fun it =>
      { it with preComment := it.preComment.map g, postComment := it.postComment.map g }) sep =
      realTotal items sep := by
    rw [realTotal, realTotal, List.map_map, List.length_map]
    congr 2
    exact List.map_congr_left fun it _ => (hf it).1
  refine ⟨?_, hb.imp_right fun ⟨hb1, hb2, hb3, hb4⟩ => ⟨hb1, hb2, hw ▸ hb3, ?_⟩⟩
  · rw [List.any_map, List.any_eq_false]
    intro it hit
    simp only [Function.comp, (hf it).2.2]
    exact List.any_eq_false.mp ha it hit
  · rw [List.any_map, List.any_eq_false]
    exact fun it hit => by simpa using (hf it).2.1 (by simpa using List.any_eq_false.mp hb4 it hit)

example : definitiveTactic
    [⟨some " /* p */".toList, .sameLine, some "a".toList, some "/* q */ ".toList, false⟩]
    .horizontalVertical .comma 40 = .horizontal := by decide +kernel

/-- `trim` keeps the trimmed text and introduces no newline (that it keeps the answer to "the last comment
is a line comment" is a statement about `CharClasses` on a text with and without its outer white space;
it is taken as a hypothesis above and checked on every case of the correspondence `lists.tactic`, where
both the trimmed and the untrimmed comment occur). -/
example : ∀ c, trim (trim c) = trim c ∧ (hasNewline c = false → hasNewline (trim c) = false) :=
  fun c => ⟨trim_idem c, hasNewline_trim c⟩

example : endsWithLineComment (trim " /* a */ // b \n".toList) = endsWithLineComment " /* a */ // b \n".toList := by
  decide +kernel

/-! ## C02 / C07: what was measured is what is written -/

/-- **A plain list written horizontally.**  For items without comments whose item strings are not empty,
a comma list without trailing separator written with the Horizontal tactic is the item strings joined by
`", "` (`horizGo 0`), for every comment rewriter, shape and configuration. -/
theorem writeList_horizontal_plain (f : ListFormatting) (rc : Rc) (items : List ListItem)
    (hf : f.tactic = .horizontal) (hsep : f.separator = [',']) (htr : f.trailingSeparator ≠ .always)
    (hitems : ∀ it ∈ items, Plain it) :
    writeList f rc items = some (horizGo 0 items) := by
  have hplace : placeOf f = .back := by simp [placeOf, SeparatorPlace.fromTactic, hf, hsep]
  have hts : (State.init f).trailingSeparator = false := by
    simp only [State.init, ListFormatting.needsTrailingSeparator, hf]
    cases h : f.trailingSeparator <;> simp_all
  have := loop_plain_horizontal (f := f) rc (indentString f.shape.indent f.config) hf hsep items 0
    (State.init f) hitems hts
  unfold writeList writeListPieces
  simp only [placeOf] at hplace
  rw [hplace, Option.map_map]
  simpa [State.init] using this

/-- **The horizontal layout fits.**  If `definitive_tactic` chose Horizontal by measuring (the caller asked
for HorizontalVertical, LimitedHorizontalVertical or Mixed) for plain items, a comma separator and
`width`, then the list written horizontally is exactly as wide as measured and at most `width` wide:
the decision and the writer agree on the width, to the column. -/
theorem writeList_horizontal_fits (f : ListFormatting) (rc : Rc) (items : List ListItem)
    (tactic : ListTactic) (width : Nat)
    (hf : f.tactic = .horizontal) (hsep : f.separator = [',']) (htr : f.trailingSeparator ≠ .always)
    (hitems : ∀ it ∈ items, Plain it) (ht : tactic ≠ .horizontal)
    (h : definitiveTactic items tactic .comma width = .horizontal) :
    ∃ out, writeList f rc items = some out ∧ strWidth out = realTotal items .comma ∧
      strWidth out ≤ width := by
  refine ⟨_, writeList_horizontal_plain f rc items hf hsep htr hitems, ?_⟩
  have hw : strWidth (horizGo 0 items) = realTotal items .comma := by
    rw [strWidth_horizGo_zero, realTotal]
    have : items.map totalItemWidth = items.map (fun it => strWidth it.innerAsRef) :=
      List.map_congr_left (fun it hit => totalItemWidth_plain (hitems it hit))
    rw [this]
    rfl
  refine ⟨hw, ?_⟩
  rw [hw]
  rw [definitiveTactic_spec] at h
  obtain ⟨_, h2⟩ := h
  rcases h2 with h2 | ⟨_, _, h3, _⟩
  · exact absurd h2 ht
  · have : tacticLimit tactic width ≤ width := by
      unfold tacticLimit; split <;> omega
    omega

example : writeList
    { ListFormatting.new (Shape.legacy 8 Indent.empty) ⟨false, 4, 100, 80⟩ false with tactic := .horizontal }
    rcTrim [ListItem.fromStr "aaa".toList, ListItem.fromStr "bbb".toList] = some "aaa, bbb".toList := by
  decide +kernel

example : Plain (ListItem.fromStr "aaa".toList) := ⟨rfl, rfl, _, rfl, by decide +kernel⟩

/-- One column less and `definitive_tactic` refuses the horizontal layout: the bound is tight. -/
example : definitiveTactic [ListItem.fromStr "aaa".toList, ListItem.fromStr "bbb".toList]
    .horizontalVertical .comma 7 = .vertical ∧ strWidth "aaa, bbb".toList = 8 := by decide +kernel

/-! ## The itemizing half: `ListItems::next` (C01 / C03 mechanism)

`itemize` (`RF/Model/ListsItemize.lean`) is the iterator that cuts the source text of a list into items and
the comments around them; tied to the code by the correspondence `lists.itemize`. -/

/-- The item a source element becomes: `leave_last` replaces the last one by `Err`. -/
def expectedItems (leaveLast : Bool) : List SourceItem → List (Option (List Char))
  | [] => []
  | src :: rest =>
    (if rest.isEmpty && leaveLast then none else src.itemString) :: expectedItems leaveLast rest

/-- **Itemizing keeps the items.**  Whenever the iterator runs to the end, it yields exactly one
`ListItem` per list element, in order, carrying that element's rewritten string (the last one `Err` under
`leave_last`): no element is dropped, duplicated or reordered, whatever stands in the gaps. -/
theorem itemize_items_in_order (separator terminator : List Char) (leaveLast : Bool) :
    ∀ (src : List SourceItem) (firstPre : List Char) (items : List ListItem),
      itemize separator terminator leaveLast firstPre src = some items →
      items.map (·.item) = expectedItems leaveLast src := by
  intro src
  induction src with
  | nil =>
    intro firstPre items h
    simp only [itemize, itemizeGo, Option.some.injEq] at h
    subst h
    rfl
  | cons s rest ih =>
    intro firstPre items h
    simp only [itemize, itemizeGo] at h
    split at h
    · rename_i pc pcs ce _ _
      split at h
      · rename_i nl post _ _
        split at h
        · rename_i its hrec
          simp only [Option.some.injEq] at h
          subst h
          have := ih _ _ hrec
          simp [expectedItems, this]
        · simp at h
      · simp at h
    · simp at h

/-- What `ListItems::next` computes for one element from its pre-snippet and its post-snippet. -/
def NextOK (separator terminator : List Char) (leaveLast isLast : Bool) (pre : List Char)
    (src : SourceItem) (item : ListItem) (commentEnd : Nat) : Prop :=
  getCommentEnd src.postSnippet separator terminator isLast = some commentEnd ∧
  extractPreComment pre = some (item.preComment, item.preCommentStyle) ∧
  extractPostComment src.postSnippet commentEnd separator isLast = some item.postComment ∧
  hasExtraNewline src.postSnippet commentEnd = some item.newLines ∧
  item.item = (if isLast && leaveLast then none else src.itemString)

/-- The whole run: every element is processed with the pre-snippet that the previous element left. -/
inductive ItemizeOK (separator terminator : List Char) (leaveLast : Bool) :
    List Char → List SourceItem → List ListItem → Prop where
  | nil (pre : List Char) : ItemizeOK separator terminator leaveLast pre [] []
  | cons {pre : List Char} {src : SourceItem} {rest : List SourceItem} {item : ListItem}
      {items : List ListItem} (commentEnd : Nat) :
      NextOK separator terminator leaveLast rest.isEmpty pre src item commentEnd →
      ItemizeOK separator terminator leaveLast (src.postSnippet.drop commentEnd) rest items →
      ItemizeOK separator terminator leaveLast pre (src :: rest) (item :: items)

/-- **The gaps are partitioned.**  The text after an element is split at `comment_end` into the part the
element's post-comment is taken from (`post_snippet[..comment_end]`) and the pre-snippet of the next element
(`post_snippet[comment_end..]`): the iterator looks at every character of every gap exactly once, as part
of exactly one of the two snippets (`take n l ++ drop n l = l`).  What each snippet becomes is decided by
`extract_post_comment` and `extract_pre_comment` alone. -/
theorem itemize_partitions_gaps (separator terminator : List Char) (leaveLast : Bool) :
    ∀ (src : List SourceItem) (firstPre : List Char) (items : List ListItem),
      itemize separator terminator leaveLast firstPre src = some items →
      ItemizeOK separator terminator leaveLast firstPre src items := by
  intro src
  induction src with
  | nil =>
    intro firstPre items h
    simp only [itemize, itemizeGo, Option.some.injEq] at h
    subst h
    exact .nil _
  | cons s rest ih =>
    intro firstPre items h
    simp only [itemize, itemizeGo] at h
    split at h
    · rename_i pc pcs ce hpre hce
      split at h
      · rename_i nl post hnl hpost
        split at h
        · rename_i its hrec
          simp only [Option.some.injEq] at h
          subst h
          exact .cons ce ⟨hce, hpre, hpost, hnl, rfl⟩ (ih _ _ hrec)
        · simp at h
      · simp at h
    · simp at h

/-- **A pre-comment is taken whole or not at all.**  `extract_pre_comment` returns the trimmed pre-snippet
when it starts with `//` or `/*` or ends with `*/`, and nothing otherwise; it never returns a part of it. -/
theorem extractPreComment_all_or_nothing (pre : List Char) (c : Option (List Char))
    (st : ListItemCommentStyle) (h : extractPreComment pre = some (c, st)) :
    (c = some (trim pre) ∧ (startsWith "//".toList (trim pre) = true ∨
        startsWith "/*".toList (trim pre) = true ∨ endsWith "*/".toList (trim pre) = true)) ∨
    (c = none ∧ st = .none ∧ startsWith "//".toList (trim pre) = false ∧
        startsWith "/*".toList (trim pre) = false ∧ endsWith "*/".toList (trim pre) = false) := by
  unfold extractPreComment at h
  simp only at h
  split at h
  · rename_i he
    split at h
    · simp at h
    · split at h
      · simp only [Option.some.injEq, Prod.mk.injEq] at h
        obtain ⟨rfl, _⟩ := h
        exact Or.inl ⟨rfl, Or.inr (Or.inr he)⟩
      · simp only [Option.some.injEq, Prod.mk.injEq] at h
        obtain ⟨rfl, _⟩ := h
        exact Or.inl ⟨rfl, Or.inr (Or.inr he)⟩
  · rename_i he
    split at h
    · rename_i hs
      simp only [Option.some.injEq, Prod.mk.injEq] at h
      obtain ⟨rfl, _⟩ := h
      simp only [Bool.or_eq_true] at hs
      rcases hs with hs | hs
      · exact Or.inl ⟨rfl, Or.inl hs⟩
      · exact Or.inl ⟨rfl, Or.inr (Or.inl hs)⟩
    · rename_i hs
      simp only [Option.some.injEq, Prod.mk.injEq] at h
      obtain ⟨rfl, rfl⟩ := h
      simp only [Bool.or_eq_true, not_or, Bool.not_eq_true] at hs he
      exact Or.inr ⟨rfl, rfl, hs.1, hs.2, he⟩

example : extractPreComment " /* a */ ".toList = some (some "/* a */".toList, .sameLine) := by decide +kernel
example : extractPreComment " /* a */\n ".toList = some (some "/* a */".toList, .differentLine) := by decide +kernel
example : extractPreComment " , ".toList = some (none, .none) := by decide +kernel

/-- "The post-comment is the comment text of the snippet" is FALSE of the code (known finding LW1, probe in
`harness/src/lists_corr.rs`, reproduced on the binary: `b: u32 /* y */ // last,` as the last parameter comes
out as `b: u32, /* y */ // last`): for the last element, a line comment whose text ends with the
separator, behind a block comment, loses that character: lists.rs:644-647 tests `ends_with(separator)` on
the text of the snippet, not on its code. -/
theorem extractPostComment_strips_comment_char_counterexample :
    extractPostComment " /* y */ // last,\n".toList 18 [','] true = some (some "/* y */ // last".toList) ∧
    commentContent " /* y */ // last,\n".toList = "/*y*///last,".toList := by
  constructor <;> decide +kernel

example : itemize [','] [')'] false [] [⟨some "a".toList, ", // one\n    ".toList⟩, ⟨some "b".toList, " /* two */\n".toList⟩]
    = some [⟨none, .none, some "a".toList, some "// one".toList, false⟩,
            ⟨none, .none, some "b".toList, some "/* two */".toList, false⟩] := by decide +kernel

/-! ## The struct-literal helpers (`struct_lit_shape`, `struct_lit_tactic`, `shape_for_tactic`,
`struct_lit_formatting`) -/

/-- Without a horizontal shape the tactic is Vertical. -/
theorem structLitTactic_none (c : StructLitConfig) (items : List ListItem) :
    structLitTactic none c items = .vertical := rfl

/-- With a horizontal shape the tactic is `definitive_tactic` on its width: asked for
HorizontalVertical when the style is Visual and there is one field, or `struct_lit_single_line` is on;
for Vertical otherwise. -/
theorem structLitTactic_spec (h : Shape) (c : StructLitConfig) (items : List ListItem) :
    structLitTactic (some h) c items =
      definitiveTactic items
        (if (c.indentStyle = .visual ∧ items.length = 1) ∨ c.structLitSingleLine = true then
          .horizontalVertical else .vertical) .comma h.width := by
  unfold structLitTactic
  by_cases h1 : c.indentStyle = .visual ∧ items.length = 1
  · simp [h1]
  · by_cases h2 : c.structLitSingleLine = true <;> simp [h1, h2]

/-- **`shape_for_tactic` never unwraps `None` after `struct_lit_tactic`.**  The tactic computed from
`h_shape` is Horizontal only if `h_shape` is there, so `h_shape.unwrap()` in `shape_for_tactic` cannot
panic on the pair the two callers (expr.rs, patterns.rs) pass. -/
theorem shapeForTactic_after_structLitTactic (hShape : Option Shape) (vShape : Shape)
    (c : StructLitConfig) (items : List ListItem) :
    shapeForTactic (structLitTactic hShape c items) hShape vShape ≠ none := by
  cases hShape with
  | none => simp [structLitTactic, shapeForTactic]
  | some h =>
    unfold shapeForTactic
    split <;> simp

/-- `shape_for_tactic` does panic on a Horizontal tactic without a horizontal shape. -/
example : shapeForTactic .horizontal none (Shape.legacy 10 Indent.empty) = none := rfl

/-- The horizontal shape of a struct literal: what is left of the width after prefix and suffix, capped
by `struct_lit_width`, at the indentation of the given shape; absent iff prefix and suffix do not fit. -/
theorem structLitShape_horizontal (shape : Shape) (c : StructLitConfig) (pw sw : Nat)
    (h : Option Shape) (v : Shape) (hok : structLitShape shape c pw sw = .ok (h, v)) :
    (pw + sw ≤ shape.width →
      h = some (Shape.legacy (min (shape.width - (pw + sw)) c.structLitWidth) shape.indent)) ∧
    (shape.width < pw + sw → h = none) := by
  unfold structLitShape at hok
  simp only at hok
  split at hok
  · simp at hok
  · simp only [Except.ok.injEq, Prod.mk.injEq] at hok
    obtain ⟨rfl, _⟩ := hok
    constructor
    · intro hle
      have : ¬ shape.width < pw + sw := by omega
      simp [checkedSub, this]
    · intro hlt
      simp [checkedSub, hlt]

example : structLitShape (Shape.legacy 40 (Indent.new 4 0)) ⟨.block, 4, 100, 18, true, .vertical⟩ 6 2 =
    .ok (some (Shape.legacy 18 (Indent.new 4 0)), ⟨92, Indent.new 8 0, 0⟩) := by decide +kernel

/-- `struct_lit_formatting`: comma behind, newlines preserved, comments aligned; the list "ends with a
newline" exactly for a Vertical list outside the Visual style; a forced `Never` overrides
`trailing_comma`. -/
theorem structLitFormatting_spec (shape : Shape) (tactic : DefinitiveListTactic) (c : StructLitConfig)
    (force : Bool) (config : Config) (nc : Bool) :
    let f := structLitFormatting shape tactic c force config nc
    f.tactic = tactic ∧ f.separator = [','] ∧ f.separatorPlace = .back ∧ f.shape = shape ∧
    f.preserveNewline = true ∧ f.nested = false ∧ f.alignComments = true ∧
    (f.endsWithNewline = true ↔ c.indentStyle = .block ∧ tactic = .vertical) ∧
    f.trailingSeparator = (if force then .never else c.trailingComma) := by
  refine ⟨rfl, rfl, rfl, rfl, rfl, rfl, rfl, ?_, rfl⟩
  simp only [structLitFormatting]
  cases c.indentStyle <;> simp

/-- **A struct literal laid out on one line fits its horizontal shape.**  When `struct_lit_tactic` answers
Horizontal for comment-free fields, the fields written with `struct_lit_formatting` (no forced trailing
comma `Always`) are exactly as wide as measured and fit the width of the horizontal shape, which is at
most `struct_lit_width`. -/
theorem structLit_horizontal_fits (h : Shape) (c : StructLitConfig) (items : List ListItem) (rc : Rc)
    (force : Bool) (config : Config) (nc : Bool)
    (hitems : ∀ it ∈ items, Plain it) (htc : force = true ∨ c.trailingComma ≠ .always)
    (ht : structLitTactic (some h) c items = .horizontal) :
    ∃ out, writeList (structLitFormatting h .horizontal c force config nc) rc items = some out ∧
      strWidth out ≤ h.width := by
  rw [structLitTactic_spec] at ht
  have htr : (structLitFormatting h .horizontal c force config nc).trailingSeparator ≠ .always := by
    simp only [structLitFormatting]
    rcases htc with rfl | htc
    · simp
    · cases force <;> simp [htc]
  have hne : (if (c.indentStyle = .visual ∧ items.length = 1) ∨ c.structLitSingleLine = true then
      ListTactic.horizontalVertical else ListTactic.vertical) ≠ .horizontal := by
    split <;> simp
  obtain ⟨out, hw, _, hle⟩ := writeList_horizontal_fits
    (structLitFormatting h .horizontal c force config nc) rc items _ h.width rfl rfl htr hitems hne ht
  exact ⟨out, hw, hle⟩

example : structLitTactic (some (Shape.legacy 18 (Indent.new 4 0))) ⟨.block, 4, 100, 18, true, .vertical⟩
    [ListItem.fromStr "a: 1".toList, ListItem.fromStr "b: 2".toList] = .horizontal := by decide +kernel

/-! ## No line comment in front of code on the same line -/

/-- **A horizontal list has no line comment.**  Whenever `definitive_tactic` answers Horizontal — also when
the caller forced `ListTactic::Horizontal` — no comment of any item starts with `//` or ends with a line
comment (`/* a */ // b`): in a one-line layout such a comment would swallow the tokens after it. -/
theorem definitiveTactic_horizontal_no_line_comment (items : List ListItem) (tactic : ListTactic)
    (sep : Separator) (width : Nat) (h : definitiveTactic items tactic sep width = .horizontal) :
    ∀ it ∈ items, ∀ c, (it.preComment = some c ∨ it.postComment = some c) →
      isOrEndsWithLineComment c = false := by
  rw [definitiveTactic_spec] at h
  obtain ⟨hs, _⟩ := h
  intro it hit c hc
  have := List.any_eq_false.mp hs it hit
  simp only [ListItem.hasSingleLineComment, Bool.not_eq_true, Bool.or_eq_false_iff] at this
  rcases hc with hc | hc
  · simpa [hc, optAny] using this.1
  · simpa [hc, optAny] using this.2

example : definitiveTactic [⟨none, .none, some "a".toList, some "/* x */ // y".toList, false⟩]
    .horizontal .comma 100 = .vertical := by decide +kernel

/-- **A pre-comment kept on the item's line ends with a block comment.**  `extract_pre_comment` answers
`SameLine` (the only style for which `write_list` may put the item behind the comment on one line) only
for a snippet that ends with `*/`. -/
theorem extractPreComment_sameLine_ends_block (pre : List Char) (c : Option (List Char))
    (h : extractPreComment pre = some (c, .sameLine)) : endsWith "*/".toList (trim pre) = true := by
  unfold extractPreComment at h
  simp only at h
  split at h
  · rename_i he; exact he
  · split at h <;> simp at h

/-! ## Under the default comment options the hypothesis about the rewriter is discharged -/

/-- **`write_list` with the default comment options.**  With `rewriteCommentLight` — the model of
`rewrite_comment` for `normalize_comments = wrap_comments = false`, compared with the real function by
`lists.rc` — in the place of `rc`, the non-blank characters of the result are exactly `contentSpec`: every
item string and every comment of a written item, each once, in order, plus the separators the
specification demands, and nothing else.  No hypothesis is left. -/
theorem writeList_content_default (f : ListFormatting) (items : List ListItem) (out : List Char)
    (h : writeList f (rewriteCommentLight f.config) items = some out) :
    squeeze out = contentSpec f items :=
  writeList_content f _ items out (RF.Lemmas.ListsRc.rewriteCommentLight_content f.config) h

example : writeList exFmt (rewriteCommentLight exFmt.config) exItems =
    some "/* p */ a, // q\n    bb, /* r */".toList := by
  rw [String.toList_ofList]
  decide +kernel

end RF.Props.Lists

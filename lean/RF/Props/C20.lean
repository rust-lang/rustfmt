import RF.Lemmas.Backup

/-!
# C20  The --backup write protocol never loses the original

The op lists are `RF.Gen.Emitters.fsOps`, generated from `src/emitter/files_with_backup.rs` and
`src/emitter/files.rs` on every run; the semantics (non-atomic `write`, atomic `rename`, a crash
at any instant, any single op failing, `?` skipping the rest) is `RF/Model/Backup.lean`.

Quantification: every byte type `β`, every original and formatted text, every pre-existing
content of the `.tmp` and `.bk` siblings (NO precondition on them is needed: a stale `.tmp` is
truncated by the write, a stale `.bk` is replaced by the atomic rename), every reachable
crash/fault state.  `disk` is what the file holds when the emitter starts; the guard compares
`origText` (what `write_file` took for the original), which the theorems do not assume equal to
`disk`.

What IS needed, and is stated as a hypothesis wherever several paths live in one file system, is
that the three paths `file`, `file.with_extension("tmp")`, `file.with_extension("bk")` are pairwise
distinct and distinct from those of every other file of the run.  rustfmt does not ensure it;
the `…_counterexample` theorems below reproduce runs of the binary (findings C20-F20a–c).
-/
namespace RF.Props.C20
open RF.Gen.Emitters RF.Backup

/-- Soundness of the executable oracle `checkProtocol` (driver op `bk.check`): an accepted op list
keeps both invariants (`Safe`) in every state reachable by crashes and faults. -/
theorem checkProtocol_sound {β : Type} (ops : List FsOp) (hc : checkProtocol ops = true)
    (orig fmt : List β) (fs s : Fs P β) (h0 : fs .file = some orig)
    (r : Reachable id fmt ops fs s) : Safe orig fmt s :=
  RF.Lemmas.Backup.checkProtocol_sound ops hc orig fmt fs s h0 r

/-- `Safe`, spelled out (holds by unfolding). -/
theorem safe_def {β : Type} (orig fmt : List β) (s : Fs P β) :
    Safe orig fmt s ↔
      (s .file = some orig ∨ s .bk = some orig) ∧
      (s .file = none ∨ s .file = some orig ∨ s .file = some fmt) :=
  Iff.rfl

/-- The executable `safeB` (driver op `bk.safe`, evaluated on the directory contents the harness
observes after killing the real binary) decides exactly `Safe`. -/
theorem safeB_iff {β : Type} [DecidableEq β] (orig fmt : List β) (s : Fs P β) :
    safeB orig fmt (s .file) (s .bk) = true ↔ Safe orig fmt s :=
  RF.Lemmas.Backup.safeB_iff orig fmt s

/-- Completeness of the state enumeration used as an oracle (driver op `bk.observed`): every
state the semantics can reach is described by one of the abstract states of `bk.states`.  So a
directory the harness observes that is NOT accepted is outside the model — a disagreement. -/
theorem reachable_observedOk {β : Type} [DecidableEq β] (ops : List FsOp) (orig fmt : List β)
    (fs s : Fs P β) (h0 : fs .file = some orig) (r : Reachable id fmt ops fs s) :
    observedOk ops orig fmt (s .file) (s .tmp) (s .bk) = true :=
  RF.Lemmas.Backup.reachable_observedOk ops orig fmt fs s h0 r

/-- The generated backup protocol passes the oracle. -/
theorem backup_protocol_checks : checkProtocol (fsOps .filesWithBackup) = true := by decide +kernel

/-- **backup_safe.**  Start the generated `--backup` op list in any file system whose file holds
`orig`.  In every state observable at a crash point, inside the non-atomic write, or after any
single failing op: the complete original is in the file or in the `.bk`, and the file is absent,
the complete original, or the complete formatted text — never a partial one. -/
theorem backup_safe {β : Type} (orig fmt : List β) (fs s : Fs P β) (h0 : fs .file = some orig)
    (r : Reachable id fmt (fsOps .filesWithBackup) fs s) :
    (s .file = some orig ∨ s .bk = some orig) ∧
    (s .file = none ∨ s .file = some orig ∨ s .file = some fmt) :=
  checkProtocol_sound _ backup_protocol_checks orig fmt fs s h0 r

/-- The same under the emitter's guard, whatever text the guard compared (`origText`). -/
theorem backup_safe_guarded {β : Type} [DecidableEq β] (disk origText fmt : List β)
    (fs s : Fs P β) (h0 : fs .file = some disk)
    (r : Reachable id fmt (guardedOps .filesWithBackup origText fmt) fs s) :
    Safe disk fmt s := by
  by_cases e : origText = fmt
  · rw [e, RF.Lemmas.Backup.guardedOps_self] at r
    rw [RF.Lemmas.Backup.reachable_nil id fmt fs s r]
    exact RF.Lemmas.Backup.safe_init h0
  · rw [RF.Lemmas.Backup.guardedOps_of_ne _ e] at r
    exact backup_safe disk fmt fs s h0 r

/-- `backup_safe` inside a larger file system: if the file's three paths are distinct keys, the
invariants hold on them and no other path changes. -/
theorem backup_safe_paths {κ β : Type} [DecidableEq κ] (ρ : P → κ) (hρ : Function.Injective ρ)
    (orig fmt : List β) (g s : Fs κ β) (h0 : g (ρ .file) = some orig)
    (r : Reachable ρ fmt (fsOps .filesWithBackup) g s) :
    Safe orig fmt (s ∘ ρ) ∧ ∀ k, (∀ p, ρ p ≠ k) → s k = g k :=
  RF.Lemmas.Backup.checkProtocol_sound_paths hρ _ backup_protocol_checks orig fmt g s h0 r

/-- The state after a successful run is one of the states the safety theorems speak about. -/
theorem final_is_reachable {κ β : Type} [DecidableEq κ] (ρ : P → κ) (fmt : List β)
    (ops : List FsOp) (fs s : Fs κ β) (h : run ρ fmt ops fs = some s) :
    Reachable ρ fmt ops fs s := by
  simpa using RF.Lemmas.Backup.reachable_of_run_prefix ρ fmt ops [] fs s h

/-- **backup_final.**  A run in which every op succeeds ends with the formatted text in the file,
the original in the `.bk`, and no `.tmp`; and it always can succeed when the file exists. -/
theorem backup_final {β : Type} (orig fmt : List β) (fs : Fs P β) (h0 : fs .file = some orig) :
    ∃ s, run id fmt (fsOps .filesWithBackup) fs = some s ∧
      s .file = some fmt ∧ s .bk = some orig ∧ s .tmp = none := by
  exact ⟨_, RF.Lemmas.Backup.run_backup (ρ := id) (by decide) (by decide) fmt h0, rfl, rfl, rfl⟩

/-- **unchanged_no_bk.**  When the guard finds the texts equal, no op runs: the only observable
state is the start state (so no `.bk` and no `.tmp` appear, nothing is touched). -/
theorem unchanged_no_bk {κ β : Type} [DecidableEq κ] [DecidableEq β] (ρ : P → κ)
    (kind : EmitterKind) (text : List β) (fs s : Fs κ β) :
    guardedOps kind text text = [] ∧
    (Reachable ρ text (guardedOps kind text text) fs s → s = fs) ∧
    run ρ text (guardedOps kind text text) fs = some fs := by
  rw [RF.Lemmas.Backup.guardedOps_self]
  exact ⟨rfl, RF.Lemmas.Backup.reachable_nil ρ text fs s, rfl⟩

/-- **multi_file_independent.**  A run over several files (`GReachable`: every earlier file left
in any of its reachable states, completed or abandoned at a fault; the current one anywhere),
each executing the backup op list or nothing.  Hypotheses, explicit: each file's three paths are
pairwise distinct (`hinj`), and no path of one file is a path of another (`hdis`; "distinct
stems": `with_extension` REPLACES the extension, so `a.rs` and `a.txt` share `a.tmp`, `a.bk`).
Then at every crash point of the whole run every file satisfies both invariants. -/
theorem multi_file_independent {κ β : Type} [DecidableEq κ] (js : List (Job κ β))
    (hops : ∀ j ∈ js, j.ops = fsOps .filesWithBackup ∨ j.ops = [])
    (hinj : ∀ j ∈ js, Function.Injective j.paths)
    (hdis : js.Pairwise (fun a b => ∀ p q, a.paths p ≠ b.paths q))
    (g t : Fs κ β) (h0 : ∀ j ∈ js, g (j.paths .file) = some j.disk)
    (r : GReachable js g t) :
    ∀ j ∈ js, Safe j.disk j.fmt (t ∘ j.paths) := by
  refine RF.Lemmas.Backup.multi_file js g t hinj hdis (fun j hj => ?_) h0 r
  rcases hops j hj with h | h <;> rw [h] <;> decide

/-! ### The path hypotheses are needed -/

/-- `rustfmt --backup a.rs a.txt`: both files resolve to `a.tmp` / `a.bk`.  Keys: 0 = `a.rs`,
1 = `a.txt`, 2 = `a.tmp`, 3 = `a.bk`.  After the (fault-free) run `a.bk` holds the original of
`a.txt`; the original of `a.rs` is nowhere. -/
theorem shared_stem_counterexample :
    let j1 : Job Nat Nat := ⟨fun | .file => 0 | .tmp => 2 | .bk => 3, [1], [10], fsOps .filesWithBackup⟩
    let j2 : Job Nat Nat := ⟨fun | .file => 1 | .tmp => 2 | .bk => 3, [2], [20], fsOps .filesWithBackup⟩
    let g : Fs Nat Nat := fun k => if k = 0 then some [1] else if k = 1 then some [2] else none
    Function.Injective j1.paths ∧ Function.Injective j2.paths ∧
    ∃ t, GReachable [j1, j2] g t ∧ ¬ Safe j1.disk j1.fmt (t ∘ j1.paths) ∧
      ∀ k, t k ≠ some [1] := by
  intro j1 j2 g
  -- after the first job `a.bk` (key 3) holds `[1]`; the second job renames `a.txt` over it
  refine ⟨?_, ?_, _, .next j1 _ g _ _ (final_is_reachable _ _ _ _ _
      (RF.Lemmas.Backup.run_backup (ρ := j1.paths) (by decide) (by decide) j1.fmt (d := [1]) rfl))
    (.next j2 _ _ _ _ (final_is_reachable _ _ _ _ _
      (RF.Lemmas.Backup.run_backup (ρ := j2.paths) (by decide) (by decide) j2.fmt (d := [2]) rfl))
      (.here _ _)),
    RF.Lemmas.Backup.not_safe_of_lost _ ?lost, ?lost⟩
  · intro p q; cases p <;> cases q <;> simp [j1]
  · intro p q; cases p <;> cases q <;> simp [j2]
  · intro k
    rcases k with _ | _ | _ | _ | k <;> simp [j1, j2, g]

/-- `rustfmt --backup x.bk`: `x.bk`.with_extension("bk") is the file itself (`bk ↦ file`).  The
run succeeds, the file holds the formatted text, and the original is in neither place. -/
theorem backup_of_bk_file_counterexample :
    let ρ : P → P := fun | .file => .file | .tmp => .tmp | .bk => .file
    let fs : Fs P Nat := fun | .file => some [1] | _ => none
    ∃ s, run ρ [2] (fsOps .filesWithBackup) fs = some s ∧ ¬ Safe [1] [2] (s ∘ ρ) ∧
      ∀ k, s k ≠ some [1] := by
  intro ρ fs
  refine ⟨_, RF.Lemmas.Backup.run_backup (ρ := ρ) (by decide) (by decide) [2] (d := [1]) rfl,
    RF.Lemmas.Backup.not_safe_of_lost _ ?lost, ?lost⟩
  intro k; cases k <;> simp [ρ, fs]

/-- `rustfmt --backup x.tmp`: the temporary IS the file (`tmp ↦ file`).  The write destroys the
original at once (any prefix of the formatted text can be seen in the file), the first rename moves
the formatted text to `x.bk`, the second rename fails (exit 1): no file, the original nowhere. -/
theorem backup_of_tmp_file_counterexample :
    let ρ : P → P := fun | .file => .file | .tmp => .file | .bk => .bk
    let fs : Fs P Nat := fun | .file => some [1] | _ => none
    run ρ [2] (fsOps .filesWithBackup) fs = none ∧
    ∃ s, Reachable ρ [2] (fsOps .filesWithBackup) fs s ∧ s .file = none ∧ s .bk = some [2] ∧
      ¬ Safe [1] [2] (s ∘ ρ) := by
  intro ρ fs
  refine ⟨by simp [fsOps, run, step, Fs.set, ρ, fs], ?_⟩
  have h : run ρ [2] [FsOp.write .tmp, .rename .file .bk] fs = some _ := rfl
  refine ⟨_, RF.Lemmas.Backup.reachable_of_run_prefix ρ [2] _ [.rename .tmp .file] fs _ h,
    ?_, ?_, ?_⟩
  · simp [Fs.set, ρ]
  · simp [Fs.set, ρ]
  · simp [Safe, ρ, Fs.set]

/-- **plain_files_not_crash_safe.**  The in-place emitter (`fsOps .files`: one
`fs::write(filename, …)`) can leave the file holding neither text: for ANY original and any
formatted text of at least two bytes there is a reachable state whose file is a strict prefix of
the formatted text different from the original. -/
theorem plain_files_not_crash_safe {β : Type} (orig fmt : List β) (h2 : 2 ≤ fmt.length)
    (fs : Fs P β) :
    ∃ s, Reachable id fmt (fsOps .files) fs s ∧
      s .file ≠ none ∧ s .file ≠ some orig ∧ s .file ≠ some fmt := by
  match fmt, h2 with
  | x :: y :: rest, _ =>
    by_cases ho : orig = []
    · refine ⟨_, .inside _ _ fs _ (.write .file fs 1 (by simp)), ?_, ?_, ?_⟩ <;>
        simp [Fs.set, ho]
    · refine ⟨_, .inside _ _ fs _ (.write .file fs 0 (by simp)), ?_, ?_, ?_⟩ <;>
        simp [Fs.set]
      exact ho

/-- The oracle rejects the plain emitter's op list. -/
theorem plain_files_rejected : checkProtocol (fsOps .files) = false := by decide +kernel

/-- **Sensitivity 1.**  Swap the two renames (`tmp → file` before `file → bk`): the oracle rejects
the list, and concretely, after the first rename the original exists nowhere. -/
theorem swapped_renames_violates :
    let ops := [FsOp.write .tmp, .rename .tmp .file, .rename .file .bk]
    let fs : Fs P Nat := fun | .file => some [1] | _ => none
    checkProtocol ops = false ∧
    ∃ s, Reachable id [2] ops fs s ∧ ¬ Safe [1] [2] s ∧ ∀ p, s p ≠ some [1] := by
  intro ops fs
  refine ⟨by decide, ?_⟩
  have h : run id [2] [FsOp.write .tmp, .rename .tmp .file] fs = some _ := rfl
  refine ⟨_, RF.Lemmas.Backup.reachable_of_run_prefix id [2] _ [.rename .file .bk] fs _ h,
    RF.Lemmas.Backup.not_safe_of_lost id ?lost, ?lost⟩
  intro p; cases p <;> simp [Fs.set, fs]

/-- **Sensitivity 2.**  Write the file in place first and back up afterwards: the oracle rejects
the list, and a crash inside the write leaves a partial file and no original. -/
theorem write_file_first_violates :
    let ops := [FsOp.write .file, .rename .file .bk]
    let fs : Fs P Nat := fun | .file => some [1] | _ => none
    checkProtocol ops = false ∧
    ∃ s, Reachable id [2, 3] ops fs s ∧ ¬ Safe [1] [2, 3] s ∧ s .file = some [2] := by
  intro ops fs
  refine ⟨by decide, _, .inside _ _ fs _ (.write .file fs 1 (by simp)), ?_, ?_⟩
  · simp [Safe, Fs.set, fs]
  · simp [Fs.set]

/-- **Sensitivity 3.**  Back up by renaming first and only then write the file in place
(`rename file bk; write file`): the original is always safe in `.bk`, but the oracle still
rejects the list because the file can be seen partial — the second invariant bites on its own. -/
theorem rename_then_write_violates :
    checkProtocol [FsOp.rename .file .bk, .write .file] = false ∧
    protocolViolation [FsOp.rename .file .bk, .write .file] = some ⟨.part, .any, .orig⟩ := by
  decide +kernel

/-- the hypotheses of `backup_safe` are met by a real crash state: the process dies after the
first rename; the file is absent and the `.bk` holds the original -/
example :
    let fs : Fs P Nat := fun | .file => some [1] | .tmp => some [9, 9] | .bk => some [7]
    ∃ s, Reachable id [2] (fsOps .filesWithBackup) fs s ∧ s .file = none ∧ s .bk = some [1] := by
  intro fs
  have h : run id [2] [FsOp.write .tmp, .rename .file .bk] fs = some _ := rfl
  refine ⟨_, RF.Lemmas.Backup.reachable_of_run_prefix id [2] _ [.rename .tmp .file] fs _ h, ?_, ?_⟩
  · simp [Fs.set]
  · simp [Fs.set]

/-- `observedOk` is not trivially true: a directory with a half-written file is rejected for the
backup protocol and accepted for the plain one -/
example :
    observedOk (fsOps .filesWithBackup) [1] [2, 3] (some [2]) none none = false ∧
    observedOk (fsOps .files) [1] [2, 3] (some [2]) none none = true ∧
    observedOk (fsOps .filesWithBackup) [1] [2, 3] none (some [2, 3]) (some [1]) = true := by
  decide +kernel

/-- the hypotheses of `multi_file_independent` are met by two files with distinct stems
(keys: 0,1,2 = `a.rs`,`a.tmp`,`a.bk`; 3,4,5 = `b.rs`,`b.tmp`,`b.bk`) -/
example :
    let j1 : Job Nat Nat := ⟨fun | .file => 0 | .tmp => 1 | .bk => 2, [1], [10], fsOps .filesWithBackup⟩
    let j2 : Job Nat Nat := ⟨fun | .file => 3 | .tmp => 4 | .bk => 5, [2], [2], []⟩
    (∀ j ∈ [j1, j2], j.ops = fsOps .filesWithBackup ∨ j.ops = []) ∧
    (∀ j ∈ [j1, j2], Function.Injective j.paths) ∧
    [j1, j2].Pairwise (fun a b => ∀ p q, a.paths p ≠ b.paths q) := by
  intro j1 j2
  refine ⟨by simp [j1, j2], ?_, ?_⟩
  · intro j hj
    simp only [List.mem_cons, List.mem_nil_iff, or_false] at hj
    rcases hj with rfl | rfl <;> intro p q <;> cases p <;> cases q <;> simp [j1, j2]
  · simp only [List.pairwise_cons, List.mem_cons, or_false, forall_eq,
      List.not_mem_nil, false_imp_iff, implies_true, List.Pairwise.nil, and_true]
    intro p q; cases p <;> cases q <;> simp [j1, j2]

end RF.Props.C20

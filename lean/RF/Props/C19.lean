import RF.Lemmas.FormatDiff
import RF.Model.Shape -- the instance `RF.Shape.decEqExcept`, for deciding `scanDiff … = .ok …`

/-!
# C19  format-diff turns a patch into exactly the lines it added

Theorems about `RF.FormatDiff`: the model of `scan_diff`'s two regular expressions (with the
`regex` crate's Unicode `\s`, `\d` and leftmost-first preference), of the `scan_diff` loop, and of
`run_rustfmt` / `main`; compared with `spec`, a reader of unified diffs that follows the hunk
line counts and never looks at a hunk body line as a header.

Quantification: every list of lines (over all of Unicode), every `-p` value `skip`, every filter
predicate `accepts` (the user's pattern is run by the real engine; the model takes the resulting
predicate), both variants of the hunk pattern (`lazy = false`: the greedy
`^@@.*\+(\d+)(,(\d+))?` of the pinned tree; `lazy = true`: its repair `^@@.*?\+…`; which of the two
the tree has now is `RF.Gen.DiffPatterns.hunkIsLazy`, see `C19cur`), both build profiles
(`checked`: overflow checks on / off) and every behaviour of the spawned rustfmt.
-/
namespace RF.Props.C19
open RF.FormatDiff

/-- Test vectors are written as string literals; their proofs turn every `L "…"` into a list of
character literals (`Lemmas.FormatDiff.toList_lit`) before they evaluate. -/
private def L (s : String) : List Char := s.toList

/-- On every well-formed unified diff (`specWalk … = some evs`: hunk bodies have exactly the
announced numbers of old and new lines, every `@@` line outside a hunk is a strict hunk header,
every `+++ ` line has at least `skip` path components) in which
* (greedy pattern only) nothing after the post-image `+` of a hunk header looks like `+digit`,
* no hunk body line is matched by the header pattern (no added line starting `++ ` + enough `/`),
* every post-image `start + count` is below 2^32,
`scan_diff` does not panic and returns exactly the ranges of the specification, in order. -/
theorem scan_eq_spec_partial (cfg : Cfg) (lines : List (List Char))
    (h : specHyp cfg.lazy cfg.skip lines = true) :
    ∃ out, spec cfg.skip cfg.accepts lines = some out ∧ scanDiff cfg lines = .ok out := by
  unfold specHyp at h
  split at h
  · rename_i evs hevs
    simp only [Bool.and_eq_true, Bool.or_eq_true] at h
    refine ⟨specRanges cfg.accepts none evs, by simp [spec, hevs], ?_⟩
    apply RF.Lemmas.FormatDiff.scanLoop_eq_spec cfg lines 0 0 none evs hevs _ h.1.2 h.2
    intro hl
    rcases h.1.1 with h' | h'
    · rw [hl] at h'; cases h'
    · exact h'
  · cases h

/-- A diff with two files, three hunks (one with a missing count, one pure deletion), context
lines, a `\ No newline` marker and git's extra header lines satisfies the hypotheses — for the
greedy pattern too — and yields three ranges. -/
private def sample : List (List Char) :=
  [L "diff --git a/src/x.rs b/src/x.rs", L "index 1..2 100644", L "--- a/src/x.rs",
   L "+++ b/src/x.rs", L "@@ -1,3 +1,4 @@ fn f() {", L " a", L "-b", L "+c", L "+d", L " e",
   L "@@ -10 +11,0 @@", L "-z", L "@@ -20,0 +21 @@ impl X", L "+y", L "\\ No newline at end of file",
   L "--- a/doc.md\t2024-01-01", L "+++ b/doc.md\t2024-01-02", L "@@ -0,0 +1,2 @@", L "+p", L "+q"]

example : specHyp false 1 sample = true := by
  simp (disch := rfl) only [sample, L, RF.Lemmas.FormatDiff.toList_lit]
  decide +kernel
example : spec 1 (fun f => f != L "doc.md") sample =
    some [⟨L "src/x.rs", 1, 4⟩, ⟨L "src/x.rs", 21, 21⟩] := by
  simp (disch := rfl) only [sample, L, RF.Lemmas.FormatDiff.toList_lit]
  decide +kernel
example : spec 1 (fun _ => true) sample =
    some [⟨L "src/x.rs", 1, 4⟩, ⟨L "src/x.rs", 21, 21⟩, ⟨L "doc.md", 1, 2⟩] := by
  simp (disch := rfl) only [sample, L, RF.Lemmas.FormatDiff.toList_lit]
  decide +kernel

/-- With the lazy pattern (the repair of F10) the section-text hypothesis is not needed: on every
well-formed diff without `++ ` body lines and with numbers in range, the scanner with `lazy = true`
equals the specification. -/
theorem repaired_scan_eq_spec_partial (checked : Bool) (skip : Nat) (accepts : List Char → Bool)
    (lines : List (List Char)) (evs : List Ev)
    (hwf : specWalk skip 0 0 lines = some evs) (hbody : bodyClean skip evs = true)
    (hfit : fitsU32 evs = true) :
    spec skip accepts lines = some (specRanges accepts none evs) ∧
    scanDiff ⟨true, checked, skip, accepts⟩ lines = .ok (specRanges accepts none evs) :=
  ⟨by simp [spec, hwf],
   RF.Lemmas.FormatDiff.scanLoop_eq_spec ⟨true, checked, skip, accepts⟩ lines 0 0 none evs hwf
     (fun hl => by cases hl) hbody hfit⟩

example : specHyp true 1
    [L "+++ b/x.rs", L "@@ -1,3 +1,4 @@ fn f() { x +7 }", L " a", L "+b", L " c", L " d"] = true := by
  simp (disch := rfl) only [L, RF.Lemmas.FormatDiff.toList_lit]
  decide +kernel
example : specHyp false 1
    [L "+++ b/x.rs", L "@@ -1,3 +1,4 @@ fn f() { x +7 }", L " a", L "+b", L " c", L " d"] = false := by
  simp (disch := rfl) only [L, RF.Lemmas.FormatDiff.toList_lit]
  decide +kernel

/-- F10.  The greedy pattern takes the LAST `+digits` of a hunk header line: a section text that
contains `+7` makes `scan_diff` report line 7 instead of lines 1–4.  The line is a strict hunk
header and the diff is well formed; the specification says 1–4. -/
theorem greedy_counterexample :
    hunkMatch false (L "@@ -1,3 +1,4 @@ fn f() { x +7 }") = some (['7'], none) ∧
    scanDiff ⟨false, true, 1, fun _ => true⟩
      [L "+++ b/x.rs", L "@@ -1,3 +1,4 @@ fn f() { x +7 }", L " a", L "+b", L " c", L " d"]
      = .ok [⟨L "x.rs", 7, 7⟩] ∧
    spec 1 (fun _ => true)
      [L "+++ b/x.rs", L "@@ -1,3 +1,4 @@ fn f() { x +7 }", L " a", L "+b", L " c", L " d"]
      = some [⟨L "x.rs", 1, 4⟩] := by
  simp (disch := rfl) only [L, RF.Lemmas.FormatDiff.toList_lit]
  decide +kernel

/-- … and the lazy variant gets that diff right. -/
theorem lazy_fixes_counterexample :
    hunkMatch true (L "@@ -1,3 +1,4 @@ fn f() { x +7 }") = some (['1'], some ['4']) ∧
    scanDiff ⟨true, true, 1, fun _ => true⟩
      [L "+++ b/x.rs", L "@@ -1,3 +1,4 @@ fn f() { x +7 }", L " a", L "+b", L " c", L " d"]
      = .ok [⟨L "x.rs", 1, 4⟩] := by
  simp (disch := rfl) only [L, RF.Lemmas.FormatDiff.toList_lit]
  decide +kernel

/-- F15.  An added line whose text is `++ b/other.rs` reads `+++ b/other.rs` in the diff and is
taken for a file header: the next hunk of `x.rs` is attributed to `other.rs` (both variants of
the hunk pattern).  The specification, which counts the hunk's lines, keeps `x.rs`. -/
theorem plusplus_body_counterexample :
    (∀ lazy, scanDiff ⟨lazy, true, 1, fun _ => true⟩
      [L "+++ b/x.rs", L "@@ -1,2 +1,3 @@", L " a", L "+++ b/other.rs", L " c",
       L "@@ -10 +11,2 @@", L " d", L "+e"]
      = .ok [⟨L "x.rs", 1, 3⟩, ⟨L "other.rs", 11, 12⟩]) ∧
    spec 1 (fun _ => true)
      [L "+++ b/x.rs", L "@@ -1,2 +1,3 @@", L " a", L "+++ b/other.rs", L " c",
       L "@@ -10 +11,2 @@", L " d", L "+e"]
      = some [⟨L "x.rs", 1, 3⟩, ⟨L "x.rs", 11, 12⟩] := by
  simp (disch := rfl) only [L, RF.Lemmas.FormatDiff.toList_lit]
  decide +kernel

/-- A hunk header whose post-image count is 0 (a pure deletion) pushes no range, whatever the
state: the line either panics (start not a `u32`) or contributes nothing. -/
theorem zero_count_skipped (cfg : Cfg) (cur cur' : Option (List Char)) (line g1 g : List Char)
    (r : FileRange) (hm : hunkMatch cfg.lazy line = some (g1, some g))
    (h0 : parseU32 g = .ok 0) : scanLine cfg cur line ≠ .ok (cur', some r) := by
  intro h
  obtain ⟨_, _, _, _, count, hm', _, hc, hne, _⟩ := RF.Lemmas.FormatDiff.scanLine_some h
  rw [hm] at hm'
  cases hm'
  exact hne (Except.ok.inj (h0.symm.trans hc)).symm

example : hunkMatch false (L "@@ -3,2 +2,0 @@") = some (['2'], some ['0']) ∧
    parseU32 ['0'] = .ok 0 := by
  simp (disch := rfl) only [L, RF.Lemmas.FormatDiff.toList_lit]
  decide +kernel
example : scanLine ⟨false, true, 0, fun _ => true⟩ (some (L "x.rs")) (L "@@ -3,2 +2,0 @@") =
    .ok (some (L "x.rs"), none) := by
  simp (disch := rfl) only [L, RF.Lemmas.FormatDiff.toList_lit]
  decide +kernel

/-- A hunk header without a post-image count stands for one line: the range pushed is
`[start, start]`. -/
theorem missing_count_is_one (cfg : Cfg) (file line g1 : List Char) (s : Nat)
    (hh : headerMatch cfg.skip line = none) (hacc : cfg.accepts file = true)
    (hm : hunkMatch cfg.lazy line = some (g1, none)) (hs : parseU32 g1 = .ok s)
    (hfit : s + 1 < 2 ^ 32) :
    scanLine cfg (some file) line = .ok (some file, some ⟨file, s, s⟩) := by
  unfold scanLine
  simp only [hh, hacc, hm, hs, Bool.not_true, Bool.false_eq_true, if_false, Nat.succ_ne_zero,
    RF.Lemmas.FormatDiff.endLine_ok cfg.checked s 1 (Nat.le_refl _) hfit]
  rfl

example : scanLine ⟨false, true, 0, fun _ => true⟩ (some (L "x.rs")) (L "@@ -3,2 +12 @@") =
    .ok (some (L "x.rs"), some ⟨L "x.rs", 12, 12⟩) := by
  simp (disch := rfl) only [L, RF.Lemmas.FormatDiff.toList_lit]
  decide +kernel

/-- Every range `scan_diff` returns names a file that passes the filter (and fits `u32`). -/
theorem nonmatching_files_contribute_nothing (cfg : Cfg) (lines : List (List Char))
    (rs : List FileRange) (h : scanDiff cfg lines = .ok rs) :
    ∀ r ∈ rs, cfg.accepts r.file = true ∧ r.lo < 2 ^ 32 ∧ r.hi < 2 ^ 32 :=
  RF.Lemmas.FormatDiff.scanLoop_all_accepted cfg lines none rs h

/-- While the current file does not pass the filter, a line that is not itself a file header is
a no-op; it is not even parsed, so it cannot panic. -/
theorem nonmatching_file_lines_ignored (cfg : Cfg) (file line : List Char)
    (hacc : cfg.accepts file = false) (hh : headerMatch cfg.skip line = none) :
    scanLine cfg (some file) line = .ok (some file, none) := by
  unfold scanLine
  simp only [hh, hacc, Bool.not_false, if_true]

/-- A filter that accepts no file yields no range for any input (and no panic). -/
theorem rejecting_filter_yields_nothing (cfg : Cfg) (hrej : ∀ f, cfg.accepts f = false)
    (lines : List (List Char)) : scanDiff cfg lines = .ok [] :=
  RF.Lemmas.FormatDiff.scanLoop_rejecting cfg hrej lines none

/-- The file set handed to rustfmt is exactly the set of files of the ranges, without
duplicates. -/
theorem files_are_range_files (rs : List FileRange) :
    (∀ f, f ∈ filesOf rs ↔ ∃ r ∈ rs, r.file = f) ∧ (filesOf rs).Nodup :=
  ⟨RF.Lemmas.FormatDiff.mem_filesOf rs, RF.Lemmas.FormatDiff.filesOf_nodup rs⟩

/-- An empty result runs nothing and the tool succeeds. -/
theorem empty_runs_nothing (lazy checked : Bool) (skip : Nat) (m : List Char → Bool)
    (lines : List (List Char)) (rustfmt : List (List Char) → List FileRange → Status)
    (h : scanDiff ⟨lazy, checked, skip, m⟩ lines = .ok []) :
    run lazy checked skip (some m) lines rustfmt = ⟨none, 0⟩ :=
  RF.Lemmas.FormatDiff.run_ok rustfmt h

/-- rustfmt is spawned exactly when the scan succeeded with at least one range, and then with
exactly the scanned files and ranges. -/
theorem spawned_iff (lazy checked : Bool) (skip : Nat) (m : List Char → Bool)
    (lines : List (List Char)) (rustfmt : List (List Char) → List FileRange → Status)
    (inv : List (List Char) × List FileRange) :
    (run lazy checked skip (some m) lines rustfmt).spawned = some inv ↔
      ∃ rs, scanDiff ⟨lazy, checked, skip, m⟩ lines = .ok rs ∧ rs ≠ [] ∧ inv = (filesOf rs, rs) := by
  cases hs : scanDiff ⟨lazy, checked, skip, m⟩ lines with
  | error e => simp [RF.Lemmas.FormatDiff.run_error rustfmt hs]
  | ok rs =>
    rw [RF.Lemmas.FormatDiff.run_ok rustfmt hs]
    by_cases h : rs = []
    · simp [h]
    · simp [h, eq_comm]

/-- A rustfmt that cannot be spawned or that exits unsuccessfully makes the tool exit with
status 1; it exits 0 exactly when the filter compiles, the scan does not panic, and either there
was nothing to do or rustfmt succeeded. -/
theorem failure_propagates (lazy checked : Bool) (skip : Nat) (filter : Option (List Char → Bool))
    (lines : List (List Char)) (rustfmt : List (List Char) → List FileRange → Status) :
    (run lazy checked skip filter lines rustfmt).exitCode = 0 ↔
      ∃ m rs, filter = some m ∧ scanDiff ⟨lazy, checked, skip, m⟩ lines = .ok rs ∧
        (rs = [] ∨ rustfmt (filesOf rs) rs = .exited true) := by
  cases filter with
  | none => simp [run]
  | some m =>
    simp only [Option.some.injEq, exists_and_left, exists_eq_left']
    cases hs : scanDiff ⟨lazy, checked, skip, m⟩ lines with
    | error e => simp [RF.Lemmas.FormatDiff.run_error rustfmt hs]
    | ok rs =>
      simp only [RF.Lemmas.FormatDiff.run_ok rustfmt hs, Except.ok.injEq, exists_eq_left']
      by_cases h : rs = []
      · simp [h]
      · simp [h]

/-- The same, in the direction the property names: a failing rustfmt gives a non-zero status. -/
theorem failing_rustfmt_fails (lazy checked : Bool) (skip : Nat) (m : List Char → Bool)
    (lines : List (List Char)) (rustfmt : List (List Char) → List FileRange → Status)
    (rs : List FileRange) (hs : scanDiff ⟨lazy, checked, skip, m⟩ lines = .ok rs) (hne : rs ≠ [])
    (hfail : rustfmt (filesOf rs) rs ≠ .exited true) :
    (run lazy checked skip (some m) lines rustfmt).exitCode ≠ 0 := by
  rw [RF.Lemmas.FormatDiff.run_ok rustfmt hs, if_neg hne, if_neg hfail]
  exact Nat.one_ne_zero

example : (run false true 1 (some fun _ => true) [L "+++ b/x.rs", L "@@ -1 +3,2 @@"]
    (fun _ _ => .exited false)) = ⟨some ([L "x.rs"], [⟨L "x.rs", 3, 4⟩]), 1⟩ := by
  simp (disch := rfl) only [L, RF.Lemmas.FormatDiff.toList_lit]
  decide +kernel

/-- `start + count - 1` is computed without overflow, and is the announced last line, when
`start + count < 2^32` — in both build profiles. -/
theorem no_u32_overflow_partial (checked : Bool) (s c : Nat) (hc : 1 ≤ c) (h : s + c < 2 ^ 32) :
    endLine checked s c = .ok (s + c - 1) ∧ s + c - 1 < 2 ^ 32 :=
  ⟨RF.Lemmas.FormatDiff.endLine_ok checked s c hc h, by omega⟩

example : (4294967294 : Nat) + 1 < 2 ^ 32 := by decide

/-- The hypothesis cannot be weakened to "the last line fits" for the profile with overflow
checks: `@@ -1 +4294967295 @@` announces the single line 2^32-1, and `start + count` panics
(main.rs:179) — while a release build computes the right range by wrapping twice. -/
theorem u32_overflow_counterexample :
    endLine true 4294967295 1 = .error .addOverflow ∧
    scanDiff ⟨false, true, 1, fun _ => true⟩ [L "+++ b/x.rs", L "@@ -1 +4294967295 @@"]
      = .error .addOverflow ∧
    scanDiff ⟨false, false, 1, fun _ => true⟩ [L "+++ b/x.rs", L "@@ -1 +4294967295 @@"]
      = .ok [⟨L "x.rs", 4294967295, 4294967295⟩] := by
  simp (disch := rfl) only [L, RF.Lemmas.FormatDiff.toList_lit]
  decide +kernel

/-- In a release build the end line is right whenever it fits. -/
theorem release_end_line (s c : Nat) (hc : 1 ≤ c) (hs : s < 2 ^ 32) (hcc : c < 2 ^ 32)
    (h : s + c - 1 < 2 ^ 32) : endLine false s c = .ok (s + c - 1) :=
  congrArg Except.ok (RF.Lemmas.FormatDiff.wrap_eq s c hc h)

/-- `\d` of the `regex` crate is Unicode `Nd`, `u32::from_str` is ASCII only: a hunk header with
an Arabic-Indic digit matches the pattern and then panics in `.parse::<u32>().unwrap()`; likewise
a start of 2^32 or more. -/
theorem parse_panic_counterexample :
    scanDiff ⟨false, true, 1, fun _ => true⟩ [L "+++ b/x.rs", L "@@ -1 +١ @@"]
      = .error .parseInt ∧
    scanDiff ⟨false, true, 1, fun _ => true⟩ [L "+++ b/x.rs", L "@@ -1 +4294967296 @@"]
      = .error .parseInt := by
  simp (disch := rfl) only [L, RF.Lemmas.FormatDiff.toList_lit]
  decide +kernel

/-- The header pattern agrees with the declarative reading "`+++`, one blank, the path token up
to the next blank, with `skip` leading `/`-terminated components removed" whenever the token has
that many components. -/
theorem header_eq_spec_partial (skip : Nat) (line f : List Char)
    (h : specHeader skip line = some f) : headerMatch skip line = some f :=
  RF.Lemmas.FormatDiff.headerMatch_of_spec skip line f h

example : specHeader 1 (L "+++ b/src/x.rs\t2024-01-02 10:00") = some (L "src/x.rs") := by
  simp (disch := rfl) only [L, RF.Lemmas.FormatDiff.toList_lit]
  decide +kernel

/-- When the token has too few components the line is not recognised as a header at all
(`(?:.*?/){N}` cannot be satisfied), so the hunks that follow are attributed to the PREVIOUS
file; and a `/` after a blank later on the line is counted too. -/
theorem header_too_few_components_counterexample :
    headerMatch 2 (L "+++ b/x.rs") = none ∧
    scanDiff ⟨false, true, 2, fun _ => true⟩
      [L "+++ b/d/y.rs", L "@@ -1 +1 @@", L "+++ b/x.rs", L "@@ -5 +5,2 @@"]
      = .ok [⟨L "y.rs", 1, 1⟩, ⟨L "y.rs", 5, 6⟩] ∧
    headerMatch 1 (L "+++ x.rs 2024/01/02") = some (L "01/02") := by
  simp (disch := rfl) only [L, RF.Lemmas.FormatDiff.toList_lit]
  decide +kernel

/-! ### The matchers against the reference (backtracking, leftmost-first) semantics -/

/-- For every `N` and every line, the hand-written header matcher returns what the backtracking
matcher returns on the abstract syntax of `^\+\+\+\s(?:.*?/){N}(\S*)`: same success, same
group 1. -/
theorem header_pattern_semantics (n : Nat) (line : List Char) :
    (headerRe n).captures line = (headerMatch n line).map (fun f => [(1, f)]) :=
  RF.Lemmas.FormatDiff.headerRe_eq n line

/-- For both variants and every line, the hand-written hunk matcher returns what the
backtracking matcher returns on `^@@.*\+(\d+)(,(\d+))?` / `^@@.*?\+(\d+)(,(\d+))?`: same
success, same groups 1 and 3. -/
theorem hunk_pattern_semantics (lazy : Bool) (line : List Char) :
    ((hunkRe lazy).captures line).map (fun c => (c.lookup 1, c.lookup 3)) =
      (hunkMatch lazy line).map (fun g => (some g.1, g.2)) := by
  rw [RF.Lemmas.FormatDiff.hunkRe_eq]
  cases hunkMatch lazy line with
  | none => rfl
  | some t =>
    obtain ⟨g1, g3⟩ := t
    cases g3 <;> rfl

example : (hunkRe false).captures (L "@@ -1,3 +1,4 @@ fn f() { x +7 }") = some [(1, ['7'])] := by
  rw [RF.Lemmas.FormatDiff.hunkRe_eq]
  simp (disch := rfl) only [L, RF.Lemmas.FormatDiff.toList_lit]
  decide +kernel
example : (headerRe 1).captures (L "+++ b/src/x.rs\t2024") = some [(1, L "src/x.rs")] := by
  rw [header_pattern_semantics]
  simp (disch := rfl) only [L, RF.Lemmas.FormatDiff.toList_lit]
  decide +kernel

end RF.Props.C19

import RF.Lemmas.MacroFmt
/-!
# C01 inside macro definitions and macro calls: the token-stream scanners of `macros.rs`

Theorems about `RF/Model/MacroFmt.lean` (tied to the code by `rfverif macros`, which runs the real
functions through `verif_hooks::macros` on the same inputs).  For ALL token streams / texts:

* `matcher_tokens_preserved`   the matcher formatter (`format_macro_args` with
  `format_macro_matchers`) either gives up — the definition is then left as written — or returns a
  text that consists of exactly the tokens of the matcher, in order, and white space.
* `replaceNames_roundtrip_partial` / `_counterexample`   substituting `$name` → `zname` and undoing it
  by textual replacement gives back the text up to white space behind a `$`, in every order of the
  `HashMap`, PROVIDED `z ++ name` occurs in the substituted text only where a metavariable was
  renamed.  The guard of the code (`old_body.contains(new)`) is weaker: the counterexample shows a
  body on which the result depends on the iteration order (known finding MAC-UNDO-ORDER).
* `branches_partition`   `MacroParser::parse` cuts the body of a definition into branches whose
  trees, put end to end, are the body.
* `delimiter_rule_exact`   a macro call is emitted with its own delimiter, except `vec!` outside
  another macro call, which gets brackets.
* `trailing_separator_preserved_in_macro_calls`   the list writer is told `Always` / `Never`
  according to the trailing comma found in the source, except for `vec!` outside another macro call
  under block indent (`Vertical`); and `parse_macro_args` finds the trailing comma exactly when the
  argument stream ends with one.
-/
namespace RF.MacroFmt
open RF.Shape

/-! ## 1. Matchers -/

/-- **C01 for macro matchers.**  For every configuration, shape and token stream of real tokens:
if the matcher formatter returns a text, erasing the white space from it leaves exactly the tokens
of the matcher, in order (`none` / `Err` = the definition is left as written). -/
theorem matcher_tokens_preserved (config : Config) (shape : Shape) (ts : List TT)
    (hok : okList ts = true) :
    match formatMatcher config shape ts with
    | some (.ok ps) => toks ps = flatList ts
    | _ => True := by
  unfold formatMatcher
  cases hp : parseMatcher ts with
  | none => trivial
  | some args =>
    simp only
    cases hw : wrapMacroArgs config shape args with
    | error e => trivial
    | ok ps =>
      simp only
      rw [wrapMacroArgs_toks hw, parse_toks hok hp]

/-- **Nothing but white space is added.**  The pieces of the returned text that are not tokens of
the matcher consist of blanks, line feeds and tabs only (so "erasing the white space" in
`matcher_tokens_preserved` erases nothing else). -/
theorem matcher_adds_only_whitespace (config : Config) (shape : Shape) (ts : List TT) :
    match formatMatcher config shape ts with
    | some (.ok ps) => ∀ cs, Piece.ws cs ∈ ps → ∀ c ∈ cs, c = ' ' ∨ c = '\n' ∨ c = '\t'
    | _ => True := by
  unfold formatMatcher
  cases hp : parseMatcher ts with
  | none => trivial
  | some args =>
    simp only
    cases hw : wrapMacroArgs config shape args with
    | error e => trivial
    | ok ps =>
      simp only
      exact wrapMacroArgs_ws (parse_ws hp) hw

/-- The text is the pieces one after the other: tokens as `pprust` prints them, and white space. -/
theorem render_is_concatenation (ps qs : List Piece) : render (ps ++ qs) = render ps ++ render qs :=
  render_append ps qs

/-- The parser alone: the parsed arguments stand for exactly the tokens of the stream. -/
theorem parser_tokens_preserved (ts : List TT) (args : List Arg) (hok : okList ts = true)
    (h : parseMatcher ts = some args) : argsToks args = flatList ts := parse_toks hok h

/-- The rewrite alone, for ANY argument list (parser-built or not), in both layouts. -/
theorem rewrite_tokens_preserved (config : Config) (shape : Shape) (args : List Arg)
    (ps : List Piece) (h : wrapMacroArgs config shape args = .ok ps) : toks ps = argsToks args :=
  wrapMacroArgs_toks h

private def tk (k : Kind) (s : String) : TT := .tok ⟨k, s.toList⟩
/-- `($($k:expr => $v:expr),+ $(,)?)` -/
private def exMatcher : List TT :=
  [.delim .paren
    [tk .Dollar "$", .delim .paren [tk .Dollar "$", tk .Ident "k", tk .Colon ":", tk .Ident "expr",
        tk .FatArrow "=>", tk .Dollar "$", tk .Ident "v", tk .Colon ":", tk .Ident "expr"],
      tk .Comma ",", tk .Plus "+", tk .Dollar "$", .delim .paren [tk .Comma ","], tk .Question "?"]]

/-- Non-vacuity: a real matcher is formatted, on one line at width 95 … -/
example : (formatMatcher ⟨false, 4, 100, 80⟩ ⟨95, ⟨0, 0⟩, 0⟩ exMatcher).map
    (fun r => match r with | .ok ps => render ps | _ => []) =
    some "($($k:expr => $v:expr),+ $(,)?)".toList := by
  -- The kernel decodes a string literal at a price quadratic in its length; `String.toList_ofList`
  -- turns each `"…".toList` into the list of its characters by a theorem instead.
  repeat rw [String.toList_ofList]
  decide +kernel
/-- … and over several lines at width 10, and the hypothesis of the theorem holds for it. -/
example : (formatMatcher ⟨false, 4, 100, 80⟩ ⟨10, ⟨8, 0⟩, 0⟩ exMatcher).map
    (fun r => match r with | .ok ps => render ps | _ => []) =
    some "(\n            $($k:expr => $v:expr),+ $(,)?\n        )".toList := by
  repeat rw [String.toList_ofList]
  decide +kernel
example : okList exMatcher = true := by decide +kernel
/-- What the parser refuses since the repairs (each used to lose, add or merge a token):
`$crate`, `$$`, a repetition without operator, a separator of two tokens, `/` in front of `*`,
a raw fragment specifier, a doc comment. -/
example : parseMatcher [tk .Dollar "$", tk .Ident "crate"] = none := by decide +kernel
example : parseMatcher [tk .Dollar "$", tk .Dollar "$", tk .Ident "a"] = none := by decide +kernel
example : parseMatcher [tk .Dollar "$", .delim .paren [tk .Ident "a"]] = none := by decide +kernel
example : parseMatcher [tk .Dollar "$", .delim .paren [], tk .Ident "a", tk .Ident "b", tk .Star "*"] = none := by
  decide +kernel
example : parseMatcher [tk .Dollar "$", .delim .paren [], tk .Slash "/", tk .Star "*"] = none := by decide +kernel
example : parseMatcher [tk .Dollar "$", tk .Ident "a", tk .Colon ":", tk .IdentRaw "r#expr"] = none := by decide +kernel
example : parseMatcher [tk .DocCommentLine "/// d", tk .Ident "a"] = none := by decide +kernel

/-! ## 2. `replace_names` and its undoing -/

/-- `replace_names` copies every character except white space between a `$` and its name: the
text it returns, read with `$` for each renamed metavariable, is the input up to white space. -/
theorem replaceNames_only_drops_whitespace (input r : List Char) (substs : List Subst)
    (h : replaceNames input = some (r, substs)) :
    r = flatZ (segsOf input) ∧
    (flatS (segsOf input)).filter (fun c => !RF.Comment.isWs c) = input.filter (fun c => !RF.Comment.isWs c) := by
  obtain ⟨h1, h2, _, _⟩ := replaceNames_segs h
  exact ⟨h1, h2.symm⟩

/-- **Substitute, then substitute back.**  If `z ++ name` occurs in the substituted text only
where a metavariable was renamed (`noSpurious`), then the undoing loop of `MacroBranch::rewrite`,
run on the substituted text in ANY order that visits every entry of the map, returns the input with
each metavariable as `$name` — the input up to white space behind a `$`. -/
theorem replaceNames_roundtrip_partial (input r out : List Char) (substs order : List Subst)
    (h : replaceNames input = some (r, substs)) (hsafe : noSpurious input = true)
    (hall : ∀ e, e ∈ order ↔ e ∈ substs) (hu : undo input order r = some out) :
    out = flatS (segsOf input) ∧
    out.filter (fun c => !RF.Comment.isWs c) = input.filter (fun c => !RF.Comment.isWs c) := by
  obtain ⟨h1, h2, h3, h4⟩ := replaceNames_segs h
  unfold noSpurious at hsafe
  simp only [Bool.and_eq_true, List.all_eq_true] at hsafe
  obtain ⟨hs, hv⟩ := hsafe
  have hord : ∀ e ∈ order, e.dollars = 1 ∧ '$' ∉ e.name ∧ safeFor e.name (segsOf input) = true := by
    intro e he
    have hes := (hall e).mp he
    obtain ⟨hd, hseg⟩ := h4 e hes
    exact ⟨singles_mem hs hseg, hd, hv _ (mem_varNames hseg)⟩
  rw [h1] at hu
  have hout := undo_fold input (segsOf input) hs order (fun _ => false) out hord hu
  have hfin : out = flatS (segsOf input) := by
    rw [hout]
    apply flatD_congr
    intro k m hm
    have hk := singles_mem hs hm
    subst hk
    have : (⟨1, m⟩ : Subst) ∈ order := (hall _).mpr (h3 1 m hm)
    simp only [Bool.false_or, List.any_eq_true]
    exact ⟨⟨1, m⟩, this, isPrefix_self m⟩
  exact ⟨hfin, by rw [hfin]; exact h2.symm⟩

/-- Non-vacuity: two metavariables, one a prefix of the other, an identifier that starts with `z`;
the hypothesis holds and both orders of the map give the input back. -/
example : noSpurious "f($x, $xs, zeta + $x)".toList = true := by
  repeat rw [String.toList_ofList]
  decide +kernel
example : roundtrip "f($x, $xs, zeta + $x)".toList [0, 1] = some "f($x, $xs, zeta + $x)".toList := by
  repeat rw [String.toList_ofList]
  decide +kernel
example : roundtrip "f($x, $xs, zeta + $x)".toList [1, 0] = some "f($x, $xs, zeta + $x)".toList := by
  repeat rw [String.toList_ofList]
  decide +kernel
/-- White space behind the `$` is the only thing that goes. -/
example : roundtrip "$ a + $  $ b".toList [0, 1] = some "$a + $$b".toList := by
  repeat rw [String.toList_ofList]
  decide +kernel

/-- **The guard of the code is not enough.**  `zb` written directly in front of `$ab`, next to a
second metavariable `$bza`: the substituted text `zbzab …` holds `z ++ "bza"` where nothing was
renamed.  The guard `old_body.contains(new)` passes (the body contains neither `zab` nor `zbza`),
and the result depends on the order in which the `HashMap` is walked: one order returns the body,
the other turns the identifier `zb` into the metavariable `$b`. -/
theorem replaceNames_roundtrip_counterexample :
    roundtrip "zb$ab $bza".toList [0, 1] = some "zb$ab $bza".toList ∧
    roundtrip "zb$ab $bza".toList [1, 0] = some "$b$ab $bza".toList ∧
    noSpurious "zb$ab $bza".toList = false := by
  repeat rw [String.toList_ofList]
  decide +kernel

/-- What `replace_names` refuses since the repair (each used to drop, merge or move tokens). -/
example : replaceNames "$a$b".toList = none := by decide +kernel
example : replaceNames "$ + b".toList = none := by decide +kernel
example : replaceNames "$a; $".toList = none := by decide +kernel
example : replaceNames "$ \"s\" a".toList = none := by decide +kernel
example : replaceNames "$(x)*".toList = none := by decide +kernel
/-- A name that already starts with `z`, a collision the guard sees (`bail`), `$crate`, `$x:ty`. -/
example : roundtrip "$zed + $z".toList [0, 1] = some "$zed + $z".toList := by
  repeat rw [String.toList_ofList]
  decide +kernel
example : roundtrip "let zfoo = $foo;".toList [0] = none := by
  repeat rw [String.toList_ofList]
  decide +kernel
example : roundtrip "$crate::f($x:ty)".toList [1, 0] = some "$crate::f($x:ty)".toList := by
  repeat rw [String.toList_ofList]
  decide +kernel

/-! ## 3. Branches -/

/-- One branch: the trees taken are the branch, the rest is shorter, the arrow is `=>`, the
separator a `;`. -/
theorem parseBranch_spec (ts rest : List TT) (b : Branch) (h : parseBranch ts = some (b, rest)) :
    ts = b.trees ++ rest ∧ rest.length < ts.length ∧ b.arrow.kind = .FatArrow ∧
    (∀ s, b.semi = some s → s.kind = .Semi) := by
  unfold parseBranch at h
  split at h
  · rename_i d args arrow bd body tl
    split at h
    · rename_i ha
      have ha' : arrow.kind = .FatArrow := by simpa using ha
      split at h
      · split at h
        · rename_i hs
          cases h
          exact ⟨rfl, by simp only [List.length_cons]; omega, ha', fun s hs' => by cases hs'; simpa using hs⟩
        · cases h
          exact ⟨rfl, by simp only [List.length_cons]; omega, ha', fun _ hs => by cases hs⟩
      · cases h
        exact ⟨rfl, by simp only [List.length_cons]; omega, ha', fun _ hs => by cases hs⟩
    · cases h
  · cases h

theorem parseBranchesGo_partition : ∀ (fuel : Nat) (ts : List TT) (bs : List Branch),
    parseBranchesGo fuel ts = some bs → bs.flatMap Branch.trees = ts := by
  intro fuel ts
  fun_induction parseBranchesGo fuel ts with
  | case1 =>
    intro bs h
    cases h
    rfl
  | case2 =>
    intro bs h
    cases h
  | case3 fuel t ts hb =>
    intro bs h
    cases h
  | case4 fuel t ts b rest hb ih =>
    intro bs h
    obtain ⟨bs', hr, rfl⟩ := Option.map_eq_some_iff.1 h
    rw [List.flatMap_cons, ih bs' hr, (parseBranch_spec _ _ _ hb).1]

/-- **Splitting and re-joining keeps every token.**  The branches `MacroParser::parse` returns,
each as `(matcher) => {body}` with its optional `;`, put end to end, are the trees of the body. -/
theorem branches_partition (ts : List TT) (bs : List Branch) (h : parseBranches ts = some bs) :
    bs.flatMap Branch.trees = ts := parseBranchesGo_partition _ ts bs h

/-- Each branch is `delimited => delimited` and the separator, where present, is a `;`. -/
theorem branches_shape : ∀ (fuel : Nat) (ts : List TT) (bs : List Branch),
    parseBranchesGo fuel ts = some bs →
    ∀ b ∈ bs, b.arrow.kind = .FatArrow ∧ (∀ s, b.semi = some s → s.kind = .Semi) := by
  intro fuel ts
  fun_induction parseBranchesGo fuel ts with
  | case1 =>
    intro bs h
    cases h
    exact fun _ hb => by cases hb
  | case2 =>
    intro bs h
    cases h
  | case3 fuel t ts hb =>
    intro bs h
    cases h
  | case4 fuel t ts b rest hb ih =>
    intro bs h x hx
    obtain ⟨bs', hr, rfl⟩ := Option.map_eq_some_iff.1 h
    rcases List.mem_cons.1 hx with rfl | hx
    · exact (parseBranch_spec _ _ _ hb).2.2
    · exact ih bs' hr x hx

/-- Fuel: more fuel never changes an answer … -/
theorem parseBranchesGo_fuel : ∀ (fuel : Nat) (ts : List TT) (bs : List Branch),
    parseBranchesGo fuel ts = some bs → ∀ k, parseBranchesGo (fuel + k) ts = some bs := by
  intro fuel ts
  fun_induction parseBranchesGo fuel ts with
  | case1 =>
    intro bs h k
    rw [parseBranchesGo]
    exact h
  | case2 =>
    intro bs h
    cases h
  | case3 fuel t ts hb =>
    intro bs h
    cases h
  | case4 fuel t ts b rest hb ih =>
    intro bs h k
    obtain ⟨bs', hr, rfl⟩ := Option.map_eq_some_iff.1 h
    rw [Nat.succ_add, parseBranchesGo, hb]
    simp only [ih bs' hr k, Option.map_some]

/-- … and the number of trees is enough: with that much fuel the loop never stops for lack of it
(it answers `none` only where `parse_branch` does). -/
theorem parseBranchesGo_enough : ∀ (fuel : Nat) (ts : List TT), ts.length ≤ fuel →
    parseBranchesGo fuel ts = none → ∃ pre rest, ts = pre ++ rest ∧ rest ≠ [] ∧ parseBranch rest = none := by
  intro fuel ts
  fun_induction parseBranchesGo fuel ts with
  | case1 =>
    intro _ h
    cases h
  | case2 =>
    intro hl
    cases hl
  | case3 fuel t ts hb =>
    intro _ _
    exact ⟨[], t :: ts, rfl, List.cons_ne_nil _ _, hb⟩
  | case4 fuel t ts b rest hb ih =>
    intro hl h
    obtain ⟨h1, h2, -⟩ := parseBranch_spec _ _ _ hb
    obtain ⟨pre, r, e1, e2, e3⟩ := ih (by simp only [List.length_cons] at hl h2; omega) (Option.map_eq_none_iff.1 h)
    exact ⟨b.trees ++ pre, r, by rw [h1, e1, List.append_assoc], e2, e3⟩

private def exBody : List TT :=
  [.delim .paren [tk .Ident "a"], tk .FatArrow "=>", .delim .brace [tk .Ident "b"], tk .Semi ";",
   .delim .bracket [], tk .FatArrow "=>", .delim .paren []]
/-- Non-vacuity: two branches, the `;` behind the last one missing. -/
example : (parseBranches exBody).map (·.length) = some 2 := by decide
example : (parseBranches exBody).map (·.flatMap Branch.trees |>.length) = some 7 := by decide +kernel
/-- A `,` between branches (declarative macros 2.0) is not understood: the definition is left as written. -/
example : (parseBranches [.delim .paren [], tk .FatArrow "=>", .delim .brace [], tk .Comma ","]).isNone = true := by
  decide +kernel

/-! ## 4. Macro calls: delimiter, `;`, trailing separator -/

/-- **Which delimiter is emitted.**  A call keeps its delimiter (or its whole text, when the
arguments do not parse); only `vec!` — by that exact name — outside another macro call changes, and
then to brackets. -/
theorem delimiter_rule_exact (macroName : List Char) (nested : Bool) (original : Delim)
    (position : Position) (tsEmpty hasComment block : Bool) (parsed : Option ParsedArgs) :
    ((callPlan macroName nested original position tsEmpty hasComment block parsed).delim = none ∨
      (callPlan macroName nested original position tsEmpty hasComment block parsed).delim =
        some (chosenStyle macroName nested original)) ∧
    (chosenStyle macroName nested original =
      if macroName = "vec!".toList ∧ nested = false then .bracket else original) := by
  constructor
  · rw [callPlan_delim]
    split
    · exact Or.inr rfl
    · exact Or.inl rfl
  · simp only [chosenStyle, isForcedBracket, Bool.and_eq_true, beq_iff_eq, Bool.not_eq_true']

/-- The delimiter changes only for `vec!` outside a macro call, and then to brackets. -/
theorem delimiter_changes_only_for_vec (macroName : List Char) (nested : Bool) (original : Delim)
    (position : Position) (tsEmpty hasComment block : Bool) (parsed : Option ParsedArgs) (d : Delim)
    (h : (callPlan macroName nested original position tsEmpty hasComment block parsed).delim = some d)
    (hd : d ≠ original) : macroName = "vec!".toList ∧ nested = false ∧ d = .bracket := by
  have ⟨h1, h2⟩ := delimiter_rule_exact macroName nested original position tsEmpty hasComment block parsed
  rcases h1 with h1 | h1
  · rw [h1] at h; cases h
  · rw [h1] at h
    injection h with h
    rw [h2] at h
    split at h
    · rename_i hc
      exact ⟨hc.1, hc.2, h.symm⟩
    · exact absurd h.symm hd

example : (callPlan "vec!".toList false .paren .expression false false true (some ⟨false, false, [false, false]⟩)).delim
    = some .bracket := by decide +kernel
example : (callPlan "vec!".toList true .paren .expression false false true (some ⟨false, false, [false, false]⟩)).delim
    = some .paren := by decide +kernel
example : (callPlan "my::vec!".toList false .brace .item false false true (some {})).delim = some .brace := by
  repeat rw [String.toList_ofList]
  decide +kernel
example : macroStyle "foo! /* ( */ [a(b)]".toList = .bracket := by
  repeat rw [String.toList_ofList]
  decide +kernel

/-- In item position (module level, `impl` / `trait` bodies, `extern` blocks) a call written with
`()` or `[]` keeps its `;`: `handle_vec_semi` and the block-like fallback do not add it, the caller
does (for `extern` blocks only since the repair). -/
theorem item_call_keeps_semicolon (original : Delim) (rw : List Char) (h : original ≠ .brace) :
    (finishItemCall original rw).getLast? = some ';' := by
  unfold finishItemCall
  cases original with
  | brace => exact absurd rfl h
  | paren =>
    simp only
    split
    · rename_i hl; simpa using hl
    · simp
  | bracket =>
    simp only
    split
    · rename_i hl; simpa using hl
    · simp

/-- **Trailing separators of macro calls are kept.**  Whenever a list is written, the tactic is
`Always` when the call ended with a comma and `Never` when it did not; the one exception is `vec!`
outside another macro call under block indent, which is written like an array literal (`Vertical`). -/
theorem trailing_separator_preserved_in_macro_calls (macroName : List Char) (nested : Bool)
    (original : Delim) (position : Position) (tsEmpty hasComment block : Bool) (p : ParsedArgs)
    (t : Tactic)
    (h : (callPlan macroName nested original position tsEmpty hasComment block (some p)).tactic = some t) :
    if isForcedBracket macroName && !nested && block then t = .vertical
    else t = (if p.trailingComma then .always else .never) := by
  unfold callPlan chosenStyle at h
  cases hf : (isForcedBracket macroName && !nested)
  · simp only [hf, Bool.false_and, Bool.false_eq_true, ite_false] at h ⊢
    cases original <;> simp only [apply_ite Plan.tactic] at h <;>
      simp only [Plan.tactic, Option.ite_none_left_eq_some, Option.some.injEq, reduceCtorEq, and_false] at h
    · exact h.2.2.2.symm
    · exact h.2.2.2.symm
  · simp only [hf, Bool.true_and, ite_true, apply_ite Plan.tactic] at h ⊢
    simp only [Plan.tactic, Option.ite_none_left_eq_some, Option.some.injEq] at h
    rw [← h.2.2.2]
    cases block <;> rfl

/-- The arguments of an element stream (`is_item` of each), in order. -/
def elemArgs : List Elem → List Bool
  | [] => []
  | .arg it :: rest => it :: elemArgs rest
  | _ :: rest => elemArgs rest

/-- Fuel-free reading of `parse_macro_args`: the flag is set exactly when the stream ends with a
comma, and then the other flag is not; every argument of the stream is in `args`, in order. -/
theorem parseArgsGo_spec (forced : Bool) : ∀ (fuel : Nat) (acc : List Bool) (es : List Elem) (p : ParsedArgs),
    parseArgsGo forced fuel acc es = some p →
    p.args = acc ++ elemArgs es ∧ (p.trailingComma = true ↔ es.getLast? = some .comma) ∧
    (p.trailingComma = true → p.vecWithSemi = false) := by
  intro fuel acc es
  fun_induction parseArgsGo forced fuel acc es with
  | case2 fuel acc it args =>
    intro p h
    cases h
    simp [elemArgs, args]
  | case3 fuel acc it args rest he =>
    intro p h
    cases h
    cases List.isEmpty_iff.1 he
    simp [elemArgs, args]
  | case4 fuel acc it args rest he ih =>
    intro p h
    obtain ⟨h1, h2, h3⟩ := ih p h
    cases rest with
    | nil => simp at he
    | cons x xs => exact ⟨by simp [h1, elemArgs, args], by rw [h2]; simp [List.getLast?_cons_cons], h3⟩
  | case5 fuel acc it args _ it2 =>
    intro p h
    cases h
    simp [elemArgs, args]
  | case9 fuel acc e rest _ _ args ih =>
    intro p h
    obtain ⟨h1, h2, h3⟩ := ih p h
    exact ⟨by simp [h1, elemArgs, args], by rw [h2, List.getLast?_cons_cons], h3⟩
  | _ =>
    intro p h
    cases h

/-- **`parse_macro_args` sees the trailing comma exactly, and drops no argument.** -/
theorem parseMacroArgs_trailing_comma_exact (style : Delim) (forced : Bool) (es : List Elem)
    (p : ParsedArgs) (hs : style ≠ .brace) (h : parseMacroArgs style forced es = some p) :
    p.args = elemArgs es ∧ (p.trailingComma = true ↔ es.getLast? = some .comma) ∧
    (p.trailingComma = true → p.vecWithSemi = false) := by
  unfold parseMacroArgs at h
  have : (style == Delim.brace) = false := by simpa using hs
  simp only [this, Bool.false_eq_true, ite_false] at h
  simpa using parseArgsGo_spec forced _ [] es p h

example : parseMacroArgs .paren false [.arg false, .comma, .arg false, .comma] = some ⟨false, true, [false, false]⟩ := by
  decide
example : parseMacroArgs .bracket true [.arg false, .semi, .arg false] = some ⟨true, false, [false, false]⟩ := by decide
/-- `vec![a; b c]`: the token behind the second argument is looked at (it used to be skipped). -/
example : parseMacroArgs .bracket true [.arg false, .semi, .arg false, .other] = none := by decide
example : (callPlan "foo!".toList false .paren .statement false false true (some ⟨false, true, [false]⟩)).tactic
    = some .always := by decide +kernel
example : (callPlan "vec!".toList false .paren .statement false false true (some ⟨false, false, [false]⟩)).tactic
    = some .vertical := by decide +kernel

end RF.MacroFmt
